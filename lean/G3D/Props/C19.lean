import G3D.Proofs.Tol
import G3D.Extracted.Sites
import G3D.Extracted.Consts
import G3D.Proofs.TolUnique
import G3D.Proofs.RoundStable
/-! # C19 — tolerance is uniform and follows set_eps / set_sig_figures  (partial only at float rounding and the hash digits of composites)
    `Tol.Cfg` is the state of utils/constant.py (`FLOAT_EPS`, `SIG_FIGURES`), `Tol.step` its four entry points.
    Proved here: the two globals stay consistent after ANY sequence of setter calls, restoring eps restores the state,
    the coordinate comparison of Point/Vector accepts differences ≤ eps/1000 and rejects differences > 4·eps, and —
    over the table of tolerance reads extracted from the CURRENT source — every read in the package is a live getter
    call at query time (none is a value frozen at import time, none is a hard-coded literal).
    The consequences for Line / Plane / Segment / HalfLine / ConvexPolygon (compare / contain / intersect as coincident under
    eps/1000 perturbations) are proved in the tolerance-aware real model `Model/TolGeo.lean`, `Proofs/TolGeo*.lean`, which
    `Proofs/TolGeoTie.lean` ties to the comparisons extracted from the source (registered under C19 in theorems.json). -/
namespace G3D.Props.C19
open G3D.Tol G3D.Extracted

/-- after any sequence of `set_eps` / `set_sig_figures` calls (with or without argument):
    `get_sig_figures() = round(-log10(get_eps()))` -/
theorem config_invariant (ops : List Op) (c : Cfg) (hc : Inv c) (hok : ∀ op ∈ ops, op.ok) (c' : Cfg)
    (h : run c ops = some c') : Inv c' := run_inv ops c hc c' h

/-- the defaults (1e-10, 10) satisfy it, and calling a setter without argument returns to them -/
theorem defaults : Inv init ∧ init.eps = 1 / pow10 10 ∧ init.sig = 10 ∧
    step init .setSigDefault = some init := by
  refine ⟨init_inv, rfl, rfl, ?_⟩
  simp [step, setSig, init, pow10neg]

/-- the defaults of the CURRENT source (extracted): SIG_FIGURES = 10, FLOAT_EPS = 1/(10**SIG_FIGURES), and the default
    arguments of both setters are the model's initial configuration -/
theorem defaults_extracted : sigFiguresInit = init.sig ∧ floatEpsInitSrc = "1/(10**SIG_FIGURES)" ∧
    setEpsDefault = init.eps ∧ setSigDefault = init.sig := by
  refine ⟨by decide, by decide, ?_, by decide⟩
  simp only [setEpsDefault, init, pow10]; norm_num

/-- power-of-ten settings: `set_sig_figures(n)` gives `eps = 10^(-n)` -/
theorem power_of_ten (c : Cfg) (n : Nat) : (setSig c n).eps = 1 / pow10 n ∧ (setSig c n).sig = n ∧ Inv (setSig c n) := by
  refine ⟨by simp [setSig, pow10neg], rfl, setSig_inv c n⟩

/-- restoring the previous eps restores the previous configuration -/
theorem restore_previous (c : Cfg) (hc : Inv c) (e : Rat) (c1 c2 : Cfg) (h1 : setEps c e = some c1)
    (h2 : setEps c1 c.eps = some c2) : c2.eps = c.eps ∧ Inv c2 :=
  ⟨restore c hc e c1 c2 h1 h2, setEps_inv c1 c.eps c2 h2⟩

/-- coordinates differing by at most eps/1000 compare equal; by more than 4·eps, unequal -/
theorem coordinate_tolerance (c : Cfg) (hpos : 0 < c.eps) (a b : Rat) :
    (absR (a - b) ≤ c.eps / 1000 → coordEq c a b = true) ∧ (4 * c.eps < absR (a - b) → coordEq c a b = false) :=
  ⟨coordEq_within c hpos a b, coordEq_beyond c hpos a b⟩

/-- **every comparison uses the current values**: each of the tolerance reads found in the package is a getter call
    evaluated at query time -/
theorem all_sites_live : ∀ s ∈ tolSites, s.live = true := by decide +kernel
/-- there is at least one read in each of the modules the property names -/
theorem sites_cover_modules : ∀ f ∈ ["Geometry3D/geometry/point.py", "Geometry3D/utils/vector.py", "Geometry3D/geometry/line.py",
      "Geometry3D/geometry/plane.py", "Geometry3D/geometry/polygon.py", "Geometry3D/geometry/polyhedron.py",
      "Geometry3D/utils/solver.py"], ∃ s ∈ tolSites, s.file = f := by decide +kernel
/-- no hard-coded small tolerance literal in any comparison -/
theorem no_literal_tolerances : literalTolerances = [] := by decide +kernel
/-- both setters assign BOTH globals (so they cannot drift apart) -/
theorem setters_write_both : configWriters = [("set_eps", ["FLOAT_EPS", "SIG_FIGURES"]), ("set_sig_figures", ["FLOAT_EPS", "SIG_FIGURES"])] := by decide +kernel
/-- restoring the previous eps restores the previous configuration EXACTLY (the significant-figure count is determined
    by eps) -/
theorem restore_previous_exact (c : Cfg) (hc : Inv c) (e : Rat) (c1 c2 : Cfg) (h1 : setEps c e = some c1)
    (h2 : setEps c1 c.eps = some c2) : c2 = c := restore_full c hc e c1 c2 h1 h2

/-- the count is unique: two configurations with the same eps that satisfy the invariant are equal -/
theorem sig_determined_by_eps (c c' : Cfg) (hc : Inv c) (hc' : Inv c') (he : c.eps = c'.eps) : c = c' :=
  Inv_sig_determined c c' hc hc' he

/-- **hash stability**: `round(x, k)` (round-half-even on x·10^k) is unchanged by a perturbation of at most eps/1000 =
    10^(-k)/1000 whenever x is at least 7% of a rounding step away from a rounding boundary — the reason why objects whose
    defining coordinates differ by eps/1000 hash equal on the property's catalogue -/
theorem rounding_stable (k : Nat) (x y : Rat)
    (hm : 7/100 ≤ |x * (10:Rat)^k - ((x * (10:Rat)^k).floor : Rat) - 1/2|)
    (hxy : |y - x| ≤ (1 / (10:Rat)^k) / 1000) : G3D.Round.roundDec k y = G3D.Round.roundDec k x :=
  G3D.Round.round_stable_eps1000 k x y hm hxy

/-- the four entry points of utils/constant.py are, statement by statement, what the state machine `Tol.step` models:
    `set_eps` stores eps and sets SIG_FIGURES = round(log10(1/eps)) (`Tol.setEps` via `sigOf`), `set_sig_figures` stores the count
    and sets FLOAT_EPS = 1/10**SIG_FIGURES (`Tol.setSig`), the getters return the globals; `log10` is math.log10 -/
theorem config_functions_as_modelled :
    body_set_eps = ["global FLOAT_EPS, SIG_FIGURES", "FLOAT_EPS = eps", "SIG_FIGURES = round(log10(1 / eps))"] ∧
    params_set_eps = ["eps"] ∧
    body_set_sig_figures = ["global FLOAT_EPS, SIG_FIGURES", "SIG_FIGURES = sig_figures", "FLOAT_EPS = 1 / 10 ** SIG_FIGURES"] ∧
    params_set_sig_figures = ["sig_figures"] ∧
    body_get_eps = ["global FLOAT_EPS", "return FLOAT_EPS"] ∧ body_get_sig_figures = ["global SIG_FIGURES", "return SIG_FIGURES"] ∧
    constantImports = ["from math import pi, log10"] := by decide +kernel
end G3D.Props.C19
