import G3D.Proofs.Distance
import G3D.Proofs.Collinear
import G3D.Extracted.Dispdist
/-! # C10 — distance is the exact Euclidean distance, symmetric and total on the documented pairs
    `distSqGeo` is the square of what `distance` returns (through the same auxiliary plane / line
    constructions as the code); `IsMinDistSq d2 A B` says that `d2` is attained and is a lower bound of
    the squared distance between points of `A` and of `B`. -/
namespace G3D.Props.C10
open G3D V3 G3D.Dispatch G3D.Extracted

/-- the documented pairs, in either order -/
def documented : Geo → Geo → Bool
  | .point _, .point _ | .point _, .line _ | .line _, .point _ | .line _, .line _
  | .point _, .plane _ | .plane _, .point _ | .line _, .plane _ | .plane _, .line _ => true
  | _, _ => false

/-- **C10**: on every documented pair (all rational operands, including parallel / intersecting / skew lines
    and a line parallel to, inside or crossing a plane) `distance` returns, without raising, the minimum
    Euclidean distance between the two point sets. -/
theorem distance_is_minimum (a b : Geo) (ha : a.WF) (hb : b.WF) (hd : documented a b = true) :
    ∃ d2, distSqGeo a b = some (.ok d2) ∧ IsMinDistSq d2 a.den b.den := by
  cases a <;> cases b <;> simp only [documented, Bool.false_eq_true] at hd <;> simp only [Geo.WF] at ha hb <;>
    simp only [distSqGeo, Geo.den, Option.some.injEq]
  · exact ⟨_, rfl, fun x y hx hy => by rw [hx, hy]; exact le_refl _, _, _, rfl, rfl, rfl⟩
  · exact distSqPointLine_spec _ _ hb
  · exact distSqPointPlane_spec _ _ hb
  · obtain ⟨d2, h1, h2⟩ := distSqPointLine_spec _ _ ha; exact ⟨d2, h1, h2.symm⟩
  · exact distSqLineLine_spec _ _ ha hb
  · exact distSqLinePlane_spec _ _ ha hb
  · obtain ⟨d2, h1, h2⟩ := distSqPointPlane_spec _ _ ha; exact ⟨d2, h1, h2.symm⟩
  · obtain ⟨d2, h1, h2⟩ := distSqLinePlane_spec _ _ hb ha; exact ⟨d2, h1, h2.symm⟩

/-- symmetric in its arguments -/
theorem distance_symm (a b : Geo) (ha : a.WF) (hb : b.WF) (hd : documented a b = true) :
    distSqGeo a b = distSqGeo b a := by
  obtain ⟨d, h1, m1⟩ := distance_is_minimum a b ha hb hd
  have hd' : documented b a = true := by cases a <;> cases b <;> simp_all [documented]
  obtain ⟨d', h2, m2⟩ := distance_is_minimum b a hb ha hd'
  rw [h1, h2, m1.eq_of_both m2.symm]

/-- non-negative, and zero exactly when the two sets have a common point, i.e. exactly when
    `intersection(a, b)` is not `None` (by C01) -/
theorem distance_zero_iff_meet (a b : Geo) (ha : a.WF) (hb : b.WF) (hd : documented a b = true) :
    ∃ d2, distSqGeo a b = some (.ok d2) ∧ 0 ≤ d2 ∧ (d2 = 0 ↔ interFlat a b ≠ .ok none) := by
  obtain ⟨d2, h1, hm⟩ := distance_is_minimum a b ha hb hd
  refine ⟨d2, h1, hm.nonneg, ?_⟩
  rw [hm.zero_iff]
  obtain ⟨o, ho, _, hden⟩ := interFlat_exact a b ha hb
  rw [ho]
  constructor
  · rintro ⟨x, hx⟩ h
    cases o with
    | none => exact (hden x).mpr hx
    | some g => cases h
  · intro hne
    cases o with
    | none => exact absurd rfl hne
    | some g =>
      have hw := ‹∀ g', some g = some g' → g'.WF› g rfl
      obtain ⟨x, hx⟩ := g.nonempty
      exact ⟨x, (hden x).mp hx⟩

/-! ### the dispatch chain of calc/distance.py, extracted from the current source -/
def tyG : Geo → Ty
  | .point _ => .point | .line _ => .line | .plane _ => .plane | .seg _ => .seg | .halfline _ => .halfline

/-- the eight documented ordered pairs reach a computing branch (directly or by the swap branch) -/
theorem distance_dispatch_documented :
    ∀ p ∈ [(Ty.point, Ty.point), (.point, .line), (.line, .point), (.line, .line), (.point, .plane),
           (.plane, .point), (.line, .plane), (.plane, .line)], Cell.handles distanceCell p.1 p.2 = true := by decide

/-- every other pair of the nine operand classes raises -/
theorem distance_dispatch_rest_raises : ∀ a ∈ allTypes, ∀ b ∈ allTypes,
    Cell.handles distanceCell a b = false → distanceCell a b = .raise "NotImplementedError" := by decide
end G3D.Props.C10
