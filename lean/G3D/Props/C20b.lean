import G3D.Extracted.Mflat
import G3D.Extracted.Mpolygon
import G3D.Extracted.Mpolyhedron
/-! # C20 (continued) — ownership and purity read off the method bodies EXTRACTED from the source

The methods translator records, for every method, the provenance of each reference it stores or returns
(`store: self.x = copy | new | param:a | self.y …`, `return: …`, `inplace: …`).  The exact lists are pinned in
`Proofs/MethodsTie*Effects.lean`; here only what property C20 needs is stated, as predicates that do not change when a
method is edited in a way that does not concern ownership (so an unrelated edit of `move` does not raise a C20 alarm). -/
namespace G3D.Props.C20
open G3D Extracted

/-- does the list of characters `pat` occur in `s`? (structural, kernel-evaluable) -/
def isPrefixC : List Char → List Char → Bool
  | [], _ => true
  | _ :: _, [] => false
  | p :: ps, c :: cs => p == c && isPrefixC ps cs
def hasInfixC (pat : List Char) : List Char → Bool
  | [] => pat.isEmpty
  | c :: cs => isPrefixC pat (c :: cs) || hasInfixC pat cs
def mentions (pat : String) (e : String) : Bool := hasInfixC pat.toList e.toList

/-- A string literal is `String.ofList` of its characters, for the elaborator and the kernel alike, so `rw` with this
    turns `mentions "…" "…"` into a search in an explicit character list.  Evaluating `String.toList` of a literal
    instead makes the kernel decode the UTF-8 bytes, at a cost quadratic in the length. -/
theorem mentions_ofList (pat e : List Char) : mentions (String.ofList pat) (String.ofList e) = hasInfixC pat e := by
  rw [mentions, String.toList_ofList, String.toList_ofList]

/-- **the four owning constructors store no reference to a caller's argument**: every attribute they set is a deep copy or a
    freshly built object (no `param:` provenance) -/
theorem owning_constructors_copy_extracted :
    (m_Segment___init___effects ++ m_HalfLine___init___effects ++ m_ConvexPolygon___init___effects ++
      m_ConvexPolyhedron___init___effects).all (fun e => !mentions "param:" e) = true := by
  simp only [m_Segment___init___effects, m_HalfLine___init___effects, m_ConvexPolygon___init___effects,
    m_ConvexPolyhedron___init___effects, List.cons_append, List.nil_append, List.all_cons, List.all_nil]
  repeat rw [mentions_ofList]
  decide +kernel

/-- … whereas Line and Plane keep references (documented aliasing, outside the owners of C20): the extraction does see them -/
theorem line_plane_alias_extracted :
    (m_Line___init___effects.any (mentions "param:")) = true ∧ (m_Plane__init_pn_effects.any (mentions "param:")) = true := by
  simp only [m_Line___init___effects, m_Plane__init_pn_effects, List.any_cons, List.any_nil]
  repeat rw [mentions_ofList]
  decide +kernel

/-- **queries are pure**: membership, `in_`, equality, `segments`, `length` store nothing and mutate nothing in place -/
theorem queries_store_nothing_extracted :
    (m_Line___contains___effects ++ m_Line___eq___effects ++ m_Plane___contains___effects ++ m_Plane___eq___effects ++
      m_Segment___contains___effects ++ m_Segment___eq___effects ++ m_Segment_in__effects ++
      m_HalfLine___contains___effects ++ m_HalfLine___eq___effects ++ m_HalfLine_in__effects ++
      m_ConvexPolygon___contains___effects ++ m_ConvexPolygon_in__effects ++ m_ConvexPolygon___eq___effects ++
      m_ConvexPolygon_segments_effects ++ m_ConvexPolygon_length_effects ++
      m_ConvexPolyhedron___contains___effects).all (fun e => !mentions "store:" e && !mentions "inplace:" e) = true := by
  -- the two `in_` tables are the only ones with entries
  simp only [m_Segment_in__effects, m_HalfLine_in__effects, List.all_append, List.all_cons, List.all_nil]
  repeat rw [mentions_ofList]
  decide +kernel

end G3D.Props.C20
