import G3D.Proofs.Move
import G3D.Proofs.Polyhedron
import G3D.Proofs.Equality
import G3D.Proofs.Composite
import G3D.Proofs.K5
/-! # C05 — membership (`in`) agrees with exact containment  (full under the stated validity hypotheses)
    `den` is the point set denoted (parametric definition for flats, convex hull of the vertices for polygons / polyhedra).
    Point in Line/HalfLine/Segment/Plane/ConvexPolygon/ConvexPolyhedron, Segment / HalfLine / Line / ConvexPolygon in their
    containers: iff "every point contained" (kernel K5 for polyhedra: face tests = hull, both directions).  The theorems named
    `…_partial` are the one-directional statements that need only `VertsInside`. -/
namespace G3D.Props.C05
open G3D V3

theorem point_in_line (l : Line) (hl : l.WF) (p : V3) : l.contains p = true ↔ l.den p :=
  Line.contains_iff l hl p
theorem point_in_plane (pl : Plane) (p : V3) : pl.contains p = true ↔ pl.den p := Plane.contains_iff pl p
theorem point_in_segment (s : Seg) (hs : s.WF) (p : V3) : s.contains p = true ↔ s.den p := Seg.contains_iff s hs p
theorem point_in_halfline (h : HalfLine) (hh : h.WF) (p : V3) : h.contains p = true ↔ h.den p :=
  HalfLine.contains_iff h hh p
/-- boundary points (edges, vertices) count: the hull is closed -/
theorem point_in_polygon (P : Polygon) (hv : P.Valid) (p : V3) : P.contains p = true ↔ InHull P.pts p :=
  Polygon.contains_iff P hv p
theorem point_in_polyhedron_partial (B : Polyhedron) (hv : B.VertsInside) (p : V3) (hp : InHull B.verts p) :
    B.contains p = true := Polyhedron.hull_subset_contains B hv p hp

/-! composite cases: `x in S` ⇔ every point of x is a point of S -/
theorem segment_in_line (l : Line) (hl : l.WF) (s : Seg) : l.containsSeg s = true ↔ ∀ x, s.den x → l.den x :=
  Line.containsSeg_iff l hl s
theorem segment_in_plane (p : Plane) (s : Seg) : p.containsSeg s = true ↔ ∀ x, s.den x → p.den x :=
  Plane.containsSeg_iff p s
theorem segment_in_polygon (P : Polygon) (hv : P.Valid) (s : Seg) :
    P.containsSeg s = true ↔ ∀ x, s.den x → InHull P.pts x := Polygon.containsSeg_iff P hv s
theorem line_in_plane (pl : Plane) (l : Line) : pl.containsLine l = true ↔ ∀ x, l.den x → pl.den x :=
  Plane.containsLine_iff pl l

theorem Seg.subset_iff (s : Seg) (D : V3 → Prop)
    (hD : ∀ x y t, 0 ≤ t → t ≤ 1 → D x → D y → D (add x (smul t (sub y x)))) : (D s.a ∧ D s.b) ↔ ∀ x, s.den x → D x :=
  ⟨fun ⟨ha, hb⟩ _ ⟨t, h0, h1, e⟩ => e ▸ hD _ _ t h0 h1 ha hb, fun h => ⟨h _ s.a_mem_den, h _ s.b_mem_den⟩⟩

theorem Seg.den_convex (s : Seg) (x y : V3) (t : Rat) (h0 : 0 ≤ t) (h1 : t ≤ 1) (hx : s.den x) (hy : s.den y) :
    s.den (add x (smul t (sub y x))) := by
  obtain ⟨a, ha0, ha1, rfl⟩ := hx; obtain ⟨b, hb0, hb1, rfl⟩ := hy
  refine ⟨a + t * (b - a), ?_, ?_, by apply V3.ext' <;> simp only [add, smul, sub] <;> ring⟩
  · nlinarith
  · nlinarith

theorem HalfLine.den_convex (h : HalfLine) (x y : V3) (t : Rat) (h0 : 0 ≤ t) (h1 : t ≤ 1) (hx : h.den x) (hy : h.den y) :
    h.den (add x (smul t (sub y x))) := by
  obtain ⟨a, ha0, rfl⟩ := hx; obtain ⟨b, hb0, rfl⟩ := hy
  refine ⟨a + t * (b - a), ?_, by apply V3.ext' <;> simp only [add, smul, sub] <;> ring⟩
  nlinarith

theorem segment_in_segment (c : Seg) (hc : c.WF) (s : Seg) : c.containsSeg s = true ↔ ∀ x, s.den x → c.den x := by
  unfold Seg.containsSeg
  rw [Bool.and_eq_true, Seg.contains_iff c hc, Seg.contains_iff c hc]
  exact Seg.subset_iff s _ (Seg.den_convex c)

theorem segment_in_halfline (c : HalfLine) (hc : c.WF) (s : Seg) : c.containsSeg s = true ↔ ∀ x, s.den x → c.den x := by
  unfold HalfLine.containsSeg
  rw [Bool.and_eq_true, HalfLine.contains_iff c hc, HalfLine.contains_iff c hc]
  exact Seg.subset_iff s _ (HalfLine.den_convex c)

/-- partial (polyhedron): a segment with both end points in the hull is accepted -/
theorem segment_in_polyhedron_partial (B : Polyhedron) (hv : B.VertsInside) (s : Seg)
    (h : ∀ x, s.den x → InHull B.verts x) : B.containsSeg s = true := by
  unfold Polyhedron.containsSeg
  rw [Bool.and_eq_true]
  exact ⟨Polyhedron.hull_subset_contains B hv _ (h _ s.a_mem_den),
         Polyhedron.hull_subset_contains B hv _ (h _ s.b_mem_den)⟩
theorem halfline_in_line (l : Line) (hl : l.WF) (h : HalfLine) (hh : h.WF) :
    l.containsHalfLine h = true ↔ ∀ x, h.den x → l.den x := Line.containsHalfLine_iff l hl h hh
theorem halfline_in_plane (p : Plane) (h : HalfLine) (hh : h.WF) :
    p.containsHalfLine h = true ↔ ∀ x, h.den x → p.den x := Plane.containsHalfLine_iff p h hh
theorem halfline_in_halfline (c h : HalfLine) (hc : c.WF) (hh : h.WF) :
    c.containsHL h = true ↔ ∀ x, h.den x → c.den x := HalfLine.containsHL_iff c h hc hh
theorem polygon_in_plane (P : Polygon) (hv : P.Valid) (pl : Plane) (hpl : pl.WF) :
    P.inPlane pl = true ↔ ∀ x, InHull P.pts x → pl.den x := Polygon.inPlane_iff P hv pl hpl
theorem polygon_in_polyhedron_partial (B : Polyhedron) (hv : B.VertsInside) (P : Polygon)
    (h : ∀ x, InHull P.pts x → InHull B.verts x) : B.containsPolygon P = true :=
  Polyhedron.containsPolygon_of_hull B hv P h

/-! ### kernel K5 — membership in a polyhedron is membership in the hull of its vertices (both directions) -/
/-- for a Valid closed convex polyhedron (faces Valid, vertices on the inner side of every face, closed surface, an
    interior point) the face tests accept exactly the convex combinations of the vertices; faces / edges / vertices count -/
theorem point_in_polyhedron (B : Polyhedron) (hV : B.Valid) (x : V3) : B.contains x = true ↔ InHull B.verts x :=
  Polyhedron.contains_iff_hull B hV x
/-- the decidable judge implies `Valid` (evaluated on implementation-built bodies) -/
theorem polyhedron_judge_sound (B : Polyhedron) (h : B.validB = true) : B.Valid := Polyhedron.valid_of_validB B h
theorem segment_in_polyhedron (B : Polyhedron) (hV : B.Valid) (s : Seg) :
    B.containsSeg s = true ↔ ∀ x, s.den x → InHull B.verts x := by
  unfold Polyhedron.containsSeg
  rw [Bool.and_eq_true, Polyhedron.contains_iff_hull B hV, Polyhedron.contains_iff_hull B hV]
  exact Seg.subset_iff s _ fun _ _ t h0 h1 hx hy => hx.convex hy t h0 h1

/-- `ConvexPolygon in ConvexPolyhedron` (all vertices pass the face tests) ⇔ the whole polygon lies in the body -/
theorem polygon_in_polyhedron (B : Polyhedron) (hV : B.Valid) (P : Polygon) :
    B.containsPolygon P = true ↔ ∀ x, InHull P.pts x → InHull B.verts x := by
  constructor
  · intro h x hx
    unfold Polyhedron.containsPolygon at h
    rw [List.all_eq_true] at h
    -- the face tests are linear: a convex combination of accepted points is accepted
    let B' : Polyhedron := { B with verts := P.pts }
    have hv' : B'.VertsInside := by
      intro f hf p hp
      have := h p hp
      unfold Polyhedron.contains at this
      rw [List.all_eq_true] at this
      simpa using this f hf
    have := Polyhedron.hull_subset_contains B' hv' x hx
    exact (Polyhedron.contains_iff_hull B hV x).mp this
  · exact polygon_in_polyhedron_partial B hV.verts_inside P

end G3D.Props.C05
