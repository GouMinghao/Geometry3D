import G3D.Proofs.Algebra
import G3D.Props.C01
import G3D.Props.C02
import G3D.Proofs.AlgebraB
import G3D.Proofs.BodySoundInter
import G3D.Proofs.AlgebraAll
import G3D.Proofs.K4f
import G3D.Proofs.AlgebraEuler
import G3D.Proofs.EulerAllProof
/-! # C12 — intersection obeys the algebra of set intersection  (full)
    Flats: everything follows from C01.  All seven types: results are admissible operands again (`Proofs/ExactAll.lean`, K4), so
    associativity, intersection(a,a) = a and a ⊆ b ⇒ intersection = a hold for all 343 type triples (`assoc_all_types`, …);
    Euler's polyhedron formula, on which the polyhedron × polyhedron case rests, is proved (`eulerAll`). -/
namespace G3D.Props.C12
open G3D V3

/-- `intersection(intersection(a,b),c)` and `intersection(a,intersection(b,c))` denote the same set, `None`
    absorbing — all 125 triples of flat types, all rational operands -/
theorem assoc_flat (a b c : Geo) (ha : a.WF) (hb : b.WF) (hc : c.WF) :
    ∃ ab bc l r, interFlat a b = .ok ab ∧ interFlat b c = .ok bc ∧
      interOptL ab c = .ok l ∧ interOptR a bc = .ok r ∧ ∀ x, denOpt l x ↔ denOpt r x :=
  interFlat_assoc a b c ha hb hc

/-- `intersection(a, a)` denotes `a` -/
theorem self_flat (a : Geo) (ha : a.WF) : ∃ g, interFlat a a = .ok (some g) ∧ g.WF ∧ ∀ x, g.den x ↔ a.den x :=
  interFlat_self a ha

/-- `a ⊆ b` ⇒ `intersection(a, b)` denotes `a` -/
theorem subset_flat (a b : Geo) (ha : a.WF) (hb : b.WF) (hsub : ∀ x, a.den x → b.den x) (hne : ∃ x, a.den x) :
    ∃ g, interFlat a b = .ok (some g) ∧ ∀ x, g.den x ↔ a.den x := interFlat_of_subset a b ha hb hsub hne

/-- every point (in particular every vertex / end point) of `intersection(a, b)` lies in both operands: flats -/
theorem result_in_both_flat (a b : Geo) (ha : a.WF) (hb : b.WF) (g : Geo)
    (h : interFlat a b = .ok (some g)) : ∀ x, g.den x → a.den x ∧ b.den x := by
  obtain ⟨o, ho, _, hd⟩ := interFlat_exact a b ha hb
  rw [h] at ho; cases ho
  intro x hx; exact (hd x).mp hx

/-- … and flat × Valid polygon, both argument orders -/
theorem result_in_both_flat_polygon (f : Geo) (hf : f.WF) (P : Polygon) (hv : P.Valid) (r : Obj) :
    (inter (.flat f) (.polygon P) = .ok (some r) → ∀ x, ObjDen r x → f.den x ∧ InHull P.pts x) ∧
    (inter (.polygon P) (.flat f) = .ok (some r) → ∀ x, ObjDen r x → f.den x ∧ InHull P.pts x) :=
  ⟨inter_flat_polygon_vertices_in_both f hf P hv r, inter_polygon_flat_vertices_in_both f hf P hv r⟩

/-- `None` absorbs -/
theorem none_absorbs (b : Option Obj) : interOpt none b = .ok none ∧ interOpt b none = .ok none :=
  Props.C04.interOpt_none b
/-- associativity stated about the table-driven `inter` / `interOpt`: both nestings return flats denoting
    exactly a ∩ b ∩ c -/
theorem assoc_flat_inter (a b c : Geo) (ha : a.WF) (hb : b.WF) (hc : c.WF) :
    ∃ ab bc l r : Option Geo,
      inter (.flat a) (.flat b) = .ok (ab.map Obj.flat) ∧ inter (.flat b) (.flat c) = .ok (bc.map Obj.flat) ∧
      interOpt (ab.map Obj.flat) (some (.flat c)) = .ok (l.map Obj.flat) ∧
      interOpt (some (.flat a)) (bc.map Obj.flat) = .ok (r.map Obj.flat) ∧
      (∀ x, denOpt l x ↔ (a.den x ∧ b.den x ∧ c.den x)) ∧ (∀ x, denOpt r x ↔ (a.den x ∧ b.den x ∧ c.den x)) :=
  interFlat_assoc_inter_den a b c ha hb hc

/-- a mixed chain: (a ∩ b) ∩ P for flats a, b and a Valid polygon P denotes exactly the triple intersection -/
theorem chain_flat_flat_polygon (a b : Geo) (ha : a.WF) (hb : b.WF) (P : Polygon) (hv : P.Valid) :
    ∃ ab l, inter (.flat a) (.flat b) = .ok ab ∧ interOpt ab (some (.polygon P)) = .ok l ∧
      ∀ x, denOptB l x ↔ (a.den x ∧ b.den x ∧ InHull P.pts x) := inter_flat_flat_polygon_left a b ha hb P hv

/-! ### result ⊆ a ∩ b for ALL 49 type pairs (polyhedra denoted by their membership test) -/
/-- every vertex / end point of `intersection(a, b)` lies in both operands, for well-formed flats, Valid polygons and
    Good polyhedra (faces Valid, vertices inside every face half-space, centres in their planes) -/
theorem result_vertices_in_both (a b : Obj) (ha : OpWF a) (hb : OpWF b) (r : Obj) (h : inter a b = .ok (some r)) :
    ∀ v ∈ resVerts (some r), OpDen a v ∧ OpDen b v := inter_result_vertices_in_both a b ha hb r h
/-- … and so does every point of the result (hull of the result's vertices) -/
theorem result_subset_both (a b : Obj) (ha : OpWF a) (hb : OpWF b) (o : Option Obj) (h : inter a b = .ok o) :
    ∀ x, denOptB o x → OpDen a x ∧ OpDen b x := inter_result_subset a b ha hb o h


/-! ### the laws for every admissible operand — flats, Valid polygons, polyhedra meeting `ExactHyp` — as long as no two
    polyhedra meet directly (kernels K0–K3, K6; polyhedron × polyhedron needs K4) -/
/-- `intersection(a, b)` returns None or an admissible operand denoting exactly a ∩ b -/
theorem inter_exact_admissible (a b : Obj) (ha : OpOK a) (hb : OpOK b) (hnb : NotBothBodies a b) :
    ExactOK (inter a b) (ObjDen a) (ObjDen b) := by
  rw [Props.C04.inter_eq_ref]; exact interRef_exactOK a b ha hb hnb

theorem interOpt_eq_left (o : Option Obj) (c : Obj) : interOpt o (some c) = interOptLB o c := by
  cases o with
  | none => exact (Props.C04.interOpt_none _).1
  | some g => exact Props.C04.inter_eq_ref g c

theorem interOpt_eq_right (a : Obj) (o : Option Obj) : interOpt (some a) o = interOptRB a o := by
  cases o with
  | none => exact (Props.C04.interOpt_none _).2
  | some g => exact Props.C04.inter_eq_ref a g

/-- **associativity, 7 × 7 × 7 type triples minus those with two polyhedra meeting directly**: both nestings return without
    error (None absorbing) an admissible object denoting exactly a ∩ b ∩ c -/
theorem assoc_all (a b c : Obj) (ha : OpOK a) (hb : OpOK b) (hc : OpOK c)
    (hab : NotBothBodies a b) (hbc : NotBothBodies b c) :
    ∃ ab bc l r, inter a b = .ok ab ∧ inter b c = .ok bc ∧
      interOpt ab (some c) = .ok l ∧ interOpt (some a) bc = .ok r ∧ ResOK l ∧ ResOK r ∧
      (∀ x, denOptB l x ↔ (ObjDen a x ∧ ObjDen b x ∧ ObjDen c x)) ∧
      (∀ x, denOptB r x ↔ (ObjDen a x ∧ ObjDen b x ∧ ObjDen c x)) := by
  obtain ⟨ab, bc, l, r, h1, h2, h3, h4, rest⟩ := interRef_assoc a b c ha hb hc hab hbc
  exact ⟨ab, bc, l, r, (Props.C04.inter_eq_ref a b).trans h1, (Props.C04.inter_eq_ref b c).trans h2,
    (interOpt_eq_left ab c).trans h3, (interOpt_eq_right a bc).trans h4, rest⟩

/-- `intersection(a, a)` denotes `a`: flats and polygons -/
theorem self_all (a : Obj) (ha : OpOK a) (hnb : NotBothBodies a a) :
    ∃ g, inter a a = .ok (some g) ∧ OpOK g ∧ ∀ x, ObjDen g x ↔ ObjDen a x := by
  rw [Props.C04.inter_eq_ref]; exact interRef_self a ha hnb

/-- `a ⊆ b`, a non-empty ⇒ `intersection(a, b)` and `intersection(b, a)` denote `a`: e.g. a polygon inside a polyhedron,
    a segment inside a polygon, a polygon inside a plane -/
theorem subset_all (a b : Obj) (ha : OpOK a) (hb : OpOK b) (hnb : NotBothBodies a b) (hnb' : NotBothBodies b a)
    (hsub : ∀ x, ObjDen a x → ObjDen b x) (hne : ∃ x, ObjDen a x) :
    (∃ g, inter a b = .ok (some g) ∧ ∀ x, ObjDen g x ↔ ObjDen a x) ∧
    (∃ g, inter b a = .ok (some g) ∧ ∀ x, ObjDen g x ↔ ObjDen a x) := by
  rw [Props.C04.inter_eq_ref, Props.C04.inter_eq_ref]; exact interRef_of_subset a b ha hb hnb hnb' hsub hne

/-- the result lies in both operands AND nothing of a ∩ b is missed -/
theorem result_is_intersection (a b : Obj) (ha : OpOK a) (hb : OpOK b) (hnb : NotBothBodies a b) (o : Option Obj)
    (h : inter a b = .ok o) : ∀ x, denOptB o x ↔ (ObjDen a x ∧ ObjDen b x) := by
  obtain ⟨o', ho', _, hd⟩ := inter_exact_admissible a b ha hb hnb
  rw [h] at ho'; cases ho'; exact hd


/-- … and for two polyhedra too, whenever the call returns (K4) -/
theorem result_is_intersection_polyhedra (A B : Polyhedron) (hA : A.ExactHyp) (hB : B.ExactHyp) (o : Option Obj)
    (h : inter (.polyhedron A) (.polyhedron B) = .ok o) : ∀ x, denOptB o x ↔ (InHull A.verts x ∧ InHull B.verts x) := by
  rw [Props.C04.inter_eq_ref] at h
  exact ((interPolyhedronPolyhedron_exact_of_ok A B hA hB).1 o h).2


/-! ### all seven types, with Euler's polyhedron formula (`EulerAll`: the check `ConvexPolyhedron.__init__` makes on the faces
    assembled by polyhedron × polyhedron always passes) as the ONLY hypothesis -/
/-- **associativity for all 343 type triples**: both nestings return without error and denote exactly a ∩ b ∩ c -/
theorem assoc_all_types_of_euler (hE : EulerAll) (a b c : Obj) (ha : OpOK a) (hb : OpOK b) (hc : OpOK c) :
    ∃ ab bc l r, inter a b = .ok ab ∧ inter b c = .ok bc ∧
      interOpt ab (some c) = .ok l ∧ interOpt (some a) bc = .ok r ∧ ResOK' l ∧ ResOK' r ∧
      (∀ x, denOptB l x ↔ (ObjDen a x ∧ ObjDen b x ∧ ObjDen c x)) ∧
      (∀ x, denOptB r x ↔ (ObjDen a x ∧ ObjDen b x ∧ ObjDen c x)) := by
  obtain ⟨ab, bc, l, r, h1, h2, h3, h4, rest⟩ := interRef_assoc_all hE a b c ha hb hc
  exact ⟨ab, bc, l, r, (Props.C04.inter_eq_ref a b).trans h1, (Props.C04.inter_eq_ref b c).trans h2,
    (interOpt_eq_left ab c).trans h3, (interOpt_eq_right a bc).trans h4, rest⟩

/-- `intersection(a, a)` denotes `a` — all seven types -/
theorem self_all_types_of_euler (hE : EulerAll) (a : Obj) (ha : OpOK a) :
    ∃ g, inter a a = .ok (some g) ∧ OpOK g ∧ ∀ x, ObjDen g x ↔ ObjDen a x := by
  rw [Props.C04.inter_eq_ref]; exact interRef_self_all hE a ha

/-- `a ⊆ b` ⇒ `intersection(a, b)`, `intersection(b, a)` denote `a` — all 49 pairs -/
theorem subset_all_types_of_euler (hE : EulerAll) (a b : Obj) (ha : OpOK a) (hb : OpOK b)
    (hsub : ∀ x, ObjDen a x → ObjDen b x) (hne : ∃ x, ObjDen a x) :
    (∃ g, inter a b = .ok (some g) ∧ ∀ x, ObjDen g x ↔ ObjDen a x) ∧
    (∃ g, inter b a = .ok (some g) ∧ ∀ x, ObjDen g x ↔ ObjDen a x) := by
  rw [Props.C04.inter_eq_ref, Props.C04.inter_eq_ref]; exact interRef_of_subset_all hE a b ha hb hsub hne


/-! ### all seven types, unconditionally (Euler's formula is proved: `eulerAll`) -/
/-- **associativity for all 343 type triples** -/
theorem assoc_all_types (a b c : Obj) (ha : OpOK a) (hb : OpOK b) (hc : OpOK c) :
    ∃ ab bc l r, inter a b = .ok ab ∧ inter b c = .ok bc ∧
      interOpt ab (some c) = .ok l ∧ interOpt (some a) bc = .ok r ∧ ResOK' l ∧ ResOK' r ∧
      (∀ x, denOptB l x ↔ (ObjDen a x ∧ ObjDen b x ∧ ObjDen c x)) ∧
      (∀ x, denOptB r x ↔ (ObjDen a x ∧ ObjDen b x ∧ ObjDen c x)) := assoc_all_types_of_euler eulerAll a b c ha hb hc
/-- `intersection(a, a)` denotes `a` — all seven types -/
theorem self_all_types (a : Obj) (ha : OpOK a) :
    ∃ g, inter a a = .ok (some g) ∧ OpOK g ∧ ∀ x, ObjDen g x ↔ ObjDen a x := self_all_types_of_euler eulerAll a ha
/-- `a ⊆ b` ⇒ `intersection(a, b)`, `intersection(b, a)` denote `a` — all 49 pairs -/
theorem subset_all_types (a b : Obj) (ha : OpOK a) (hb : OpOK b)
    (hsub : ∀ x, ObjDen a x → ObjDen b x) (hne : ∃ x, ObjDen a x) :
    (∃ g, inter a b = .ok (some g) ∧ ∀ x, ObjDen g x ↔ ObjDen a x) ∧
    (∃ g, inter b a = .ok (some g) ∧ ∀ x, ObjDen g x ↔ ObjDen a x) := subset_all_types_of_euler eulerAll a b ha hb hsub hne

end G3D.Props.C12
