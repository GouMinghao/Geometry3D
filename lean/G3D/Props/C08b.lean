import G3D.Props.C08
import G3D.Proofs.MethodsTiePolygonEq
import G3D.Proofs.MethodsTiePolyhedronEq
/-! # C08, end to end for the composites: the `__eq__` BODIES of the current source decide equality of point sets

`Props/C08.lean` proves that the model equality (`Polygon.same`, `Polyhedron.sameB`) holds iff the two objects denote the same
point set; `Proofs/MethodsTie*Eq.lean` prove that the bodies of `ConvexPolygon.__eq__` / `ConvexPolyhedron.__eq__`, translated
statement by statement from the source on every run, ARE those functions.  Composed: the method as written returns `True`
exactly for equal point sets (and never raises) — the statement that was false of the pinned tree (defect D12: `==` compared
hashes, and CPython hashes −1 and −2 alike).  Own module: a change of either body breaks exactly these theorems. -/
namespace G3D.Props.C08
open G3D V3 PyRt Extracted G3D.Tie

/-- `ConvexPolygon.__eq__` as extracted: `True` iff the two Valid polygons are the same set of points -/
theorem polygon_eq_method_iff_same_set (P Q : Polygon) (hP : P.Valid) (hQ : Q.Valid) :
    m_ConvexPolygon___eq__ (Self.ofPolygon P) (.obj (.polygon Q)) = .ok (.bool true) ↔ ∀ x, InHull P.pts x ↔ InHull Q.pts x := by
  rw [m_ConvexPolygon___eq___eq, ← polygon_eq_iff_same_set P Q hP hQ]
  simp only [Except.ok.injEq, Val.bool.injEq]

/-- … and it always returns a Boolean (no exception) -/
theorem polygon_eq_method_total (P Q : Polygon) :
    ∃ b, m_ConvexPolygon___eq__ (Self.ofPolygon P) (.obj (.polygon Q)) = .ok (.bool b) := ⟨_, m_ConvexPolygon___eq___eq P Q⟩

/-- `ConvexPolyhedron.__eq__` as extracted: `True` iff the two bodies are the same set of points -/
theorem polyhedron_eq_method_iff_same_set (A B : Polyhedron) (hA : A.Proper) (hB : B.Proper)
    (hAv : A.VertsOnFaces) (hBv : B.VertsOnFaces) :
    m_ConvexPolyhedron___eq__ (Self.ofPolyhedron A) (.obj (.polyhedron B)) = .ok (.bool true) ↔ ∀ x, InHull A.verts x ↔ InHull B.verts x := by
  rw [m_ConvexPolyhedron___eq___eq, ← polyhedron_eq_iff_same_set A B hA hB hAv hBv]
  simp only [Except.ok.injEq, Val.bool.injEq]

theorem polyhedron_eq_method_total (A B : Polyhedron) :
    ∃ b, m_ConvexPolyhedron___eq__ (Self.ofPolyhedron A) (.obj (.polyhedron B)) = .ok (.bool b) := ⟨_, m_ConvexPolyhedron___eq___eq A B⟩

/-- the witness of D12 in the model: the unit squares in the planes x = −2 and x = −1 are different sets, so the method says `False` -/
example : m_ConvexPolygon___eq__ (Self.ofPolygon { pts := [⟨-2,0,0⟩, ⟨-2,0,1⟩, ⟨-2,1,1⟩, ⟨-2,1,0⟩], plane := ⟨⟨-2,0,0⟩, ⟨1,0,0⟩⟩, center := ⟨-2,1/2,1/2⟩ })
    (.obj (.polygon { pts := [⟨-1,0,0⟩, ⟨-1,0,1⟩, ⟨-1,1,1⟩, ⟨-1,1,0⟩], plane := ⟨⟨-1,0,0⟩, ⟨1,0,0⟩⟩, center := ⟨-1,1/2,1/2⟩ })) = .ok (.bool false) := by
  rw [m_ConvexPolygon___eq___eq]; congr 2

#print axioms polygon_eq_method_iff_same_set
#print axioms polyhedron_eq_method_iff_same_set
end G3D.Props.C08
