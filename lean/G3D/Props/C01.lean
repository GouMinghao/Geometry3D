import G3D.Proofs.Collinear
import G3D.Props.C04
/-! # C01 — the intersection of two flat primitives is exactly their common point set
    Stated about `inter`, the dispatcher generated from the current source, for ALL rational operands. -/
namespace G3D.Props.C01
open G3D V3

/-- the flat result (if any) inside a general result -/
def flatOf : Option Obj → Option (Option Geo)
  | none => some none
  | some (.flat g) => some (some g)
  | some _ => none

/-- on flats the table-driven dispatcher runs the 15 flat handlers -/
theorem inter_flat (a b : Geo) : inter (.flat a) (.flat b) = liftFlat (interFlat a b) := by
  rw [Props.C04.inter_eq_ref]; rfl

/-- **C01**: for well-formed flats `a`, `b` (any of Point, Line, Plane, Segment, HalfLine; all rational
    coordinates), `intersection(a, b)` returns without error, the result is `None` or a well-formed flat,
    and a point belongs to the result iff it belongs to both operands. -/
theorem inter_flat_exact (a b : Geo) (ha : a.WF) (hb : b.WF) :
    ∃ o : Option Geo, inter (.flat a) (.flat b) = .ok (o.map Obj.flat) ∧ (∀ g, o = some g → g.WF) ∧
      ∀ x, denOpt o x ↔ (a.den x ∧ b.den x) := by
  obtain ⟨o, ho, hwf, hden⟩ := interFlat_exact a b ha hb
  refine ⟨o, ?_, hwf, hden⟩
  rw [inter_flat, ho]; cases o <;> rfl

/-- `None` exactly when the operands are disjoint -/
theorem inter_flat_none_iff (a b : Geo) (ha : a.WF) (hb : b.WF) :
    inter (.flat a) (.flat b) = .ok none ↔ ∀ x, ¬ (a.den x ∧ b.den x) := by
  obtain ⟨o, ho, _, hden⟩ := inter_flat_exact a b ha hb
  constructor
  · intro h x hx
    rw [ho] at h
    cases o with
    | none => exact (hden x).mpr hx
    | some g => simp at h
  · intro h
    cases o with
    | none => exact ho
    | some g =>
      exfalso
      obtain ⟨x, hx⟩ := g.nonempty
      exact h x ((hden x).mp hx)

/-- the internal "Bug detected" / arity errors are unreachable on well-formed flats -/
theorem inter_flat_no_error (a b : Geo) (ha : a.WF) (hb : b.WF) : ∀ e, inter (.flat a) (.flat b) ≠ .error e := by
  obtain ⟨o, ho, _, _⟩ := inter_flat_exact a b ha hb
  intro e h; rw [ho] at h; cases h

/-- a one-point intersection is returned as a Point (never as a degenerate Segment): every returned
    Segment has two different end points — part of `WF` -/
theorem inter_flat_seg_proper (a b : Geo) (ha : a.WF) (hb : b.WF) (s : Seg)
    (h : inter (.flat a) (.flat b) = .ok (some (.flat (.seg s)))) : s.a ≠ s.b := by
  obtain ⟨o, ho, hwf, _⟩ := inter_flat_exact a b ha hb
  rw [ho] at h
  cases o with
  | none => cases h
  | some g =>
    simp only [Option.map_some, Except.ok.injEq, Option.some.injEq, Obj.flat.injEq] at h
    subst h
    exact (hwf _ rfl).1

/-- non-vacuity: concrete oblique operands meet the hypotheses, and the theorem computes -/
example : (Geo.seg (Seg.mk' ⟨0,0,0⟩ ⟨2,2,1⟩)).WF ∧ (Geo.halfline (HalfLine.mk' ⟨1,1,1/2⟩ ⟨-2,-2,-1⟩)).WF := by
  constructor
  · exact ⟨by decide, rfl⟩
  · exact ⟨by decide, rfl⟩
end G3D.Props.C01
