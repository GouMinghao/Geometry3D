import G3D.Props.C20b
/-! kept in its own module (see the doc comment): not registered for any property -/
namespace G3D.Props.C20
open G3D Extracted

/-- (not registered under C20: an edit that makes a `move` body untranslatable removes its effects list and would raise a C20
    alarm for a C07 matter)  **`move` captures nothing of its argument**: no attribute set by a `move`, and nothing it returns, refers to the Vector passed in -/
theorem moves_do_not_capture_argument_extracted :
    (m_Line_move_effects ++ m_Plane_move_effects ++ m_Segment_move_effects ++ m_HalfLine_move_effects ++
      m_ConvexPolygon_move_effects ++ m_ConvexPolyhedron_move_effects).all (fun e => !mentions "param:" e) = true := by
  simp only [m_Line_move_effects, m_Plane_move_effects, m_Segment_move_effects, m_HalfLine_move_effects,
    m_ConvexPolygon_move_effects, m_ConvexPolyhedron_move_effects, List.cons_append, List.nil_append, List.all_cons,
    List.all_nil]
  repeat rw [mentions_ofList]
  decide +kernel
end G3D.Props.C20
