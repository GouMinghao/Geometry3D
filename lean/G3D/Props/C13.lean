import G3D.Proofs.Xf
import G3D.Proofs.Xf2
import G3D.Proofs.XfAll
import G3D.Props.C04
import G3D.Proofs.XCBody
import G3D.Proofs.XCFlat
/-! # C13 — queries commute with lattice isometries and uniform scaling  (full; polyhedron operands under `ExactHyp` of the transformed body)
    `SP` = the 48 signed axis permutations, `Xf` = signed permutation ∘ scaling by k > 0 ∘ translation. -/
namespace G3D.Props.C13
open G3D V3

/-- dot and cross products under a signed permutation (cross picks up the determinant: normals are pseudo-vectors) -/
theorem dot_cross_symmetry (s : SP) (u v : V3) :
    dot (s.apply u) (s.apply v) = dot u v ∧ cross (s.apply u) (s.apply v) = smul s.det (s.apply (cross u v)) :=
  ⟨SP.dot_apply s u v, SP.cross_apply s u v⟩

/-- membership in any flat commutes with the transformation -/
theorem membership_equivariant (T : Xf) (hk : 0 < T.k) (g : Geo) (x : V3) : (T.geo g).den (T.pt x) ↔ g.den x :=
  Xf.den_geo T hk g x

/-- well-formedness is preserved -/
theorem wf_preserved (T : Xf) (hk : 0 < T.k) (g : Geo) (hg : g.WF) : (T.geo g).WF := Xf.geo_WF T hk g hg

/-- the transformation is a bijection of space (so "maps the result by the same transformation" is meaningful) -/
theorem transformation_bijective (T : Xf) (hk : 0 < T.k) :
    (∀ x y, T.pt x = T.pt y → x = y) ∧ (∀ y, ∃ x, T.pt x = y) :=
  ⟨fun _ _ h => Xf.pt_injective T hk h, fun y => Xf.pt_surjective T hk y⟩
/-- **intersection is equivariant** (flats): the intersection of the transformed operands denotes exactly the
    transform of the intersection of the operands — for all 25 flat type pairs, all 48 symmetries, every translation and
    every scaling k > 0 -/
theorem intersection_equivariant_flat (T : Xf) (hk : 0 < T.k) (a b : Geo) (ha : a.WF) (hb : b.WF) :
    ∃ o o', interFlat a b = .ok o ∧ interFlat (T.geo a) (T.geo b) = .ok o' ∧
      ∀ x, denOpt o' (T.pt x) ↔ denOpt o x := by
  obtain ⟨o, ho, _, hd⟩ := interFlat_exact a b ha hb
  obtain ⟨o', ho', _, hd'⟩ := interFlat_exact (T.geo a) (T.geo b) (T.geo_WF hk a ha) (T.geo_WF hk b hb)
  exact ⟨o, o', ho, ho', fun x => by rw [hd' (T.pt x), hd x, T.den_geo hk a x, T.den_geo hk b x]⟩
/-! ### leaves angle, parallel, orthogonal and equality unchanged -/
theorem angle_parallel_orthogonal_invariant (T : Xf) (hk : 0 < T.k) (a b : AObj) :
    angleRep (T.aobj a) (T.aobj b) = angleRep a b ∧ parallelG (T.aobj a) (T.aobj b) = parallelG a b ∧
    orthogonalG (T.aobj a) (T.aobj b) = orthogonalG a b :=
  ⟨T.angleRep_aobj hk a b, T.parallelG_aobj hk a b, T.orthogonalG_aobj hk a b⟩

theorem equality_invariant (T : Xf) (hk : 0 < T.k) (a b : Geo) : geoEqv (T.geo a) (T.geo b) = geoEqv a b :=
  T.geoEqv_geo hk a b

/-- the membership TEST itself (Bool) commutes, not only the denoted sets -/
theorem membership_test_invariant (T : Xf) (hk : 0 < T.k) (g : Geo) (hg : g.WF) (x : V3) :
    geoContains (T.geo g) (T.pt x) = geoContains g x := T.geoContains_geo hk g hg x

/-! ### multiplies distance and length by k, area by k², volume by k³ (squared / numerator forms) -/
theorem distance_scales (T : Xf) (hk : 0 < T.k) (a b : Geo) (ha : a.WF) (hb : b.WF) :
    distSqGeo (T.geo a) (T.geo b) = (distSqGeo a b).map (Except.map (T.k^2 * ·)) := T.distSqGeo_geo hk a b ha hb

theorem length_scales (T : Xf) (s : Seg) (P : Polygon) :
    (T.seg s).lenSq = T.k^2 * s.lenSq ∧ (T.polygon P).edgeLenSqs = P.edgeLenSqs.map (T.k^2 * ·) :=
  ⟨T.seg_lenSq s, T.polygon_edgeLenSqs P⟩

/-- polygon (same vertex order, pseudo-vector normal): stays Valid, membership test commutes, area numerator × k² with
    the same normal length, i.e. area × k² -/
theorem polygon_symmetry (T : Xf) (hk : 0 < T.k) (P : Polygon) (hv : P.Valid) (x : V3) :
    (T.polygon P).Valid ∧ (T.polygon P).contains (T.pt x) = P.contains x ∧
    ((T.polygon P).areaNum = T.k^2 * P.areaNum ∧ normSq (T.polygon P).plane.n = normSq P.plane.n) ∧
    (InHull (T.pts P.pts) (T.pt x) ↔ InHull P.pts x) :=
  ⟨T.polygon_valid hk P hv, T.polygon_contains hk P x, T.polygon_areaNum hk P, T.InHull_pts hk P.pts x⟩

/-- polyhedron with outward normals (vertex cycles reversed under reflections): membership test commutes, volume × k³ -/
theorem polyhedron_symmetry (T : Xf) (hk : 0 < T.k) (B : Polyhedron) (hv : ∀ pa ∈ B.pyramids, pa.1.Valid) (x : V3) :
    (T.body B).contains (T.pt x) = B.contains x ∧ (T.body B).volume = T.k^3 * B.volume :=
  ⟨T.body_contains hk B x, T.body_volume hk B hv⟩

/-- the surface-integral volume of ANY closed surface scales by k³ (absolute value; det = ±1) -/
theorem closed_surface_volume_scales (T : Xf) (hk : 0 < T.k) (fs : List (List V3)) (hc : ClosedSurface fs) (q q' : V3) :
    absQ (vol6 (T.surface fs) q') = T.k^3 * absQ (vol6 fs q) := T.abs_vol6_closed hk fs hc q q'

/-! ### intersection with composite operands (from exactness: kernels K0–K3, K6) -/
/-- with one polyhedron operand at most, provided the transformed operands are again admissible (`ExactHyp` for a body,
    decidable): `intersection(T a, T b)` is the transform of `intersection(a, b)` as point sets, both calls returning
    without error -/
theorem intersection_equivariant_admissible (T : Xf) (hk : 0 < T.k) (a b : Obj) (ha : OpOK a) (hb : OpOK b)
    (ha' : OpOK (T.obj a)) (hb' : OpOK (T.obj b)) (hnb : NotBothBodies a b) :
    ∃ o o', inter a b = .ok o ∧ inter (T.obj a) (T.obj b) = .ok o' ∧ ResOK o ∧ ResOK o' ∧
      ∀ x, denOptB o' (T.pt x) ↔ denOptB o x := by
  rw [Props.C04.inter_eq_ref, Props.C04.inter_eq_ref]
  obtain ⟨o, ho, hw, hd⟩ := interRef_exactOK a b ha hb hnb
  obtain ⟨o', ho', hw', hd'⟩ := interRef_exactOK (T.obj a) (T.obj b) ha' hb' (T.notBoth a b hnb)
  exact ⟨o, o', ho, ho', hw, hw', fun x => by rw [hd' (T.pt x), hd x, T.objDen hk a x, T.objDen hk b x]⟩

/-- flats and Valid polygons, all 36 ordered type pairs, without further hypotheses -/
theorem intersection_equivariant_flat_polygon (T : Xf) (hk : 0 < T.k) (a b : Obj) (ha : OpOK a) (hb : OpOK b)
    (hna : NotBothBodies a a) (hnb : NotBothBodies b b) :
    ∃ o o', inter a b = .ok o ∧ inter (T.obj a) (T.obj b) = .ok o' ∧ ResOK o ∧ ResOK o' ∧
      ∀ x, denOptB o' (T.pt x) ↔ denOptB o x := by
  refine intersection_equivariant_admissible T hk a b ha hb (T.opOK hk a ha hna) (T.opOK hk b hb hnb) ?_
  cases a <;> cases b <;> first | trivial | exact hna.elim

/-! ### the CONSTRUCTORS commute with the transformations -/
/-- **ConvexPolygon**: for every symmetry / translation / scaling k > 0, every input list and either `reverse` flag, the
    constructor on the transformed points returns EXACTLY the transformed record (same vertex order; normal × det·k²), and
    raises the same exception when it raises — no hypothesis on the input at all -/
theorem polygon_constructor_commutes (T : Xf) (hk : 0 < T.k) (i : List V3) (rev : Bool) :
    Polygon.mk? (T.pts i) rev = (Polygon.mk? i rev).map (XC.img T) := XC.mk?_xf T hk i rev

/-- … and what that record means: Valid, same membership, same hull, area × k², edge lengths × k -/
theorem polygon_constructor_commutes_queries (T : Xf) (hk : 0 < T.k) (i : List V3) (rev : Bool) (P : Polygon)
    (hx : StrictConvexPos (dedupV i)) (h : Polygon.mk? i rev = .ok P) :
    ∃ P', Polygon.mk? (T.pts i) rev = .ok P' ∧ P.Valid ∧ P'.Valid ∧
      P'.pts = T.pts P.pts ∧ (∀ p, p ∈ P'.pts ↔ p ∈ T.pts P.pts) ∧
      P'.center = T.pt P.center ∧ P'.plane.p = T.pt P.plane.p ∧
      P'.plane.n = smul (T.k^2) (T.pnrm P.plane.n) ∧ P'.same (T.polygon P) = true ∧
      (∀ x, InHull P'.pts (T.pt x) ↔ InHull P.pts x) ∧ (∀ x, P'.contains (T.pt x) = P.contains x) ∧
      P'.areaSq = T.k^4 * P.areaSq ∧ P'.edgeLenSqs = P.edgeLenSqs.map (T.k^2 * ·) := by
  obtain ⟨hv, _, _⟩ := Polygon.mk?_valid_of_strictConvex i rev P h hx
  exact ⟨XC.img T P, XC.mk?_xf_ok T hk i rev P h, hv, XC.img_valid T hk P hv, rfl, fun _ => Iff.rfl, rfl, rfl,
    XC.img_plane_n T P, XC.img_same T hk P hv, fun x => T.InHull_pts hk P.pts x, XC.img_contains T hk P,
    XC.img_areaSq T hk P, XC.img_edgeLenSqs T P⟩

/-- **ConvexPolyhedron** (relative to a Valid reference body whose faces are the input, in any order / orientation): the
    constructor on transformed faces succeeds iff it does on the original ones (Euler's number is invariant), and the stored
    bodies correspond: membership, hull, vertex set, centre, counts, edge lengths × k, face areas × k², volume × k³, and
    equality with the transformed body -/
theorem polyhedron_constructor_commutes (T : Xf) (hk : 0 < T.k) (B0 : Polyhedron) (hV : B0.Valid)
    (F input input' : List Polygon) (hperm : List.Perm F B0.faces) (hrel : List.Forall₂ Reoriented F input)
    (himg : List.Forall₂ (XC.ImgOf T) input input') :
    ((∃ B', Polyhedron.mk? input' = .ok B') ↔ (∃ B, Polyhedron.mk? input = .ok B)) ∧
    ∀ B B', Polyhedron.mk? input = .ok B → Polyhedron.mk? input' = .ok B' →
      B.Valid ∧ B'.Valid ∧
      (∀ x, B'.contains (T.pt x) = B.contains x) ∧
      (∀ x, InHull B'.verts (T.pt x) ↔ InHull B.verts x) ∧
      (∀ x, B'.contains (T.pt x) = true ↔ InHull B.verts x) ∧
      List.Perm B'.verts (T.pts B.verts) ∧ B'.center = T.pt B.center ∧
      B'.faces.length = B.faces.length ∧ B'.edges.length = B.edges.length ∧
      List.Perm B'.edgeLenSqs (B.edgeLenSqs.map (T.k^2 * ·)) ∧
      ((∀ g ∈ input, g.CentreInside) → (∀ g' ∈ input', g'.CentreInside) →
        B'.volume = T.k^3 * B.volume ∧
        List.Perm (B'.faces.map Polygon.areaSq) ((B.faces.map Polygon.areaSq).map (T.k^4 * ·))) ∧
      (B0.FaceLocal → B'.sameB (T.body B) = true) := by
  have hV' := XC.body_valid T hk B0 hV
  have hperm' : List.Perm (F.map T.face) (T.body B0).faces := hperm.map T.face
  have hrel' : List.Forall₂ Reoriented (F.map T.face) input' :=
    XC.forall₂_reoriented_face T hrel himg
  constructor
  · rw [Polyhedron.mk?_reoriented_iff B0 hV F input hperm hrel,
      Polyhedron.mk?_reoriented_iff (T.body B0) hV' _ input' hperm' hrel']
    obtain ⟨h1, h2, h3⟩ := XC.counts_body T hk B0
    rw [h1, h2, h3]
  intro B B' h h'
  obtain ⟨hBV, _, _, _, hBm, hBh, _⟩ := Polyhedron.mk?_reoriented_queries B0 hV F input hperm hrel B h
  obtain ⟨hBV', _, _, _, hBm', _⟩ :=
    Polyhedron.mk?_reoriented_queries (T.body B0) hV' _ input' hperm' hrel' B' h'
  obtain ⟨hverts, hedges, _, hcen, hfaces, hpyr, _, _, _, hne⟩ := Polyhedron.mk?_eq input B h
  obtain ⟨hverts', hedges', _, hcen', hfaces', hpyr', _, _, _, _⟩ := Polyhedron.mk?_eq input' B' h'
  have hvin : ∀ g ∈ input, g.Valid := fun g hg => by
    obtain ⟨_, _, hr⟩ := Forall₂.exists_left hrel g hg; exact hr.valid
  have hcin : ∀ g ∈ input, G3D.inPlane g.plane.n g.plane.p g.center = true := fun g hg => by
    obtain ⟨_, _, hr⟩ := Forall₂.exists_left hrel g hg; exact hr.center
  have hcv := XC.collectVerts_img_perm T hk input input' himg
  have hvp : List.Perm B'.verts (T.pts B.verts) := by rw [hverts, hverts']; exact hcv
  have hcontains : ∀ x, B'.contains (T.pt x) = B.contains x := fun x => by
    rw [hBm', T.body_contains hk, hBm]
  have hhull : ∀ x, InHull B'.verts (T.pt x) ↔ InHull B.verts x := fun x => by
    rw [← T.InHull_pts hk B.verts x]
    exact SameSet.hull_congr (fun p hp => hvp.mem_iff.mp hp) (fun p hp => hvp.mem_iff.mpr hp) (T.pt x)
  have hcenter : B'.center = T.pt B.center := by
    rw [hcen', hcen, ← T.meanV_pts _ hne]
    exact meanV_perm hcv
  have hue : SameUEdges input B0.faces := Meas.sameUEdges_reoriented B0 hV F input hperm hrel
  have hue' : SameUEdges input' (T.body B0).faces :=
    Meas.sameUEdges_reoriented (T.body B0) hV' _ input' hperm' hrel'
  have hel : List.Perm B'.edgeLenSqs (B.edgeLenSqs.map (T.k^2 * ·)) := by
    unfold Polyhedron.edgeLenSqs
    rw [hedges, hedges']
    refine (Meas.edgesOf_lenSq_perm _ _ hue').trans ?_
    refine (XC.edgeLenSqs_body_perm T hk B0.faces).trans ?_
    exact ((Meas.edgesOf_lenSq_perm _ _ hue).map _).symm
  refine ⟨hBV, hBV', hcontains, hhull, fun x => by rw [hcontains, hBh], hvp, hcenter, ?_, ?_, hel, ?_, ?_⟩
  · rw [hfaces, hfaces', List.length_map, List.length_map, himg.length_eq]
  · have := hel.length_eq
    simpa [Polyhedron.edgeLenSqs] using this
  · intro hci hci'
    constructor
    · -- volume, pyramid by pyramid
      unfold Polyhedron.volume
      rw [hpyr, hpyr', List.map_map, List.map_map, ← list_sum_map_mul_left]
      congr 1
      symm
      apply forall₂_map_eq
      refine Forall₂.imp_mem himg (fun g hg g' hg' hi => ?_)
      simp only [Function.comp]
      have hvg := hvin g hg
      have hr : Reoriented (T.polygon g) g' := ⟨hi.valid, hi.center, hi.same_verts⟩
      rw [hcenter, pyramidVolume_reoriented (T.polygon g) g' (T.polygon_valid hk g hvg)
        (XC.imgOf_polygon T hk g hvg (hcin g hg)).center hr (XC.centreInside_polygon T hk g (hci g hg))
        (hci' g' hg') (T.pt B.center)]
      exact (T.pyramidVolume_polygon hk g hvg.pts_ne_nil B.center).symm
    · obtain ⟨_, _, _, _, har, _⟩ := Polyhedron.mk?_reoriented_measures B0 hV F input hperm hrel hci B h
      obtain ⟨_, _, _, _, har', _⟩ :=
        Polyhedron.mk?_reoriented_measures (T.body B0) hV' _ input' hperm' hrel' hci' B' h'
      refine har'.trans ?_
      refine List.Perm.trans ?_ (har.map _).symm
      rw [XC.body_faces, List.map_map, List.map_map]
      refine List.Perm.of_eq (List.map_congr_left fun f _ => ?_)
      simp only [Function.comp, Xf.face, XC.normSq_vecArea2_cyc, mul_div_assoc]
  · intro hloc
    -- `B` itself as the reference body
    obtain ⟨_, hE⟩ := Polyhedron.mk?_reoriented_exactHyp_of_ok B0 hV hloc F input hperm hrel B h
    have hBloc : B.FaceLocal := hE.proper.faceLocal
    have hBvf : B.VertsOnFaces := Polyhedron.mk?_vertsOnFaces input hvin B h
    have hrB : List.Forall₂ Reoriented B.faces input := by
      rw [hfaces]
      have h1 : List.Forall₂ (fun g f => Reoriented f g) input (input.map (flipOf B.center)) :=
        Forall₂.map_self (flipOf B.center) input (fun g hg =>
          ⟨hvin g hg, hcin g hg, fun p => (SameSet.flipOf_mem B.center g (hvin g hg) p).symm⟩)
      exact h1.flip
    have hrB' : List.Forall₂ Reoriented ((T.body B).faces) input' := XC.forall₂_reoriented_face T hrB himg
    exact Polyhedron.mk?_reoriented_sameB_ref (T.body B) (XC.body_valid T hk B hBV) (XC.body_faceLocal T hk B hBloc)
      (XC.body_vertsOnFaces T B hBvf) _ input' (List.Perm.refl _) hrB' B' h'

/-- the transformed reference body is again a Valid reference body -/
theorem body_symmetry_valid (T : Xf) (hk : 0 < T.k) (B : Polyhedron) (hV : B.Valid) : (T.body B).Valid :=
  XC.body_valid T hk B hV

/-- flat constructors: Line / Segment / HalfLine / Plane(point, normal) commute exactly (same exception when they raise) -/
theorem flat_constructors_commute (T : Xf) (hk : 0 < T.k) (p q v : V3) :
    Line.mk? (T.pt p) (T.dir v) = (Line.mk? p v).map T.line ∧
    Seg.mk? (T.pt p) (T.pt q) = (Seg.mk? p q).map T.seg ∧
    HalfLine.ofVec? (T.pt p) (T.dir v) = (HalfLine.ofVec? p v).map T.halfline :=
  ⟨XC.line_mk? T hk p v, XC.seg_mk? T hk p q, XC.halfline_ofVec? T hk p v⟩

end G3D.Props.C13
