import G3D.Extracted.Khash
import G3D.Proofs.KhashLemmas
/-! # khash, `Line.__hash__`  (C08, C19)
    `G3D.Extracted.impl_hash_*` are regenerated on every run (tools/extract_khash.py, engine tools/khash_engine.py on tools/kernels_engine.py):
    the REAL `__hash__` bodies are run on symbolic numbers with `hash` / `round` / `get_sig_figures` / `get_eps` shimmed; `H` is the
    uninterpreted hash of a tuple, `rnd` / `rndI` the uninterpreted `round(., get_sig_figures())` on numbers / integers, `sig` / `neg`
    the uninterpreted answers to `abs(c) > get_eps()` / `c < 0`.  Every statement holds FOR ALL H, rnd, rndI.  Each kernel has its own
    `section`: when the walk of ONE kernel fails the generated file holds only the marker `impl_<kernel>_EXTRACTION_FAILED` for it
    and exactly the theorems of that section stop compiling.  The reference functions (`…Ref`, `…OfKey`) and their reading through
    the hash keys of `Model/HashKey.lean` are hand-written in `Proofs/KhashLemmas.lean`. -/
namespace G3D.KTie.Khash
open G3D G3D.Extracted G3D.KTie

section hash_Line
/-- the comparisons the body asks (on the components of `dv.normalized()`) and the seven paths of the loop -/
theorem hash_Line_paths :
    impl_hash_Line_oracles = [("sig", "abs(R) > eps"), ("neg", "R < 0")] ∧
    impl_hash_Line_paths = [[("abs(R) > eps", true), ("R < 0", true)], [("abs(R) > eps", true), ("R < 0", false)],
      [("abs(R) > eps", false), ("abs(R) > eps", true), ("R < 0", true)],
      [("abs(R) > eps", false), ("abs(R) > eps", true), ("R < 0", false)],
      [("abs(R) > eps", false), ("abs(R) > eps", false), ("abs(R) > eps", true), ("R < 0", true)],
      [("abs(R) > eps", false), ("abs(R) > eps", false), ("abs(R) > eps", true), ("R < 0", false)],
      [("abs(R) > eps", false), ("abs(R) > eps", false), ("abs(R) > eps", false)]] := ⟨rfl, rfl⟩

/-- the length under the shared square root is `|dv|` -/
theorem hash_Line_sqrt (sv dv : RVec) : impl_hash_Line_sqrt0 sv dv = √(RVec.normSq dv) := by
  simp only [impl_hash_Line_sqrt0, sum0]

/-- the foot point as the code orders its factors -/
theorem foot_comm (a c x y z ux uy uz : ℝ) :
    a - c * (0 + x * ux + y * uy + z * uz) = a - (x * ux + y * uy + z * uz) * c := by ring

/-- in the flipped leaves both factors of the foot point carry the sign, which cancels -/
theorem neg_dot_neg (x y z a b c d : ℝ) : (x * -a + y * -b + z * -c) * -d = (x * a + y * b + z * c) * d := by ring

/-- under the exact reading of the comparisons the extracted decision tree IS the reference: the canonical unit direction
    (first non-zero component positive) and the foot of the origin `sv − (sv·d) d` (in which the sign cancels), rounded, tag "Line" -/
theorem hash_Line_tie (H : HFun) (rnd : ℝ → ℝ) (sv dv : RVec) :
    impl_hash_Line H rnd sigE negE sv dv = lineHashRef H rnd sv dv := by
  simp only [impl_hash_Line, hash_Line_sqrt]
  refine canon_loop (unitR dv) (fun h => ?_) (fun h => ?_) <;> simp only [lineHashRef, h, foot_comm] <;>
    simp only [unitR, RVec.dot, mul_neg_one, neg_one_mul, one_mul, neg_dot_neg]

/-- **the extracted hash of a line depends only on the model's `Line.hashKey`** (canonical unit direction, foot point) -/
theorem hash_Line_key (H : HFun) (rnd : ℝ → ℝ) (l : Line) (h : l.WF) :
    impl_hash_Line H rnd sigE negE l.sv.toR l.dv.toR = lineHashOfKey H rnd (Line.hashKey l) := by
  rw [hash_Line_tie, lineHashRef_key H rnd l h]

/-- **EQUAL LINES HAVE EQUAL EXTRACTED HASHES**, for every H and every rounding (any support point, any direction of any length
    and sign) -/
theorem hash_Line_eq_of_eqv (H : HFun) (rnd : ℝ → ℝ) (a b : Line) (ha : a.WF) (hb : b.WF) (h : a.eqv b = true) :
    impl_hash_Line H rnd sigE negE a.sv.toR a.dv.toR = impl_hash_Line H rnd sigE negE b.sv.toR b.dv.toR := by
  rw [hash_Line_key H rnd a ha, hash_Line_key H rnd b hb, (Line.eqv_iff_hashKey a b ha hb).mp h]

/-- (C19) for a tolerance e ≥ 0 and a unit direction whose non-zero components all exceed e in absolute value, the
    tolerance-aware reading of `abs(c) > get_eps()` takes the same path as the exact one -/
theorem hash_Line_tol (H : HFun) (rnd : ℝ → ℝ) (e : ℝ) (he : 0 ≤ e) (sv dv : RVec)
    (hx : (unitR dv).x = 0 ∨ e < |(unitR dv).x|) (hy : (unitR dv).y = 0 ∨ e < |(unitR dv).y|)
    (hz : (unitR dv).z = 0 ∨ e < |(unitR dv).z|) :
    impl_hash_Line H rnd (sigT e) negE sv dv = impl_hash_Line H rnd sigE negE sv dv := by
  simp only [unitR] at hx hy hz
  simp only [impl_hash_Line, hash_Line_sqrt, sigT_eq_sigE he hx, sigT_eq_sigE he hy, sigT_eq_sigE he hz]

/-- non-vacuity: the line through (0,0,1) with direction (1,2,2), given again by another of its points and the direction −3·(1,2,2) -/
theorem hash_Line_example (H : HFun) (rnd : ℝ → ℝ) :
    impl_hash_Line H rnd sigE negE (V3.toR ⟨0, 0, 1⟩) (V3.toR ⟨1, 2, 2⟩)
      = impl_hash_Line H rnd sigE negE (V3.toR ⟨-2, -4, -3⟩) (V3.toR ⟨-3, -6, -6⟩) :=
  hash_Line_eq_of_eqv H rnd ⟨⟨0, 0, 1⟩, ⟨1, 2, 2⟩⟩ ⟨⟨-2, -4, -3⟩, ⟨-3, -6, -6⟩⟩ (by unfold Line.WF; decide +kernel)
    (by unfold Line.WF; decide +kernel) (by decide +kernel)

/-- (C19) every `round` of the body takes its digit count from the LIVE `get_sig_figures()` (offset 0) -/
theorem hash_Line_roundings : impl_hash_Line_roundings = [0] := rfl
end hash_Line

#print axioms hash_Line_key
#print axioms hash_Line_eq_of_eqv
#print axioms hash_Line_tol
end G3D.KTie.Khash
