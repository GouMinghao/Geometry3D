import G3D.Proofs.MethodsTieBase
/-! # group `mpolyhedron`: helper lemmas about the runtime and the model only — the collecting round, the records of the orientation loops of the constructor and of `move`, indexed loops with an invariant (NO extracted definition occurs here, so this module never breaks when a method changes) -/
set_option linter.style.nameCheck false
namespace G3D.Tie
open V3 PyRt 

/-- the outward test of one face: `Vector(center, face.plane.p) * face.plane.n >= -eps` -/
def outward (c : V3) (f : Polygon) : Bool := decide (0 ≤ dot (sub f.plane.p c) f.plane.n)

theorem all_outward (c : V3) (fs : List Polygon) :
    fs.all (outward c) = fs.all fun f => decide (0 ≤ dot (sub f.plane.p c) f.plane.n) := rfl

/-- the record with the two collected sets replaced -/
def setVE (s : Self) (vs : List V3) (es : List Seg) : Self :=
  { s with f_point_set := some (Val.ptSet vs), f_segment_set := some (.set (es.map sgObj)) }

/-- one round of the collecting loop: the vertices and the edges of one face -/
def collectStep (f : Polygon) (st : List V3 × List Seg) : PyM (ForInStep (List V3 × List Seg)) := do
  let ss ← liftC f.segments?
  pure (.yield (f.pts.foldl addPt st.1, ss.foldl addSeg st.2))

theorem addPt_eq_addNew : addPt = addNew := rfl

theorem collect_forIn (fs : List Polygon) (vs : List V3) (es : List Seg) :
    forIn fs (vs, es) collectStep =
      (do let es' ← liftC (collectEdges fs es); pure (fs.foldl (fun acc f => f.pts.foldl addPt acc) vs, es')) := by
  induction fs generalizing vs es with
  | nil => simp [collectEdges, liftC]
  | cons f fs ih =>
    rw [List.forIn_cons]
    simp only [collectStep, collectEdges]
    cases f.segments? with
    | error e => rfl
    | ok ss =>
      simp only [liftC, pyrt, List.foldl_cons]
      rw [ih]
      simp [liftC]

theorem collect_body_eq (s0 : Self) (f : Polygon) (vs : List V3) (es : List Seg) :
    (do
      let a ← pyAttr_points ((Val.obj ∘ Obj.polygon) f)
      let it ← pyIter a
      let s ← forIn it (setVE s0 vs es) fun point s => do
          let v ← pyFld s.f_point_set
          (fun a => ForInStep.yield { s with f_point_set := some a }) <$> pySetAddM v point
      let b ← pyMeth_segments ((Val.obj ∘ Obj.polygon) f)
      let it ← pyIter b
      ForInStep.yield <$> forIn it s fun segment s => do
          let v ← pyFld s.f_segment_set
          (fun a => ForInStep.yield { s with f_segment_set := some a }) <$> pySetAddM v segment) =
    ForInStep.map' (fun st : List V3 × List Seg => setVE s0 st.1 st.2) <$> collectStep f (vs, es) := by
  simp only [Function.comp, pyrt, List.map_map, collectStep, pyMeth_segments]
  rw [forIn_repr (Val.obj ∘ ptObj) (fun vs' => setVE s0 vs' es) f.pts _ (fun p vs' => .ok (.yield (addPt vs' p)))]
  · rw [forIn_yield f.pts addPt]
    simp only [pyrt]
    cases f.segments? with
    | error e => rfl
    | ok ss =>
      simp only [liftC, pyrt, List.map_map]
      rw [forIn_repr (Val.obj ∘ sgObj) (fun es' => setVE s0 (f.pts.foldl addPt vs) es') ss _ (fun t es' => .ok (.yield (addSeg es' t)))]
      · rw [forIn_yield ss addSeg]
        simp [ForInStep.map']
      · intro t _ es'
        simp [setVE, pyFld, sgObj, pySetAddM, ForInStep.map']
  · intro p _ vs'
    simp [setVE, pyFld, Val.ptSet, ptObj, pySetAddM, ForInStep.map', addPt_eq_addNew]

/-- `forIn_repr` for a `range(len(xs))` loop whose body is tied to the model step only under an invariant on the
    index (the loop reads `container[i]` while it replaces items of the container) -/
theorem forIn_repr_idx {α σ τ : Type} (repr : σ → τ) (body : Val → τ → PyM (ForInStep τ)) (step : α → σ → PyM (ForInStep σ)) :
    ∀ (xs : List α) (I : Nat → σ → Prop) (lo : Int) (s : σ), I 0 s →
      (∀ k x, xs[k]? = some x → ∀ s, I k s → body (.int (lo + k)) (repr s) = ForInStep.map' repr <$> step x s) →
      (∀ k x, xs[k]? = some x → ∀ s s', I k s → step x s = .ok (.yield s') → I (k + 1) s') →
      forIn ((intsFrom lo xs.length).map Val.int) (repr s) body = repr <$> forIn xs s step := by
  intro xs
  induction xs with
  | nil => intros; simp [intsFrom]
  | cons x xs ih =>
    intro I lo s h0 hb hs
    have hx := hb 0 x rfl s h0
    rw [Nat.cast_zero, Int.add_zero] at hx
    simp only [List.length_cons, intsFrom, List.map_cons, List.forIn_cons, hx]
    cases hst : step x s with
    | error e => rfl
    | ok r =>
      cases r with
      | done s' => simp [ForInStep.map']
      | yield s' =>
        simp only [ForInStep.map', except_map_ok, ok_bind]
        exact ih (fun k => I (k + 1)) (lo + 1) s' (hs 0 x rfl s s' h0 hst)
          (fun k y hy t ht => by simpa [Int.add_assoc, Int.add_comm 1] using hb (k + 1) y hy t ht)
          (fun k y hy => hs (k + 1) y hy)

theorem forIn_repr_idx0 {α σ τ : Type} (repr : σ → τ) (I : Nat → σ → Prop) (body : Val → τ → PyM (ForInStep τ))
    (step : α → σ → PyM (ForInStep σ)) (xs : List α) (s : σ) (h0 : I 0 s)
    (hb : ∀ k x, xs[k]? = some x → ∀ s, I k s → body (.int (k : Int)) (repr s) = ForInStep.map' repr <$> step x s)
    (hs : ∀ k x, xs[k]? = some x → ∀ s s', I k s → step x s = .ok (.yield s') → I (k + 1) s') :
    forIn ((intsFrom 0 xs.length).map Val.int) (repr s) body = repr <$> forIn xs s step :=
  forIn_repr_idx repr body step xs I 0 s h0 (fun k x hx s hI => by rw [Int.zero_add]; exact hb k x hx s hI) hs
theorem flatPyr_append (P : List (Polygon × V3)) (f : Polygon) (c : V3) :
    flatPyr (P ++ [(f, c)]) = flatPyr P ++ [.polygon f, .flat (.point c)] := by
  induction P with
  | nil => rfl
  | cons x P ih => obtain ⟨g, d⟩ := x; simp [flatPyr, ih]

theorem unflatPyr_flatPyr (P : List (Polygon × V3)) : unflatPyr? (flatPyr P) = some P := by
  induction P with
  | nil => rfl
  | cons x P ih => obtain ⟨g, d⟩ := x; simp [flatPyr, unflatPyr?, ih]

theorem allSegs_sg (ss : List Seg) : allSegs? (ss.map sgObj) = some ss := by
  induction ss with
  | nil => rfl
  | cons s ss ih => simp [allSegs?, objSeg?, sgObj, ih]

/-- the record during the orientation loop of the constructor: `done` = the faces already processed (possibly flipped
    face, pyramid) -/
def orientRepr (fs : List Polygon) (vs : List V3) (es : List Seg) (c : V3) (done : List (Polygon × (Polygon × V3))) : Self :=
  { f_convex_polygons := some (.seq ((done.map (·.1) ++ fs.drop done.length).map Obj.polygon)),
    f_point_set := some (Val.ptSet vs), f_segment_set := some (.set (es.map sgObj)),
    f_pyramid_set := some (.set (flatPyr (done.map (·.2)))), f_center_point := some (.obj (ptObj c)) }

/-- the record after the four initialising assignments of the constructor -/
def initSelf (fs : List Polygon) : Self :=
  { f_convex_polygons := some (Val.seq (List.map Obj.polygon fs)), f_pyramid_set := some (Val.set []) }

theorem pyPack_ConvexPolyhedron_of (B : Polyhedron) : pyPack_ConvexPolyhedron (Self.ofPolyhedron B) = .ok (.obj (.polyhedron B)) := by
  simp [pyPack_ConvexPolyhedron, Self.ofPolyhedron, Val.ptSet, allSegs_sg, unflatPyr_flatPyr, ptObj]

/-- the exceptions of the model's `Polyhedron.move` as runtime exceptions (`TypeError` of the tuple item assignment is
    `.typeMismatch`) -/
def liftM {α : Type} : Except MErr α → PyM α
  | .ok a => .ok a
  | .error (.ctor e) => .error (.ctor e)
  | .error .typeErr => .error .typeMismatch

theorem liftM_mapM {α β : Type} (xs : List α) (g : α → Except MErr β) :
    liftM (xs.mapM g) = xs.mapM (fun x => liftM (g x)) := by
  induction xs with
  | nil => rfl
  | cons x xs ih =>
    simp only [List.mapM_cons, ← ih]
    rcases g x with (_ | _) | y <;> rcases xs.mapM g with (_ | _) | ys <;> rfl

/-- the record of `move` after its re-initialising assignments (the old centre is still there) -/
def moveSelf (B : Polyhedron) (fs : List Polygon) : Self :=
  { f_center_point := some (Val.obj (ptObj B.center)), f_convex_polygons := some (Val.seq (List.map Obj.polygon fs)), f_pyramid_set := some (Val.set []) }

/-- the record during the orientation loop of `move` (the faces are a tuple: nothing is replaced) -/
def moveRepr (fs : List Polygon) (vs : List V3) (es : List Seg) (c : V3) (done : List (Polygon × V3)) : Self :=
  { f_convex_polygons := some (.seq (fs.map Obj.polygon)), f_point_set := some (Val.ptSet vs),
    f_segment_set := some (.set (es.map sgObj)), f_pyramid_set := some (.set (flatPyr done)),
    f_center_point := some (.obj (ptObj c)) }

end G3D.Tie
