import G3D.Extracted.Mflat
import G3D.Proofs.MethodsTieBase
/-! # Tie, group `mflat`, role MEMBERSHIP (C05): every `__contains__` / `in_` cell of Line, Plane, Segment, HalfLine incl. the NotImplemented cells.
    `*_raw` = exact behaviour incl. the ZeroDivisionError of a degenerate segment, `*_eq_point` under `s.a ≠ s.b`.  Conventions, trusted readings and the deviations found: `G3D.Proofs.MethodsTie`, header of `G3D.Model.PyRtM`. -/
set_option linter.style.nameCheck false
namespace G3D.Tie
open V3 PyRt Extracted

theorem m_Line___contains___point (l : Line) (p : V3) :
    m_Line___contains__ (Self.ofLine l) (.obj (ptObj p)) = .ok (.bool (l.contains p)) := rfl

theorem m_Line___contains___seg (l : Line) (s : Seg) :
    m_Line___contains__ (Self.ofLine l) (.obj (sgObj s)) = .ok (.bool (l.containsSeg s)) := rfl

theorem m_Line___contains___halfline (l : Line) (h : HalfLine) :
    m_Line___contains__ (Self.ofLine l) (.obj (.flat (.halfline h))) = .ok (.bool (l.containsHalfLine h)) := rfl

theorem m_Line___contains___polygon (l : Line) (P : Polygon) :
    m_Line___contains__ (Self.ofLine l) (.obj (.polygon P)) = .error .notImpl := rfl

theorem m_Line___contains___line (l o : Line) :
    m_Line___contains__ (Self.ofLine l) (.obj (lnObj o)) = .error .notImpl := rfl

theorem m_Plane___contains___eq_point (a : Plane) (x : V3) :
    m_Plane___contains__ (Self.ofPlane a) (.obj (ptObj x)) = .ok (.bool (a.contains x)) := by
  unfold m_Plane___contains__
  simp [pyrt, Plane.contains, abs_sub_tol]

theorem m_Plane___contains___eq_line (a : Plane) (l : Line) :
    m_Plane___contains__ (Self.ofPlane a) (.obj (lnObj l)) = .ok (.bool (a.containsLine l)) := by
  unfold m_Plane___contains__
  simp [pyrt, Plane.containsLine]

theorem m_Plane___contains___eq_seg (a : Plane) (s : Seg) :
    m_Plane___contains__ (Self.ofPlane a) (.obj (sgObj s)) = .ok (.bool (a.containsSeg s)) := rfl

theorem m_Plane___contains___eq_halfline (a : Plane) (h : HalfLine) :
    m_Plane___contains__ (Self.ofPlane a) (.obj (.flat (.halfline h))) = .ok (.bool (a.containsHalfLine h)) := rfl

theorem m_Plane___contains___eq_polygon (a : Plane) (P : Polygon) :
    m_Plane___contains__ (Self.ofPlane a) (.obj (.polygon P)) = .ok (.bool (P.inPlane a)) := rfl

theorem m_Plane___contains___eq_plane (a b : Plane) :
    m_Plane___contains__ (Self.ofPlane a) (.obj (plObj b)) = .error .notImpl := rfl

theorem m_Segment___contains___raw_point (s : Seg) (x : V3) :
    m_Segment___contains__ (Self.ofSeg s) (.obj (ptObj x)) =
      if sub x s.a = zero then .ok (.bool true)
      else if s.b = s.a then .error (.ctor .zeroDiv) else .ok (.bool (s.contains x)) := by
  unfold m_Segment___contains__
  simp [pyrt, Seg.contains, normSq_le_zero_iff, normSq_eq_zero, sub_eq_zero_iff]
  by_cases h1 : x = s.a
  · simp [h1]
  · by_cases h2 : s.b = s.a
    · simp [h1, h2]
    · simp [h1, h2]
      cases s.line.contains x <;> simp [pyrt]

theorem m_Segment___contains___eq_seg (s o : Seg) :
    m_Segment___contains__ (Self.ofSeg s) (.obj (sgObj o)) = .ok (.bool (s.containsSeg o)) := by
  unfold m_Segment___contains__
  simp [pyrt, Seg.containsSeg]

theorem m_Segment___contains___eq_other (s : Seg) (l : Line) :
    m_Segment___contains__ (Self.ofSeg s) (.obj (lnObj l)) = .ok (.bool false) := rfl

theorem m_Segment_in__eq_line (s : Seg) (l : Line) :
    m_Segment_in_ (Self.ofSeg s) (.obj (lnObj l)) = .ok (.bool (l.containsSeg s)) := by
  unfold m_Segment_in_
  simp [pyrt, Line.containsSeg]

theorem m_Segment_in__eq_plane (s : Seg) (a : Plane) :
    m_Segment_in_ (Self.ofSeg s) (.obj (plObj a)) = .ok (.bool (a.containsSeg s)) := by
  unfold m_Segment_in_
  simp [pyrt, Plane.containsSeg]

theorem m_HalfLine___contains___eq_point (h : HalfLine) (x : V3) :
    m_HalfLine___contains__ (Self.ofHalfLine h) (.obj (ptObj x)) = .ok (.bool (h.contains x)) := by
  unfold m_HalfLine___contains__
  simp [pyrt, HalfLine.contains]
  cases h.line.contains x <;> simp

theorem m_HalfLine___contains___eq_seg (h : HalfLine) (s : Seg) :
    m_HalfLine___contains__ (Self.ofHalfLine h) (.obj (sgObj s)) = .ok (.bool (h.containsSeg s)) := by
  unfold m_HalfLine___contains__
  simp [pyrt, HalfLine.containsSeg]

theorem m_HalfLine___contains___eq_halfline (h o : HalfLine) :
    m_HalfLine___contains__ (Self.ofHalfLine h) (.obj (.flat (.halfline o))) = .ok (.bool (h.containsHL o)) := by
  unfold m_HalfLine___contains__
  simp [pyrt, HalfLine.containsHL, Bool.and_assoc]

theorem m_HalfLine___contains___eq_other (h : HalfLine) (l : Line) :
    m_HalfLine___contains__ (Self.ofHalfLine h) (.obj (lnObj l)) = .ok (.bool false) := rfl

theorem m_HalfLine_in__eq_line (h : HalfLine) (l : Line) :
    m_HalfLine_in_ (Self.ofHalfLine h) (.obj (lnObj l)) = .ok (.bool (l.containsHalfLine h)) := by
  unfold m_HalfLine_in_
  simp [pyrt, Line.containsHalfLine]

theorem m_HalfLine_in__eq_plane (h : HalfLine) (a : Plane) :
    m_HalfLine_in_ (Self.ofHalfLine h) (.obj (plObj a)) = .ok (.bool (a.containsHalfLine h)) := by
  unfold m_HalfLine_in_
  simp [pyrt, Plane.containsHalfLine]

theorem m_Segment___contains___eq_point (s : Seg) (x : V3) (h : s.a ≠ s.b) :
    m_Segment___contains__ (Self.ofSeg s) (.obj (ptObj x)) = .ok (.bool (s.contains x)) := by
  rw [m_Segment___contains___raw_point]
  by_cases hx : sub x s.a = zero
  · simp [hx, Seg.contains, normSq_eq_zero]
  · have h' : ¬ s.b = s.a := fun e => h e.symm
    simp [hx, h']

end G3D.Tie
