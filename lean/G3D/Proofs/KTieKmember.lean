import G3D.Extracted.Kmember
import G3D.Model.Flat
import G3D.Proofs.Vec
/-! # kmember (rational part): `Plane.__contains__(Point / Line)`, `HalfLine.__contains__(Point)`  (C05, C19)
    `G3D.Extracted.impl_*` are regenerated on every run (tools/extract_kmember.py, engine tools/kernels_engine.py): the REAL code is run on
    symbolic numbers, every comparison against the tolerance is recorded (operands and shape) and answered from a scripted
    path.  Each kernel has its own `section`: when the walk of ONE kernel fails the generated file holds only the marker
    `impl_<kernel>_EXTRACTION_FAILED` for it and exactly the theorems of that section stop compiling.
    (the constructor pins of this group are in KTieKmemberCtor / KTieKmemberrCtor) -/
namespace G3D.KTie.Kmember
open G3D V3 G3D.Extracted

section planeContains
theorem planeContains_tie (pl : Plane) (x : V3) :
    impl_planeContains_residual pl.p pl.n x = dot (sub x pl.p) pl.n := by
  simp only [impl_planeContains_residual, dot, sub]; ring

/-- the model's membership test is the exact reading `R = 0` of the recorded `abs(R) < eps` -/
theorem planeContains_iff (pl : Plane) (x : V3) :
    pl.contains x = true ↔ impl_planeContains_residual pl.p pl.n x = 0 := by
  simp only [Plane.contains, beq_iff_eq, impl_planeContains_residual, dot, zero_add]

theorem planeContains_shape : impl_planeContains_shape = "abs(R) < eps" := rfl

theorem planeContains_path : impl_planeContains_path = [("abs(R) < eps", true)] ∧ impl_planeCtor_path = [] := ⟨rfl, rfl⟩
end planeContains

section planeContainsLine
theorem planeContainsLine_tie (pl : Plane) (l : Line) :
    impl_planeContainsLine_residual0 pl.p pl.n l.sv l.dv = dot (sub l.sv pl.p) pl.n ∧
    impl_planeContainsLine_residual1 pl.p pl.n l.sv l.dv = dot l.dv pl.n := by
  constructor
  · simp only [impl_planeContainsLine_residual0, dot, sub]; ring
  · simp only [impl_planeContainsLine_residual1, dot]; ring

theorem planeContainsLine_iff (pl : Plane) (l : Line) :
    pl.containsLine l = true ↔
      impl_planeContainsLine_residual0 pl.p pl.n l.sv l.dv = 0 ∧ impl_planeContainsLine_residual1 pl.p pl.n l.sv l.dv = 0 := by
  simp only [Plane.containsLine, Plane.contains, V3.orthogonal, Bool.and_eq_true, beq_iff_eq,
    impl_planeContainsLine_residual0, impl_planeContainsLine_residual1, dot, zero_add]

theorem planeContainsLine_path :
    impl_planeContainsLine_path = [("abs(R) < eps", true), ("abs(R) < eps", true)] := rfl
end planeContainsLine

section halfLineContains
theorem halfLineContains_tie (h : HalfLine) (x : V3) :
    impl_halfLineContains_proj h.p h.v x = dot (sub x h.p) h.v := by
  simp only [impl_halfLineContains_proj, dot, sub]; ring

/-- the model's test = carrier line ∧ exact reading `0 ≤ R` of the recorded `R > -eps` -/
theorem halfLineContains_iff (h : HalfLine) (x : V3) :
    h.contains x = true ↔ h.line.contains x = true ∧ 0 ≤ impl_halfLineContains_proj h.p h.v x := by
  rw [halfLineContains_tie]
  unfold HalfLine.contains
  by_cases hc : h.line.contains x = true <;> simp [hc]

theorem halfLineContains_paths :
    impl_halfLineContains_shape = "R > -eps" ∧
    impl_halfLineContains_path = [("abs(R) < eps", false), ("abs(R) < eps", false), ("abs(R) < eps", false), ("abs(R) < (eps * S)", true), ("R > -eps", true)] ∧
    impl_halfLineContainsOffLine_path = [("abs(R) < eps", false), ("abs(R) < eps", false), ("abs(R) < eps", false), ("abs(R) < (eps * S)", false)] := ⟨rfl, rfl, rfl⟩
end halfLineContains

end G3D.KTie.Kmember
