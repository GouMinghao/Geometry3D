import G3D.Extracted.Solver
import G3D.Proofs.SolverTieBase
/-! Tie of `shape`, `find_pivot_row`, `gaussian_elimination` (G3D/Extracted/Solver.lean, generated from
    Geometry3D/utils/solver.py) to the hand model G3D/Model/Solver2.lean.  Property C16 (and C17 through Plane). -/
set_option linter.unusedSimpArgs false
namespace G3D.SolverTie
open G3D.PyRtS G3D.Extracted G3D.Solver2

theorem shape_tie (m : List (List Rat)) :
    s_shape m = .ok ((m.length : Int), ((m.headD []).length : Int)) := by
  cases m with
  | nil => rfl
  | cons r rs =>
    have h : pyIdx (r :: rs) (0 : Int) = .ok r := pyIdx_nat 0 rfl (by simp)
    unfold s_shape
    simp [pyTruthy, pyLen, h]


/-- the candidate list that the loop of `find_pivot_row` builds (rows numbered from `k`) -/
def candsOf : Nat → List Row → List (Rat × Int)
  | _, [] => []
  | k, r :: rs => if r.getD 0 0 != 0 then (pyAbs (r.getD 0 0), (k : Int)) :: candsOf (k + 1) rs else candsOf (k + 1) rs

theorem pivot_loop : ∀ (rows : List Row) (k : Nat) (cands : List (Rat × Int)), (∀ r ∈ rows, r ≠ []) →
    (forIn (enumFrom k rows) cands fun x __s =>
          match x with
          | (i, row) => do
            let a ← pyIdx row 0
            if (a != 0) = true then do
                let b ← pyIdx row 0
                Except.ok (ForInStep.yield (pyAppend __s (pyAbs b, i)))
              else Except.ok (ForInStep.yield __s))
      = Except.ok (cands ++ candsOf k rows) := by
  intro rows
  induction rows with
  | nil => intro k cands _; simp [candsOf]
  | cons r rs ih =>
    intro k cands hne
    have ihx := fun c => ih (k + 1) c (fun y hy => hne y (List.mem_cons_of_mem _ hy))
    have hr : r ≠ [] := hne r (List.mem_cons_self ..)
    have h0 : pyIdx r (0 : Int) = .ok (r.getD 0 0) := pyIdx_getD 0 rfl (List.length_pos_iff.mpr hr)
    rw [enumFrom_cons, List.forIn_cons]
    simp only [h0, ok_bind]
    cases hz : (r.getD 0 0 != 0)
    · simp only [Bool.false_eq_true, if_false, ok_bind]
      rw [ihx]; simp only [candsOf, hz, Bool.false_eq_true, if_false]
    · simp only [if_true, ok_bind]
      rw [ihx]; simp only [candsOf, hz, if_true, pyAppend, List.append_assoc, List.singleton_append]

/-- running maximum as Python's `max` computes it (`none`: nothing seen yet) -/
def optMax (ob : Option (Rat × Int)) (l : List (Rat × Int)) : Option (Rat × Int) :=
  l.foldl (fun ob y => match ob with
    | none => some y
    | some b => some (if pyTupLt b y then y else b)) ob

theorem optMax_some (x : Rat × Int) (l : List (Rat × Int)) :
    optMax (some x) l = some (l.foldl (fun best y => if pyTupLt best y then y else best) x) := by
  induction l generalizing x with
  | nil => rfl
  | cons y ys ih => simp only [optMax, List.foldl_cons] at ih ⊢; exact ih _

/-- `max(candidates)[1]`, or `None` when there is no candidate -/
theorem truthy_max (l : List (Rat × Int)) :
    (if !(pyTruthy l) then (pure none : PyM (Option Int)) else do let x ← pyMax l; pure (some x.2))
      = .ok ((optMax none l).map (·.2)) := by
  cases l with
  | nil => rfl
  | cons x xs => show _ = Except.ok ((optMax (some x) xs).map (·.2)); rw [optMax_some]; rfl

def emb (p : Rat × Nat) : Rat × Int := (p.1, (p.2 : Int))

theorem pivotAux_optMax : ∀ (rows : List Row) (k : Nat) (best : Option (Rat × Nat)),
    (∀ b, best = some b → b.2 < k) →
    (pivotAux 0 rows k best).map emb = optMax (best.map emb) (candsOf k rows) := by
  intro rows
  induction rows with
  | nil => intro k best _; simp [pivotAux, candsOf, optMax]
  | cons r rs ih =>
    intro k best hb
    simp only [pivotAux, candsOf]
    generalize r.getD 0 0 = x
    by_cases hz : x = 0
    · have hz' : (x != 0) = false := by simp [hz]
      simp only [hz, if_true, hz']
      simpa [hz] using ih (k + 1) best (fun b h => Nat.lt_succ_of_lt (hb b h))
    · have hz' : (x != 0) = true := by simp [hz]
      simp only [hz, hz', if_false, if_true]
      have hnew : ∀ b, some (absR x, k) = some b → b.2 < k + 1 := by
        intro b h; cases h; simp
      cases best with
      | none =>
        simp only
        rw [ih (k + 1) _ hnew]
        rfl
      | some bb =>
        obtain ⟨b, bi⟩ := bb
        have hbi : bi < k := hb (b, bi) rfl
        simp only
        have e : pyAbs x = absR x := rfl
        have key : pyTupLt (emb (b, bi)) (pyAbs x, (k : Int)) = decide (b ≤ absR x) := by
          simp only [pyTupLt, emb, e]
          have hlt : ((bi : Int) < (k : Int)) := by exact_mod_cast hbi
          by_cases h1 : b < absR x
          · simp [h1, le_of_lt h1]
          · by_cases h2 : b = absR x
            · simp [h2, hlt]
            · have : ¬ b ≤ absR x := fun hle => h1 (lt_of_le_of_ne hle h2)
              simp [h1, h2, this]
        simp only [optMax, List.foldl_cons, Option.map_some, key]
        by_cases hle : b ≤ absR x
        · simp only [hle, if_true, decide_true]
          exact ih (k + 1) _ hnew
        · simp only [hle, if_false, decide_false, Bool.false_eq_true]
          exact ih (k + 1) _ (fun b' h => by cases h; exact Nat.lt_succ_of_lt hbi)

theorem find_pivot_row_tie0 (rows : List Row) (hne : ∀ r ∈ rows, r ≠ []) :
    s_find_pivot_row rows = .ok ((pivotIdx rows 0).map (fun (n : Nat) => (n : Int))) := by
  unfold s_find_pivot_row
  simp only [pure_eq_ok, pyEnumerate_eq]
  rw [pivot_loop rows 0 [] hne]
  simp only [ok_bind, List.nil_append]
  refine (truthy_max (candsOf 0 rows)).trans ?_
  rw [← Option.map_none emb, ← pivotAux_optMax rows 0 none (by intro b h; cases h), pivotIdx]
  cases pivotAux 0 rows 0 none <;> rfl

theorem getD_drop_zero (r : Row) (j : Nat) : (r.drop j).getD 0 0 = r.getD j 0 := by
  simp [List.getD_eq_getElem?_getD]

theorem pivotAux_drop (j : Nat) : ∀ (rows : List Row) (k : Nat) (best : Option (Rat × Nat)),
    pivotAux 0 (rows.map (fun r => r.drop j)) k best = pivotAux j rows k best := by
  intro rows
  induction rows with
  | nil => intro k best; rfl
  | cons r rs ih =>
    intro k best
    simp only [List.map_cons, pivotAux, getD_drop_zero, ih]

/-- `find_pivot_row` on the sliced rows `[row[j:] for row in rows]` is the model's pivot search in column `j` -/
theorem find_pivot_row_tie (rows : List Row) (j : Nat) (hlen : ∀ r ∈ rows, j < r.length) :
    s_find_pivot_row (rows.map (fun r => r.drop j)) = .ok ((pivotIdx rows j).map (fun (n : Nat) => (n : Int))) := by
  rw [find_pivot_row_tie0]
  · unfold pivotIdx; rw [pivotAux_drop]
  · intro r hr
    obtain ⟨r', hr', rfl⟩ := List.mem_map.mp hr
    have := hlen r' hr'
    intro h
    have : (r'.drop j).length = 0 := by rw [h]; rfl
    simp at this; omega


/-- body of the inner loop `for i in range(r + 1, M)` (state: `m`) -/
def innerBody (r j : Int) (i : Int) (m : Mat) : PyM (ForInStep Mat) := do
  let factor : Rat := (← pyDiv (← pyIdx (← pyIdx m i) j) (← pyIdx (← pyIdx m r) j)) * (-1 : Rat)
  let multiplied_row : List Rat ← pyComp (fun x => do return factor * x) (← pyIdx m r)
  let m' ← pySetIdx m i (← pyComp (fun ((x, y) : Rat × Rat) => do return x + y) (pyZip (← pyIdx m i) multiplied_row))
  pure (ForInStep.yield m')

/-- body of the outer loop `for j in range(N - 1)` (state: `(m, r)`) -/
def outerBody (M : Int) (j : Int) (st : Mat × Int) : PyM (ForInStep (Mat × Int)) := do
  let m := st.1
  let r := st.2
  if decide (r ≥ M) then
    return ForInStep.done (m, r)
  let pivot : Option Int ← s_find_pivot_row (← pyComp (fun row => do return pySliceFrom row j) (pySliceFrom m r))
  if pyIsNone pivot then
    return ForInStep.yield (m, r)
  let pivot : Option Int := some ((← pyNum pivot) + r)
  let swap_1 ← pyIdx m (← pyNum pivot)
  let swap_2 ← pyIdx m r
  let m ← pySetIdx m r swap_1
  let m ← pySetIdx m (← pyNum pivot) swap_2
  let m ← forIn (pyRange (r + 1) M) m (innerBody r j)
  return ForInStep.yield (m, r + 1)

theorem gauss_unfold (m : Mat) : s_gaussian_elimination m = (do
    let (M, N) ← s_shape m
    let st ← forIn (pyRange 0 (N - 1)) (m, (0 : Int)) (outerBody M)
    pure st.1) := by
  rfl

theorem pyIdx_of_getElem? {α} {l : List α} {i : Int} {x : α} (k : Nat) (hi : i = (k : Int)) (h : l[k]? = some x) :
    pyIdx l i = .ok x := by
  have hk : k < l.length := by
    by_contra hc; rw [List.getElem?_eq_none (by omega)] at h; cases h
  rw [pyIdx_nat k hi hk]
  rw [List.getElem?_eq_getElem hk] at h; cases h; rfl

theorem zip_addMul (f : Rat) : ∀ (p row : Row),
    (List.zip row (p.map (fun x => f * x))).map (fun ((x, y) : Rat × Rat) => x + y)
      = List.zipWith (fun y x => x + f * y) p row := by
  intro p
  induction p with
  | nil => intro row; cases row <;> simp
  | cons a as ih => intro row; cases row with
    | nil => simp
    | cons b bs => simp [ih bs]

theorem inner_loop (r j : Nat) (p : Row) (nc M : Nat) (hp : p.length = nc) (hj : j < nc) (hpj : p.getD j 0 ≠ 0) :
    ∀ (todo A : List Row), A.length + todo.length = M → A[r]? = some p → (∀ row ∈ todo, row.length = nc) →
      forIn (pyRange (A.length : Int) (M : Int)) (A ++ todo) (innerBody (r : Int) (j : Int))
        = .ok (A ++ todo.map (elimRow p j)) := by
  intro todo
  induction todo with
  | nil => intro A hM _ _; rw [pyRange_empty (by simp at hM; omega)]; simp
  | cons row rest ih =>
    intro A hM hA hrows
    rw [List.length_cons] at hM
    have hrow : row.length = nc := hrows row (List.mem_cons_self ..)
    rw [pyRange_cons (by omega), List.forIn_cons]
    have e1 : pyIdx (A ++ row :: rest) (A.length : Int) = .ok row :=
      pyIdx_of_getElem? A.length rfl (by simp)
    have hA' : ∀ B, (A ++ B)[r]? = some p := fun B => by
      rw [List.getElem?_append_left (by by_contra hc; rw [List.getElem?_eq_none (by omega)] at hA; cases hA)]; exact hA
    have e2 : pyIdx (A ++ row :: rest) (r : Int) = .ok p := pyIdx_of_getElem? r rfl (hA' _)
    have e3 : pyIdx row (j : Int) = .ok (row.getD j 0) := pyIdx_getD j rfl (by omega)
    have e4 : pyIdx p (j : Int) = .ok (p.getD j 0) := pyIdx_getD j rfl (by omega)
    have e5 : ∀ x, pySetIdx (A ++ row :: rest) (A.length : Int) x = .ok (A ++ x :: rest) := by
      intro x; rw [pySetIdx_nat A.length x rfl (by simp)]; simp
    have step : innerBody (r : Int) (j : Int) (A.length : Int) (A ++ row :: rest)
        = .ok (ForInStep.yield ((A ++ [elimRow p j row]) ++ rest)) := by
      unfold innerBody
      simp only [e1, e2, e3, e4, ok_bind, pyDiv, hpj, if_false, pure_eq_ok, pyComp_ok, pyZip, e5]
      simp only [zip_addMul, elimRow, addMul, List.append_assoc, List.singleton_append]
      rw [show row.getD j 0 / p.getD j 0 * -1 = -(row.getD j 0 / p.getD j 0) by ring]
    rw [step]
    simp only [ok_bind]
    have := ih (A ++ [elimRow p j row]) (by rw [List.length_append, List.length_singleton]; omega) (hA' _)
      (fun x hx => hrows x (List.mem_cons_of_mem _ hx))
    rw [List.length_append, List.length_singleton, Nat.cast_succ] at this
    rw [this]
    simp

theorem takePivot_swap (r0 : Row) (rs : List Row) (k : Nat) (hk : k < (r0 :: rs).length) :
    ((r0 :: rs).set 0 ((r0 :: rs).getD k [])).set k r0
      = (takePivot (r0 :: rs) k).1 :: (takePivot (r0 :: rs) k).2 := by
  unfold takePivot
  by_cases h0 : k = 0
  · subst h0; simp
  · obtain ⟨k', rfl⟩ : ∃ k', k = k' + 1 := ⟨k - 1, by omega⟩
    have hk' : k' < rs.length := by simpa using hk
    simp only [h0, if_false, List.set_cons_zero, List.set_cons_succ, Nat.add_sub_cancel,
      List.getD_cons_succ]
    rw [List.set_eq_take_append_cons_drop, if_pos hk']

theorem gaussRec_done (fuel nc j : Nat) (rows : List Row) (h : nc ≤ j + 1) : gaussRec fuel nc j rows = rows := by
  cases fuel with
  | zero => rfl
  | succ f => simp [gaussRec, h]

theorem outer_loop (nc M : Nat) : ∀ (cnt j : Nat) (done rest : List Row) (fuel : Nat),
    cnt = nc - 1 - j → cnt ≤ fuel → Uniform nc (done ++ rest) → done.length + rest.length = M →
    (Prod.fst <$> forIn (pyRange (j : Int) ((nc : Int) - 1)) (done ++ rest, (done.length : Int)) (outerBody (M : Int)))
      = .ok (done ++ gaussRec fuel nc j rest) := by
  intro cnt
  induction cnt with
  | zero =>
    intro j done rest fuel hc _ _ _
    rw [pyRange_empty (by omega), gaussRec_done _ _ _ _ (by omega)]
    simp
  | succ c ih =>
    intro j done rest fuel hc hf hu hM
    obtain ⟨f, rfl⟩ : ∃ f, fuel = f + 1 := ⟨fuel - 1, by omega⟩
    have hnc : nc = j + c + 2 := by omega
    rw [pyRange_cons (by omega), List.forIn_cons]
    cases rest with
    | nil =>
      have : outerBody (M : Int) (j : Int) (done ++ [], (done.length : Int))
          = .ok (ForInStep.done (done ++ [], (done.length : Int))) := by
        unfold outerBody
        have : decide ((done.length : Int) ≥ (M : Int)) = true := by
          simp at hM; simp [hM]
        simp only [this, if_true]
        rfl
      rw [this]
      simp [gaussRec]
    | cons r0 rs =>
      have hlt : decide ((done.length : Int) ≥ (M : Int)) = false := by
        simp at hM; simp; omega
      have hrows : ∀ r ∈ r0 :: rs, j < r.length := by
        intro r hr; rw [hu r (List.mem_append_right _ hr)]; omega
      have hslice : pySliceFrom (done ++ r0 :: rs) (done.length : Int) = r0 :: rs := by
        rw [pySliceFrom_nat _ done.length rfl]; simp
      have hcomp : pyComp (fun row => (Except.ok (pySliceFrom row (j : Int)) : PyM Row)) (r0 :: rs)
          = .ok ((r0 :: rs).map (fun r => r.drop j)) := by
        rw [pyComp_ok]; congr 1
        apply List.map_congr_left; intro r _; exact pySliceFrom_nat r j rfl
      have hfind := find_pivot_row_tie (r0 :: rs) j hrows
      cases hp : pivotIdx (r0 :: rs) j with
      | none =>
        rw [hp] at hfind
        have step : outerBody (M : Int) (j : Int) (done ++ r0 :: rs, (done.length : Int))
            = .ok (ForInStep.yield (done ++ r0 :: rs, (done.length : Int))) := by
          unfold outerBody
          simp only [hlt, hslice, pure_eq_ok, hcomp, ok_bind, hfind, Option.map_none]
          rfl
        rw [step]
        simp only [ok_bind]
        rw [← Nat.cast_succ, ih (j + 1) done (r0 :: rs) f (by omega) (by omega) hu hM]
        simp [gaussRec, hp, show ¬ (nc ≤ j + 1) by omega]
      | some k =>
        rw [hp] at hfind
        obtain ⟨hk, -⟩ := pivotIdx_some hp
        have hgetk : (r0 :: rs)[k]? = some ((r0 :: rs).getD k []) := by
          rw [getD_eq_getElem _ _ hk, List.getElem?_eq_getElem hk]
        have e1 : pyIdx (done ++ r0 :: rs) ((k : Int) + (done.length : Int)) = .ok ((r0 :: rs).getD k []) :=
          pyIdx_of_getElem? (done.length + k) (by push_cast; omega)
            (by rw [List.getElem?_append_right (by omega)]; simpa using hgetk)
        have e2 : pyIdx (done ++ r0 :: rs) (done.length : Int) = .ok r0 :=
          pyIdx_of_getElem? done.length rfl (by simp)
        have e3 : ∀ x, pySetIdx (done ++ r0 :: rs) (done.length : Int) x = .ok (done ++ x :: rs) := by
          intro x; rw [pySetIdx_nat done.length x rfl (by simp)]; simp
        have e4 : ∀ x' x, pySetIdx (done ++ x' :: rs) ((k : Int) + (done.length : Int)) x
            = .ok (done ++ (x' :: rs).set k x) := by
          intro x' x
          rw [pySetIdx_nat (done.length + k) x (by push_cast; omega) (by simp at hk ⊢; omega)]
          rw [List.set_append_right _ _ (by omega)]; simp
        -- from here on the pivot step is a row `p` and the other rows `rest`
        have hswap : ((r0 :: rs).getD k [] :: rs).set k r0
            = (takePivot (r0 :: rs) k).1 :: (takePivot (r0 :: rs) k).2 := takePivot_swap r0 rs k hk
        obtain ⟨hperm, hpj⟩ := takePivot_spec hp
        have hrec : gaussRec (f + 1) nc j (r0 :: rs) = (takePivot (r0 :: rs) k).1 ::
            gaussRec f nc (j + 1) ((takePivot (r0 :: rs) k).2.map (elimRow (takePivot (r0 :: rs) k).1 j)) := by
          simp [gaussRec, hp, show ¬ (nc ≤ j + 1) by omega]
        rw [hrec]
        generalize takePivot (r0 :: rs) k = pr at hswap hperm hpj ⊢
        obtain ⟨p, rest⟩ := pr
        simp only at hswap hperm hpj ⊢
        obtain ⟨hp1len, hp2⟩ := Uniform_cons.mp ((Uniform_perm hperm).mpr fun r hr => hu r (List.mem_append_right _ hr))
        have hlen : rest.length + 1 = (r0 :: rs).length := hperm.length_eq
        have hM' : (done ++ [p]).length + rest.length = M := by simp at hM hlen ⊢; omega
        have hinner := inner_loop done.length j p nc M hp1len (by omega) hpj rest (done ++ [p]) hM' (by simp) hp2
        have hlen1 : (((done ++ [p]).length : Nat) : Int) = (done.length : Int) + 1 := by simp
        rw [hlen1] at hinner
        have step : outerBody (M : Int) (j : Int) (done ++ r0 :: rs, (done.length : Int))
            = .ok (ForInStep.yield ((done ++ [p]) ++ rest.map (elimRow p j), (done.length : Int) + 1)) := by
          unfold outerBody
          simp only [hlt, hslice, pure_eq_ok, hcomp, ok_bind, hfind, Option.map_some, pyIsNone, Option.isNone,
            pyNum, e1, e2, e3, e4, hswap]
          simp only [List.append_assoc, List.singleton_append] at hinner
          simp only [Bool.false_eq_true, if_false, hinner, ok_bind, List.append_assoc, List.singleton_append]
        rw [step]
        simp only [ok_bind]
        have := ih (j + 1) (done ++ [p]) (rest.map (elimRow p j)) f (by omega) (by omega)
          (by
            intro row hrow
            rcases List.mem_append.mp hrow with h | h
            · rcases List.mem_append.mp h with h | h
              · exact hu row (List.mem_append_left _ h)
              · rw [List.mem_singleton.mp h]; exact hp1len
            · exact hp2.map_elimRow hp1len j row h)
          (by simp at hM hlen ⊢; omega)
        rw [← Nat.cast_succ, ← hlen1, this]
        simp

/-- **`gaussian_elimination` = the model's `gauss`** on rectangular matrices (all rows as long as the first one, which
    is what `shape` assumes).  The code indexes one matrix with the pivot-row counter `r`; the model peels the finished
    rows off: `outer_loop` is the invariant `m = done ++ rest`, `r = len(done)` that connects the two. -/
theorem gaussian_elimination_tie (m : Mat) (hu : Uniform (m.headD []).length m) :
    s_gaussian_elimination m = .ok (gauss m) := by
  rw [gauss_unfold, shape_tie]
  simp only [ok_bind, pure_eq_ok]
  have h := outer_loop (m.headD []).length m.length _ 0 [] m (m.headD []).length rfl (by omega)
    (by simpa using hu) (by simp)
  simp only [List.nil_append, List.length_nil, Nat.cast_zero] at h
  obtain ⟨st, hfor, hst⟩ := eq_ok_of_map h
  rw [hfor]
  simp only [ok_bind, hst]
  rfl
end G3D.SolverTie
