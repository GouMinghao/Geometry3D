import G3D.Proofs.TolGeoInter

/-! Non-vacuity: every theorem of the TolGeo family instantiated on catalogue objects
    (support `(1/8, 2, −3)`, frames `(1,2,2)` / `(2,3,6)` / `(1,2,2)/3`), eps = 1e-5 and eps = 1e-12,
    perturbation ±eps/1000 on every defining coordinate. -/
namespace G3D.TolGeo
open R3

/-- discharge `closeBy δ a b` on numerals -/
macro "close_tac" : tactic =>
  `(tactic| (refine ⟨?_, ?_, ?_⟩ <;> (simp only [R3.sub]; rw [abs_le]; constructor <;> norm_num)))

/-! ### eps = 1e-5  (δ = 1e-8) -/
section eps5
/-- the catalogue point and two frames -/
noncomputable def P0 : R3 := ⟨1 / 8, 2, -3⟩
noncomputable def P0' : R3 := ⟨1 / 8 + 1 / 100000000, 2 - 1 / 100000000, -3 + 1 / 100000000⟩
noncomputable def D0 : R3 := ⟨1, 2, 2⟩
noncomputable def D0' : R3 := ⟨1 - 1 / 100000000, 2 + 1 / 100000000, 2 + 1 / 100000000⟩
noncomputable def N0 : R3 := ⟨2, 3, 6⟩
noncomputable def N0' : R3 := ⟨2 + 1 / 100000000, 3 - 1 / 100000000, 6 + 1 / 100000000⟩
/-- unit normal (1,2,2)/3 -/
noncomputable def U0 : R3 := ⟨1 / 3, 2 / 3, 2 / 3⟩
noncomputable def U0' : R3 := ⟨1 / 3 - 1 / 100000000, 2 / 3 + 1 / 100000000, 2 / 3 - 1 / 100000000⟩
noncomputable def E0 : R3 := ⟨9 / 8, 4, -1⟩
noncomputable def E0' : R3 := ⟨9 / 8 - 1 / 100000000, 4 + 1 / 100000000, -1 - 1 / 100000000⟩

theorem e5 : (0 : ℝ) < 1 / 100000 := by norm_num
theorem e5' : (1 : ℝ) / 100000 ≤ 1 := by norm_num

theorem N0_bound : |N0.x| ≤ 300 ∧ |N0.y| ≤ 300 ∧ |N0.z| ≤ 300 := by norm_num [N0, abs_le]

theorem shift_bound (p : R3) {w : R3} {R : ℝ} (h : |w.x| ≤ R ∧ |w.y| ≤ R ∧ |w.z| ≤ R) :
    |(sub (add p w) p).x| ≤ R ∧ |(sub (add p w) p).y| ≤ R ∧ |(sub (add p w) p).z| ≤ R := by
  simpa only [sub, add, add_sub_cancel_left] using h

theorem cP0 : closeBy (1 / 100000 / 1000) P0 P0' := by unfold P0 P0'; close_tac
theorem cD0 : closeBy (1 / 100000 / 1000) D0 D0' := by unfold D0 D0'; close_tac
theorem cN0 : closeBy (1 / 100000 / 1000) N0 N0' := by unfold N0 N0'; close_tac
theorem cU0 : closeBy (1 / 100000 / 1000) U0 U0' := by unfold U0 U0'; close_tac
theorem cE0 : closeBy (1 / 100000 / 1000) E0 E0' := by unfold E0 E0'; close_tac

example : vecEq (1 / 100000) P0 P0' ∧ vecEq (1 / 100000) P0' P0 := vecEq_of_close e5 cP0

example : ¬ vecEq (1 / 100000) P0 ⟨1 / 8, 2 + 5 / 100000, -3⟩ :=
  (not_vecEq_of_far (by norm_num) (Or.inr (Or.inl (by unfold P0; norm_num [abs_of_neg])))).1

example : Line.eqT (1 / 100000) ⟨P0, D0⟩ ⟨P0', D0'⟩ ∧ Line.eqT (1 / 100000) ⟨P0', D0'⟩ ⟨P0, D0⟩ :=
  Line.eqT_of_close (l := ⟨P0, D0⟩) (l' := ⟨P0', D0'⟩) e5 cP0 cD0

/-- the point at parameter 3/8 of the exact line is contained in the perturbed line -/
example : Line.containsT (1 / 100000) ⟨P0', D0'⟩ (add P0 (smul (3 / 8) D0)) :=
  Line.containsT_of_close (l := ⟨P0, D0⟩) (l' := ⟨P0', D0'⟩) e5 e5' cP0 cD0
    (by norm_num [dot, D0]) (Or.inr (by norm_num))

/-- … and the point at parameter −1000 as well (no upper bound on `t`) -/
example : Line.containsT (1 / 100000) ⟨P0', D0'⟩ (add P0 (smul (-1000) D0)) :=
  Line.containsT_of_close (l := ⟨P0, D0⟩) (l' := ⟨P0', D0'⟩) e5 e5' cP0 cD0
    (by norm_num [dot, D0]) (Or.inr (by norm_num))

/-- a line moved by (2,−1,0)·5eps, orthogonal to (1,2,2), is not equal -/
example : ¬ Line.eqT (1 / 100000) ⟨P0, D0⟩ ⟨add P0 ⟨10 / 100000, -5 / 100000, 0⟩, D0'⟩ :=
  (Line.not_eqT_of_orth_shift (l := ⟨P0, D0⟩) (by norm_num) (by norm_num) (by norm_num [dot, D0])
    (by norm_num [dot, D0]) (Or.inl (by norm_num [abs_of_pos]))).2

example : Plane.eqT (1 / 100000) (Plane.ofPN P0 N0) (Plane.ofPN P0' N0') ∧
    Plane.eqT (1 / 100000) (Plane.ofPN P0' N0') (Plane.ofPN P0 N0) :=
  Plane.eqT_of_close e5 e5' cP0 cN0 (by norm_num [dot, N0])

/-- `x = P0 + (3, −2, 0)` lies on the plane through P0 with normal (2,3,6) -/
example : Plane.containsT (1 / 100000) (Plane.ofPN P0' N0') (add P0 ⟨3, -2, 0⟩) :=
  Plane.containsT_of_close (R := 3) (p := P0) (r := N0) e5 e5' cP0 cN0
    (by norm_num [dot, N0]) (by norm_num [dot, N0, P0, add, sub])
    (shift_bound P0 (by norm_num [abs_le]))
    (by norm_num)

/-- the same with the unit frame (1,2,2)/3 and a far point `x = P0 + (16, −16, 8)` -/
example : Plane.containsT (1 / 100000) (Plane.ofPN P0' U0') (add P0 ⟨16, -16, 8⟩) :=
  Plane.containsT_of_close (R := 16) (p := P0) (r := U0) e5 e5' cP0 cU0
    (by norm_num [dot, U0]) (by norm_num [dot, U0, P0, add, sub])
    (shift_bound P0 (by norm_num [abs_le]))
    (by norm_num)

example : ¬ Plane.eqT (1 / 100000) (Plane.ofPN P0 N0)
    (Plane.ofPN (add P0 (smul (5 / 100000) (normalized N0))) N0) :=
  (Plane.not_eqT_of_normal_shift (by norm_num [dot, N0]) (by norm_num [abs_of_pos])).1

example : Segment.eqT (1 / 100000) ⟨P0, E0⟩ ⟨P0', E0'⟩ ∧ Segment.eqT (1 / 100000) ⟨P0', E0'⟩ ⟨P0, E0⟩ :=
  Segment.eqT_of_close (S := ⟨P0, E0⟩) (S' := ⟨P0', E0'⟩) e5 cP0 cE0

/-- the midpoint of the exact segment is in the perturbed segment -/
example : Segment.containsT (1 / 100000) ⟨P0', E0'⟩ (add P0 (smul (1 / 2) (sub E0 P0))) :=
  Segment.containsT_of_close (S := ⟨P0, E0⟩) (S' := ⟨P0', E0'⟩) e5 e5' cP0 cE0
    (by norm_num [dot, sub, E0, P0]) (by norm_num) (by norm_num) (Or.inr (by norm_num))

example : ¬ Segment.eqT (1 / 100000) ⟨P0, E0⟩ ⟨⟨1 / 8, 2 + 5 / 100000, -3⟩, E0⟩ :=
  Segment.not_eqT_of_far (S := ⟨P0, E0⟩) (by norm_num)
    (Or.inr (Or.inl (by simp only [P0]; norm_num [abs_of_neg])))
    (Or.inl (by simp only [E0]; norm_num [abs_of_pos]))

example : HalfLine.eqT (1 / 100000) ⟨P0, N0⟩ ⟨P0', N0'⟩ ∧ HalfLine.eqT (1 / 100000) ⟨P0', N0'⟩ ⟨P0, N0⟩ :=
  HalfLine.eqT_of_close (H := ⟨P0, N0⟩) (H' := ⟨P0', N0'⟩) e5 e5' cP0 cN0
    (by norm_num [dot, N0])

example : HalfLine.containsT (1 / 100000) ⟨P0', N0'⟩ (add P0 (smul (5 / 8) N0)) :=
  HalfLine.containsT_of_close (H := ⟨P0, N0⟩) (H' := ⟨P0', N0'⟩) e5 e5' cP0 cN0
    (by norm_num [dot, N0])
    N0_bound
    (by norm_num) (Or.inr (by norm_num))

example : interLineLineBranch (1 / 100000) ⟨P0, D0⟩ ⟨P0', D0'⟩ = .coincident ∧
    interLineLineBranch (1 / 100000) ⟨P0', D0'⟩ ⟨P0, D0⟩ = .coincident :=
  interLineLine_coincident (l := ⟨P0, D0⟩) (l' := ⟨P0', D0'⟩) e5 cP0 cD0

example : interPlanePlaneBranch (1 / 100000) (Plane.ofPN P0 N0) (Plane.ofPN P0' N0') = .coincident ∧
    interPlanePlaneBranch (1 / 100000) (Plane.ofPN P0' N0') (Plane.ofPN P0 N0) = .coincident :=
  interPlanePlane_coincident e5 e5' cP0 cN0 (by norm_num [dot, N0])

example : segSegCollinearBranch (1 / 100000) ⟨P0, E0⟩ ⟨P0', E0'⟩ ∧
    segSegAllEndpointsCollected (1 / 100000) ⟨P0, E0⟩ ⟨P0', E0'⟩ :=
  interSegSeg_coincident (S := ⟨P0, E0⟩) (S' := ⟨P0', E0'⟩) e5 e5' cP0 cE0
    (by norm_num [dot, sub, E0, P0])

example : hlHlReturnsFirst (1 / 100000) ⟨P0, N0⟩ ⟨P0', N0'⟩ ∧ hlHlReturnsFirst (1 / 100000) ⟨P0', N0'⟩ ⟨P0, N0⟩ :=
  interHlHl_coincident (H := ⟨P0, N0⟩) (H' := ⟨P0', N0'⟩) e5 e5' cP0 cN0
    (by norm_num [dot, N0])
    N0_bound
end eps5

/-! ### eps = 1e-12  (δ = 1e-15) -/
section eps12
noncomputable def Q0' : R3 := ⟨1 / 8 + 1 / 1000000000000000, 2 - 1 / 1000000000000000, -3 + 1 / 1000000000000000⟩
noncomputable def F0' : R3 := ⟨1 - 1 / 1000000000000000, 2 + 1 / 1000000000000000, 2 + 1 / 1000000000000000⟩
noncomputable def M0' : R3 := ⟨2 + 1 / 1000000000000000, 3 - 1 / 1000000000000000, 6 + 1 / 1000000000000000⟩
noncomputable def G0' : R3 := ⟨9 / 8 - 1 / 1000000000000000, 4 + 1 / 1000000000000000, -1 - 1 / 1000000000000000⟩

theorem e12 : (0 : ℝ) < 1 / 1000000000000 := by norm_num
theorem e12' : (1 : ℝ) / 1000000000000 ≤ 1 := by norm_num

theorem cQ0 : closeBy (1 / 1000000000000 / 1000) P0 Q0' := by unfold P0 Q0'; close_tac
theorem cF0 : closeBy (1 / 1000000000000 / 1000) D0 F0' := by unfold D0 F0'; close_tac
theorem cM0 : closeBy (1 / 1000000000000 / 1000) N0 M0' := by unfold N0 M0'; close_tac
theorem cG0 : closeBy (1 / 1000000000000 / 1000) E0 G0' := by unfold E0 G0'; close_tac

example : vecEq (1 / 1000000000000) P0 Q0' ∧ vecEq (1 / 1000000000000) Q0' P0 :=
  vecEq_of_close e12 cQ0

example : Line.eqT (1 / 1000000000000) ⟨P0, D0⟩ ⟨Q0', F0'⟩ ∧ Line.eqT (1 / 1000000000000) ⟨Q0', F0'⟩ ⟨P0, D0⟩ :=
  Line.eqT_of_close (l := ⟨P0, D0⟩) (l' := ⟨Q0', F0'⟩) e12 cQ0 cF0

example : Line.containsT (1 / 1000000000000) ⟨Q0', F0'⟩ (add P0 (smul (1 / 8) D0)) :=
  Line.containsT_of_close (l := ⟨P0, D0⟩) (l' := ⟨Q0', F0'⟩) e12 e12' cQ0 cF0
    (by norm_num [dot, D0]) (Or.inr (by norm_num))

/-- the gap: at eps = 1e-12 the point at distance 2·eps from the support of the x-axis is rejected by the copy
    whose support is 1e-15 off the axis -/
example : ¬ Line.containsT (1 / 1000000000000) ⟨⟨0, 1 / 1000000000000 / 1000, 0⟩, ⟨1, 0, 0⟩⟩
    (add (⟨0, 0, 0⟩ : R3) (smul (2 * (1 / 1000000000000)) ⟨1, 0, 0⟩)) :=
  (Line.contains_gap (eps := 1 / 1000000000000) (by norm_num) (by norm_num)).2

example : Plane.eqT (1 / 1000000000000) (Plane.ofPN P0 N0) (Plane.ofPN Q0' M0') ∧
    Plane.eqT (1 / 1000000000000) (Plane.ofPN Q0' M0') (Plane.ofPN P0 N0) :=
  Plane.eqT_of_close e12 e12' cQ0 cM0 (by norm_num [dot, N0])

example : Plane.containsT (1 / 1000000000000) (Plane.ofPN Q0' M0') (add P0 ⟨3, -2, 0⟩) :=
  Plane.containsT_of_close (R := 3) (p := P0) (r := N0) e12 e12' cQ0 cM0
    (by norm_num [dot, N0]) (by norm_num [dot, N0, P0, add, sub])
    (shift_bound P0 (by norm_num [abs_le]))
    (by norm_num)

example : Segment.containsT (1 / 1000000000000) ⟨Q0', G0'⟩ (add P0 (smul 1 (sub E0 P0))) :=
  Segment.containsT_of_close (S := ⟨P0, E0⟩) (S' := ⟨Q0', G0'⟩) e12 e12' cQ0 cG0
    (by norm_num [dot, sub, E0, P0]) (by norm_num) (by norm_num) (Or.inr (by norm_num))

example : HalfLine.eqT (1 / 1000000000000) ⟨P0, N0⟩ ⟨Q0', M0'⟩ ∧
    HalfLine.eqT (1 / 1000000000000) ⟨Q0', M0'⟩ ⟨P0, N0⟩ :=
  HalfLine.eqT_of_close (H := ⟨P0, N0⟩) (H' := ⟨Q0', M0'⟩) e12 e12' cQ0 cM0
    (by norm_num [dot, N0])

example : HalfLine.containsT (1 / 1000000000000) ⟨Q0', M0'⟩ (add P0 (smul 0 N0)) :=
  HalfLine.containsT_of_close (H := ⟨P0, N0⟩) (H' := ⟨Q0', M0'⟩) e12 e12' cQ0 cM0
    (by norm_num [dot, N0])
    N0_bound
    (by norm_num) (Or.inl rfl)

example : interLineLineBranch (1 / 1000000000000) ⟨P0, D0⟩ ⟨Q0', F0'⟩ = .coincident ∧
    interLineLineBranch (1 / 1000000000000) ⟨Q0', F0'⟩ ⟨P0, D0⟩ = .coincident :=
  interLineLine_coincident (l := ⟨P0, D0⟩) (l' := ⟨Q0', F0'⟩) e12 cQ0 cF0

example : interPlanePlaneBranch (1 / 1000000000000) (Plane.ofPN P0 N0) (Plane.ofPN Q0' M0') = .coincident ∧
    interPlanePlaneBranch (1 / 1000000000000) (Plane.ofPN Q0' M0') (Plane.ofPN P0 N0) = .coincident :=
  interPlanePlane_coincident e12 e12' cQ0 cM0 (by norm_num [dot, N0])

example : segSegCollinearBranch (1 / 1000000000000) ⟨P0, E0⟩ ⟨Q0', G0'⟩ ∧
    segSegAllEndpointsCollected (1 / 1000000000000) ⟨P0, E0⟩ ⟨Q0', G0'⟩ :=
  interSegSeg_coincident (S := ⟨P0, E0⟩) (S' := ⟨Q0', G0'⟩) e12 e12' cQ0 cG0
    (by norm_num [dot, sub, E0, P0])
end eps12

end G3D.TolGeo
