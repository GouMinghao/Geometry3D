import G3D.Proofs.Move
import G3D.Proofs.ChainHull
import Mathlib.Tactic.Ring
import Mathlib.Tactic.Linarith
import Mathlib.Tactic.LinearCombination
import Mathlib.Tactic.FieldSimp
import Mathlib.Tactic.Positivity

/-! C05, composite membership, remaining cases: HalfLine in Line / Plane / HalfLine,
    ConvexPolygon in Plane, ConvexPolygon in ConvexPolyhedron (provable direction). -/
namespace G3D
open V3

theorem HalfLine.den_tip (h : HalfLine) : h.den (add h.p h.v) :=
  ⟨1, by norm_num, by apply V3.ext' <;> simp [add, smul]⟩

/-- the direction of a half-line through `p = o + s0 d` and `p + v = o + s1 d` -/
theorem dir_of_two_params {o d p v : V3} {s0 s1 : Rat} (h0 : p = add o (smul s0 d))
    (h1 : add p v = add o (smul s1 d)) : v = smul (s1 - s0) d := by
  have hx := congrArg V3.x h1; have hy := congrArg V3.y h1; have hz := congrArg V3.z h1
  rw [h0] at hx hy hz
  simp only [add, smul] at hx hy hz
  apply V3.ext' <;> simp only [smul] <;> linarith

/-- `HalfLine.in_(Line)`: `self.point in other and self.vector.parallel(other.dv)` -/
theorem Line.containsHalfLine_iff (l : Line) (hl : l.WF) (h : HalfLine) (_hh : h.WF) :
    l.containsHalfLine h = true ↔ ∀ x, h.den x → l.den x := by
  unfold Line.containsHalfLine
  rw [Bool.and_eq_true, Line.contains_iff l hl, parallel_iff_cross]
  constructor
  · rintro ⟨⟨t0, ht0⟩, hpar⟩ x ⟨t, _, rfl⟩
    have hk := eq_smul_of_cross_eq_zero hl hpar
    generalize dot h.v l.dv / normSq l.dv = k at hk
    exact ⟨t0 + t * k, by rw [ht0, hk]; apply V3.ext' <;> simp only [add, smul] <;> ring⟩
  · intro hsub
    obtain ⟨t0, ht0⟩ := hsub _ h.p_mem_den
    obtain ⟨t1, ht1⟩ := hsub _ h.den_tip
    refine ⟨⟨t0, ht0⟩, ?_⟩
    rw [dir_of_two_params ht0 ht1]
    have := parallel_smul (t1 - t0) l.dv
    rwa [parallel_iff_cross] at this
#print axioms Line.containsHalfLine_iff

/-- `HalfLine.in_(Plane)`: `self.point in other and self.vector.orthogonal(other.n)` -/
theorem Plane.containsHalfLine_iff (p : Plane) (h : HalfLine) (_hh : h.WF) :
    p.containsHalfLine h = true ↔ ∀ x, h.den x → p.den x := by
  unfold Plane.containsHalfLine
  rw [Bool.and_eq_true, Plane.contains_iff]
  simp only [V3.orthogonal, beq_iff_eq]
  constructor
  · rintro ⟨h1, h2⟩ x ⟨t, _, rfl⟩
    simp only [Plane.den, dot, sub, add, smul] at h1 h2 ⊢
    linear_combination h1 + t * h2
  · intro hs
    have h0 := hs _ h.p_mem_den
    have h1 := hs _ h.den_tip
    refine ⟨h0, ?_⟩
    simp only [Plane.den, dot, sub, add] at h0 h1 ⊢
    linarith
#print axioms Plane.containsHalfLine_iff

/-- `HalfLine.__contains__(HalfLine)` -/
theorem HalfLine.containsHL_iff (c h : HalfLine) (hc : c.WF) (hh : h.WF) :
    c.containsHL h = true ↔ ∀ x, h.den x → c.den x := by
  have hcw := hc
  obtain ⟨hcv, hcl⟩ := hc
  obtain ⟨_, hhl⟩ := hh
  have hN := normSq_pos hcv
  unfold HalfLine.containsHL Line.eqv
  rw [hcl, hhl]
  simp only [Bool.and_eq_true, decide_eq_true_eq]
  rw [Line.contains_iff ⟨c.p, c.v⟩ hcv, parallel_iff_cross, HalfLine.contains_iff c hcw]
  simp only
  constructor
  · rintro ⟨⟨⟨_, hpar⟩, ⟨s, hs, hps⟩⟩, hdot⟩ x ⟨t, ht, rfl⟩
    have hk := eq_smul_of_cross_eq_zero hcv hpar
    generalize dot h.v c.v / normSq c.v = k at hk
    have hk0 : 0 ≤ k := by
      have : dot c.v h.v = k * normSq c.v := by rw [hk]; simp only [dot, smul, normSq]; ring
      rw [this] at hdot
      by_contra hneg
      linarith [mul_neg_of_neg_of_pos (lt_of_not_ge hneg) hN]
    exact ⟨s + t * k, by positivity, by rw [hps, hk]; apply V3.ext' <;> simp only [add, smul] <;> ring⟩
  · intro hsub
    obtain ⟨s0, hs0, hp0⟩ := hsub _ h.p_mem_den
    obtain ⟨s1, _, hp1⟩ := hsub _ h.den_tip
    have hvk := dir_of_two_params hp0 hp1
    have hk : 0 ≤ s1 - s0 := by
      by_contra hneg
      have hlt : s1 - s0 < 0 := lt_of_not_ge hneg
      have hne : s0 - s1 ≠ 0 := by intro e; linarith
      have hT : 0 ≤ (s0 + 1) / (s0 - s1) := div_nonneg (by linarith) (by linarith)
      have hT' : (s0 + 1) / (s0 - s1) * (s0 - s1) = s0 + 1 := div_mul_cancel₀ _ hne
      generalize (s0 + 1) / (s0 - s1) = T at hT hT'
      obtain ⟨u, hu, hpu⟩ := hsub _ ⟨T, hT, rfl⟩
      have e : pt c.p c.v (s0 + T * (s1 - s0)) = pt c.p c.v u := by
        rw [← show add h.p (smul T h.v) = pt c.p c.v u from hpu, hp0, hvk]
        apply V3.ext' <;> simp only [pt, add, smul] <;> ring
      have := pt_inj hcv e
      linarith
    refine ⟨⟨⟨⟨s0, hp0⟩, ?_⟩, ⟨s0, hs0, hp0⟩⟩, ?_⟩
    · rw [hvk]
      have := parallel_smul (s1 - s0) c.v
      rwa [parallel_iff_cross] at this
    · rw [hvk]
      have : dot c.v (smul (s1 - s0) c.v) = (s1 - s0) * normSq c.v := by
        simp only [dot, smul, normSq]; ring
      rw [this]; positivity
#print axioms HalfLine.containsHL_iff

/-- a plane through three points has its normal parallel to `(p1-p0) × (p2-p0)` -/
theorem Plane.normal_cross_of_three (q : Plane) {p0 p1 p2 : V3} (h0 : q.den p0) (h1 : q.den p1)
    (h2 : q.den p2) : cross q.n (cross (sub p1 p0) (sub p2 p0)) = zero := by
  apply cross_cross_perp
  · simp only [Plane.den, dot, sub] at h0 h1 ⊢; linear_combination h1 - h0
  · simp only [Plane.den, dot, sub] at h0 h2 ⊢; linear_combination h2 - h0

theorem parallel_normals_of_three (q r : Plane) {p0 p1 p2 : V3}
    (hw : cross (sub p1 p0) (sub p2 p0) ≠ zero)
    (q0 : q.den p0) (q1 : q.den p1) (q2 : q.den p2) (r0 : r.den p0) (r1 : r.den p1) (r2 : r.den p2) :
    V3.parallel q.n r.n = true := by
  have ea := eq_smul_of_cross_eq_zero hw (q.normal_cross_of_three q0 q1 q2)
  have eb := eq_smul_of_cross_eq_zero hw (r.normal_cross_of_three r0 r1 r2)
  rw [parallel_iff_cross, ea, eb]
  apply V3.ext' <;> simp only [cross, smul, zero] <;> ring

/-- `ConvexPolygon.in_(Plane)`: `self.plane == other` -/
theorem Polygon.inPlane_iff (P : Polygon) (hv : P.Valid) (pl : Plane) (hpl : pl.WF) :
    P.inPlane pl = true ↔ ∀ x, InHull P.pts x → pl.den x := by
  have hPW := Polygon.plane_WF P hv
  unfold Polygon.inPlane
  constructor
  · intro he x hx
    exact (Plane.eqv_den P.plane pl hPW hpl he x).mp (Polygon.hull_in_plane P hv x hx)
  · intro hsub
    obtain ⟨u, hu, v, hv', w, hw, hne⟩ := hv.nondeg
    have hin := hv.pts_in_plane
    have b : ∀ p ∈ P.pts, P.plane.den p := fun p hp => (Plane.contains_iff _ _).mp (hin p hp)
    have a : ∀ p ∈ P.pts, pl.den p := fun p hp => hsub p (vertex_in_hull _ _ hp)
    refine Plane.eqv_of_parallel_common P.plane pl hPW hpl ?_ u (b u hu) (a u hu)
    refine parallel_normals_of_three P.plane pl (p0 := u) (p1 := v) (p2 := w) ?_
      (b u hu) (b v hv') (b w hw) (a u hu) (a v hv') (a w hw)
    intro hz
    apply hne
    unfold orient; rw [hz]; simp [dot, zero]
#print axioms Polygon.inPlane_iff

/-- `ConvexPolygon in ConvexPolyhedron` (`all vertices in the body`), provable direction -/
theorem Polyhedron.containsPolygon_of_hull (B : Polyhedron) (hv : B.VertsInside) (P : Polygon)
    (h : ∀ x, InHull P.pts x → InHull B.verts x) : B.containsPolygon P = true := by
  unfold Polyhedron.containsPolygon
  rw [List.all_eq_true]
  intro p hp
  exact Polyhedron.hull_subset_contains B hv p (h p (vertex_in_hull _ _ hp))
#print axioms Polyhedron.containsPolygon_of_hull

end G3D
