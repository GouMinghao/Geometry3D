import G3D.Extracted.Kmember
import G3D.Proofs.KTieKmember
/-! # kmember (rational part), constructor pins: the comparisons of `HalfLine(Point, Vector)`  (C19)
    `G3D.Extracted.impl_*` are regenerated on every run (tools/extract_kmember.py, engine tools/kernels_engine.py): the REAL code is run on
    symbolic numbers, every comparison against the tolerance is recorded (operands and shape) and answered from a scripted
    path.  Each kernel has its own `section`: when the walk of ONE kernel fails the generated file holds only the marker
    `impl_<kernel>_EXTRACTION_FAILED` for it and exactly the theorems of that section stop compiling. -/
namespace G3D.KTie.Kmember
open G3D V3 G3D.Extracted

section halfLineCtor
theorem halfLineCtor_path : impl_halfLineCtor_path = [("R < eps", false), ("abs(R) < eps", false)] := rfl
end halfLineCtor

section combined
theorem halfLineContains_shape :
    impl_halfLineContains_shape = "R > -eps" ∧
    impl_halfLineContains_path = [("abs(R) < eps", false), ("abs(R) < eps", false), ("abs(R) < eps", false), ("abs(R) < (eps * S)", true), ("R > -eps", true)] ∧
    impl_halfLineContainsOffLine_path = [("abs(R) < eps", false), ("abs(R) < eps", false), ("abs(R) < eps", false), ("abs(R) < (eps * S)", false)] ∧
    impl_halfLineCtor_path = [("R < eps", false), ("abs(R) < eps", false)] :=
  ⟨halfLineContains_paths.1, halfLineContains_paths.2.1, halfLineContains_paths.2.2, halfLineCtor_path⟩
end combined

end G3D.KTie.Kmember
