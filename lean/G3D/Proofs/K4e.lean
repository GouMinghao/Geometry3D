import G3D.Proofs.K4d

/-! # Kernel K4, part e: the case with an interior point — every point of `A ∩ B` is spanned by the polygon clips

    * `K4.OnGon` : the point lies on a clip that is a polygon
    * `K4.onGon_of_three` : a clip containing three non-collinear points is a polygon
    * `K4.onGon_of_generic` : a boundary point at which all tight constraints describe the same half-space
    * `K4.onGon_of_boundary` : EVERY boundary point of `A ∩ B` lies on a polygon clip, if `A ∩ B` has an interior point
    * `K4.chord_interior` : an interior point lies between two points on polygon clips -/
namespace G3D
open V3

/-- `y` lies on a clip that is a polygon -/
def K4.OnGon (A B : Polyhedron) (y : V3) : Prop :=
  ∃ f Q, K4.IsPiece A B f (some (.polygon Q)) ∧ InHull Q.pts y

/-- a clip containing three non-collinear points is a polygon -/
theorem K4.onGon_of_three {A B : Polyhedron} (hA : A.ExactHyp) (hB : B.ExactHyp) (f : Polygon)
    (hf : f ∈ A.faces ++ B.faces) (x z1 z2 : V3)
    (hx : K4.InK A B x) (fx : f.side x = 0) (hz1 : K4.InK A B z1) (fz1 : f.side z1 = 0)
    (hz2 : K4.InK A B z2) (fz2 : f.side z2 = 0) (hN : cross (sub z1 x) (sub z2 x) ≠ zero) :
    ∃ Q, K4.IsPiece A B f (some (.polygon Q)) ∧ InHull Q.pts x := by
  obtain ⟨o, hpc⟩ := K4.exists_piece hA hB f hf
  obtain ⟨hsh, hd⟩ := hpc.spec hA hB
  have dx := (hd x).mpr ⟨hx, fx⟩
  have dz1 := (hd z1).mpr ⟨hz1, fz1⟩
  have dz2 := (hd z2).mpr ⟨hz2, fz2⟩
  cases hsh with
  | none => exact dx.elim
  | point q =>
    exfalso; apply hN
    have e1 : x = q := dx
    have e2 : z1 = q := dz1
    rw [e1, e2]; apply V3.ext' <;> simp only [cross, sub, zero] <;> ring
  | seg s hw => exact absurd (K4.seg_collinear s x z1 z2 dx dz1 dz2) hN
  | gon Q hv => exact ⟨Q, hpc, dx⟩

theorem K4.cross_self_cross {n u : V3} (hnu : dot n u = 0) : cross u (cross n u) = smul (normSq u) n := by
  simp only [dot] at hnu
  apply V3.ext' <;> simp only [cross, smul, normSq, dot]
  · linear_combination (-u.x) * hnu
  · linear_combination (-u.y) * hnu
  · linear_combination (-u.z) * hnu

theorem K4.cross_pt (y u1 u2 : V3) (ε1 ε2 : Rat) :
    cross (sub (pt y u1 ε1) y) (sub (pt y u2 ε2) y) = smul (ε1 * ε2) (cross u1 u2) := by
  apply V3.ext' <;> simp only [cross, sub, pt, add, smul] <;> ring

/-- a point of `A ∩ B` in the plane of the face `f` from which `A ∩ B` extends along two independent directions of
    that plane lies on a polygon clip -/
theorem K4.onGon_of_two_dirs {A B : Polyhedron} (hA : A.ExactHyp) (hB : B.ExactHyp) (f : Polygon)
    (hf : f ∈ A.faces ++ B.faces) (x : V3) (hx : K4.InK A B x) (fx : f.side x = 0) (u1 u2 : V3)
    (h1 : dot f.plane.n u1 = 0) (h2 : dot f.plane.n u2 = 0) (hN : cross u1 u2 ≠ zero)
    (c1 : ∀ g ∈ A.faces ++ B.faces, g.side x < 0 ∨ (g.side x ≤ 0 ∧ dot g.plane.n u1 ≤ 0))
    (c2 : ∀ g ∈ A.faces ++ B.faces, g.side x < 0 ∨ (g.side x ≤ 0 ∧ dot g.plane.n u2 ≤ 0)) : K4.OnGon A B x := by
  obtain ⟨ε1, hε1, hs1⟩ := K4.small_step _ x u1 c1
  obtain ⟨ε2, hε2, hs2⟩ := K4.small_step _ x u2 c2
  obtain ⟨Q, hQ, hin⟩ := K4.onGon_of_three hA hB f hf x _ _ hx fx
    ((K4.InK_iff_side A B _).mpr (hs1 ε1 hε1.le le_rfl)) (by rw [f.side_pt, fx, h1]; ring)
    ((K4.InK_iff_side A B _).mpr (hs2 ε2 hε2.le le_rfl)) (by rw [f.side_pt, fx, h2]; ring)
    (by rw [K4.cross_pt]; exact mt (smul_eq_zero_of_ne (mul_pos hε1 hε2).ne') hN)
  exact ⟨f, Q, hQ, hin⟩

/-- at a point of a system `T` at which all tight constraints describe the half-space of `fs`, every direction of the
    plane of `fs` is feasible -/
theorem K4.feasible_of_samePlane (T : List Polygon) (y : V3) (fs : Polygon) (hyT : ∀ g ∈ T, g.side y ≤ 0)
    (hsame : ∀ g ∈ T, g.side y = 0 → SamePlane fs g) (e : V3) (he : dot fs.plane.n e = 0) :
    ∀ g ∈ T, g.side y < 0 ∨ (g.side y ≤ 0 ∧ dot g.plane.n e ≤ 0) := by
  intro g hg
  rcases lt_or_eq_of_le (hyT g hg) with h | h
  · exact Or.inl h
  · obtain ⟨k, _, hk, _⟩ := hsame g hg h
    refine Or.inr ⟨le_of_eq h, ?_⟩
    have : dot g.plane.n e = k * dot fs.plane.n e := by rw [hk]; simp only [dot, smul]; ring
    rw [this, he, mul_zero]

/-- a point of `A ∩ B` at which all tight constraints describe the same half-space lies on a polygon clip -/
theorem K4.onGon_of_generic {A B : Polyhedron} (hA : A.ExactHyp) (hB : B.ExactHyp) (y : V3) (hy : K4.InK A B y)
    (f : Polygon) (hf : f ∈ A.faces ++ B.faces) (hfy : f.side y = 0)
    (hall : ∀ g ∈ A.faces ++ B.faces, g.side y = 0 → SamePlane f g) : K4.OnGon A B y := by
  have hn : f.plane.n ≠ zero := Polygon.plane_WF f (K4.face_valid hA hB f hf)
  obtain ⟨he1, he1n⟩ := K3.perp_spec f.plane.n
  have cond := K4.feasible_of_samePlane _ y f ((K4.InK_iff_side A B y).mp hy) hall
  exact K4.onGon_of_two_dirs hA hB f hf y hy hfy _ _ he1 (dot_cross_self _ _)
    (by rw [K4.cross_self_cross he1]; exact mt (smul_eq_zero_of_ne (normSq_pos he1n).ne') hn)
    (cond _ he1) (cond _ (dot_cross_self _ _))

/-- **every boundary point lies on a polygon clip**, if the common part has an interior point -/
theorem K4.onGon_of_boundary {A B : Polyhedron} (hA : A.ExactHyp) (hB : B.ExactHyp) (o : V3)
    (ho : ∀ f ∈ A.faces ++ B.faces, f.side o < 0) (x : V3) (hx : K4.InK A B x)
    (f0 : Polygon) (hf0 : f0 ∈ A.faces ++ B.faces) (hf0x : f0.side x = 0) : K4.OnGon A B x := by
  set L := A.faces ++ B.faces with hL
  set T := L.filter (fun f => decide (f.side x = 0)) with hT
  have hTL : ∀ f ∈ T, f ∈ L := fun f hf => (List.mem_filter.mp hf).1
  have hTx : ∀ f ∈ T, f.side x = 0 := fun f hf => by simpa using (List.mem_filter.mp hf).2
  have hTmem : ∀ f ∈ L, f.side x = 0 → f ∈ T := fun f hf h => List.mem_filter.mpr ⟨hf, by simpa using h⟩
  have hf0T : f0 ∈ T := hTmem f0 hf0 hf0x
  have hxside := (K4.InK_iff_side A B x).mp hx
  have hn0 : f0.plane.n ≠ zero := Polygon.plane_WF f0 (K4.face_valid hA hB f0 hf0)
  -- u = x - o is not zero
  have hu : sub x o ≠ zero := by
    intro h
    have : x = o := sub_eq_zero_iff.mp h
    have := ho f0 hf0
    rw [← ‹x = o›, hf0x] at this
    exact lt_irrefl _ this
  obtain ⟨hp1, hp2⟩ := K3.perp_spec (sub x o)
  -- a generic direction, looking along the normal of f0, not parallel to u
  obtain ⟨w0, hgen0, hex0⟩ := K4.exists_generic_dir o L [K3.perp (sub x o), f0.plane.n]
    (by intro m hm; simp only [List.mem_cons, List.not_mem_nil, or_false] at hm
        rcases hm with rfl | rfl
        · exact hp2
        · exact hn0)
  obtain ⟨w, hgen, hwp, hwn⟩ : ∃ w, K4.Generic o L w ∧ dot (K3.perp (sub x o)) w ≠ 0 ∧ 0 < dot f0.plane.n w := by
    have h1 := hex0 (K3.perp (sub x o)) (by simp)
    have h2 := hex0 f0.plane.n (by simp)
    rcases lt_or_gt_of_ne h2 with h | h
    · refine ⟨V3.neg w0, hgen0.neg, ?_, ?_⟩
      · rw [K4.neg_neg_dot]; exact neg_ne_zero.mpr h1
      · rw [K4.neg_neg_dot]; linarith
    · exact ⟨w0, hgen0, h1, h⟩
  -- leave the cone of the constraints tight at x
  obtain ⟨t, ht, hyT, fs, hfsT, hfsy⟩ := K4.exit T o w (fun f hf => ho f (hTL f hf)) ⟨f0, hf0T, hwn⟩
  set y := pt o w t with hy
  have hsame : ∀ g ∈ T, g.side y = 0 → SamePlane fs g := fun g hg h =>
    K4.exit_generic T o w (fun f hf => ho f (hTL f hf)) (hgen.sub hTL) t fs g hfsT hg hfsy h
  have hfsL := hTL fs hfsT
  have hns : fs.plane.n ≠ zero := Polygon.plane_WF fs (K4.face_valid hA hB fs hfsL)
  have hfsx := hTx fs hfsT
  -- y ≠ x
  have hv : sub y x ≠ zero := by
    intro h
    have hyx : y = x := sub_eq_zero_iff.mp h
    have e1 : dot (K3.perp (sub x o)) (sub y o) = t * dot (K3.perp (sub x o)) w := by
      simp only [hy, pt, dot, sub, add, smul]; ring
    rw [hyx] at e1
    have e2 : dot (K3.perp (sub x o)) (sub x o) = 0 := by
      have : dot (K3.perp (sub x o)) (sub x o) = dot (sub x o) (K3.perp (sub x o)) := by simp only [dot]; ring
      rw [this, hp1]
    rw [e2] at e1
    rcases mul_eq_zero.mp e1.symm with h | h
    · exact absurd h (ne_of_gt ht)
    · exact hwp h
  have hnv : dot fs.plane.n (sub y x) = 0 := by rw [K4.side_diff, hfsy, hfsx]; ring
  set e := cross fs.plane.n (sub y x) with he
  have hne : dot fs.plane.n e = 0 := dot_cross_self _ _
  -- a second point of the cone in the plane of fs
  obtain ⟨ε, hε, hstep⟩ := K4.small_step T y e (K4.feasible_of_samePlane T y fs hyT hsame e hne)
  set y' := pt y e ε with hy'
  have hy'T : ∀ g ∈ T, g.side y' ≤ 0 := hstep ε (le_of_lt hε) (le_refl _)
  have hfsy' : fs.side y' = 0 := by rw [hy', fs.side_pt, hfsy, hne]; ring
  -- move from x a little towards y and towards y'
  have toward : ∀ yy : V3, (∀ g ∈ T, g.side yy ≤ 0) →
      ∀ g ∈ L, g.side x < 0 ∨ (g.side x ≤ 0 ∧ dot g.plane.n (sub yy x) ≤ 0) := by
    intro yy hyy g hg
    rcases lt_or_eq_of_le (hxside g hg) with h | h
    · exact Or.inl h
    · refine Or.inr ⟨le_of_eq h, ?_⟩
      rw [K4.side_diff, h]
      have := hyy g (hTmem g hg h)
      linarith
  have hN : cross (sub y x) (sub y' x) ≠ zero := by
    have e1 : cross (sub y x) (sub y' x) = smul ε (cross (sub y x) e) := by
      rw [hy']
      apply V3.ext' <;> simp only [cross, sub, pt, add, smul] <;> ring
    rw [e1, he, K4.cross_self_cross hnv]
    exact mt (smul_eq_zero_of_ne hε.ne') (mt (smul_eq_zero_of_ne (normSq_pos hv).ne') hns)
  exact K4.onGon_of_two_dirs hA hB fs hfsL x hx hfsx _ _ hnv (by rw [K4.side_diff, hfsy', hfsx]; ring) hN
    (toward y hyT) (toward y' hy'T)
#print axioms K4.onGon_of_boundary

/-- an interior point lies between two points on polygon clips -/
theorem K4.chord_interior {A B : Polyhedron} (hA : A.ExactHyp) (hB : B.ExactHyp) (x : V3)
    (hx : ∀ f ∈ A.faces ++ B.faces, f.side x < 0) :
    ∃ y1 y2, K4.OnGon A B y1 ∧ K4.OnGon A B y2 ∧ Between y1 y2 x := by
  set L := A.faces ++ B.faces with hL
  obtain ⟨w, hgen, hex⟩ := K4.exists_generic_dir x L [⟨1, 0, 0⟩] (by
    intro m hm; simp only [List.mem_cons, List.not_mem_nil, or_false] at hm
    rw [hm]; intro h; have := congrArg V3.x h; simp [zero] at this)
  have hw : w ≠ zero := by
    intro h
    apply hex ⟨1, 0, 0⟩ (by simp)
    rw [h]; simp [dot, zero]
  obtain ⟨fp, hfp, hfpw⟩ := A.exists_face_along hA.proper.hullCore w hw
  obtain ⟨fn, hfn, hfnw⟩ := A.exists_face_against hA.proper.hullCore w hw
  obtain ⟨t1, ht1, hy1, f1, hf1, hf1y⟩ := K4.exit L x w hx ⟨fp, List.mem_append_left _ hfp, hfpw⟩
  obtain ⟨t2, ht2, hy2, f2, hf2, hf2y⟩ := K4.exit L x (V3.neg w) hx
    ⟨fn, List.mem_append_left _ hfn, by rw [K4.neg_neg_dot]; linarith⟩
  have g1 := K4.onGon_of_generic hA hB (pt x w t1) ((K4.InK_iff_side A B _).mpr hy1) f1 hf1 hf1y
    (fun g hg h => K4.exit_generic L x w hx hgen t1 f1 g hf1 hg hf1y h)
  have g2 := K4.onGon_of_generic hA hB (pt x (V3.neg w) t2) ((K4.InK_iff_side A B _).mpr hy2) f2 hf2 hf2y
    (fun g hg h => K4.exit_generic L x (V3.neg w) hx hgen.neg t2 f2 g hf2 hg hf2y h)
  refine ⟨_, _, g1, g2, t1 / (t1 + t2), div_nonneg (le_of_lt ht1) (by linarith), ?_, ?_⟩
  · rw [div_le_one (by linarith)]; linarith
  · have hne : t1 + t2 ≠ 0 := by linarith
    apply V3.ext' <;> simp only [pt, add, smul, sub, V3.neg] <;> field_simp <;> ring
#print axioms K4.chord_interior

end G3D
