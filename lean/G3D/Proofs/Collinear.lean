import G3D.Proofs.InterFlat
import Mathlib.Order.Lattice
import Mathlib.Algebra.Order.Field.Basic
import Mathlib.Tactic.Ring
import Mathlib.Tactic.Linarith
import Mathlib.Tactic.FieldSimp

namespace G3D
open V3

/-! ### collected point sets -/
def addIf (c : Bool) (p : V3) (l : List V3) : List V3 := if c then addNew l p else l

theorem mem_addNew (l : List V3) (q p : V3) : p ∈ addNew l q ↔ p ∈ l ∨ p = q := by
  unfold addNew
  split
  · exact ⟨Or.inl, fun h => h.elim id (· ▸ ‹q ∈ l›)⟩
  · simp

theorem nodup_addNew (l : List V3) (q : V3) (h : l.Nodup) : (addNew l q).Nodup := by
  unfold addNew
  split
  · exact h
  · rw [← List.concat_eq_append]; exact h.concat ‹_›

theorem mem_addIf (c : Bool) (q : V3) (l : List V3) (p : V3) :
    p ∈ addIf c q l ↔ p ∈ l ∨ (c = true ∧ p = q) := by
  unfold addIf
  by_cases h : c = true
  · rw [if_pos h, mem_addNew]; simp [h]
  · rw [if_neg h]; simp [h]

theorem nodup_addIf (c : Bool) (q : V3) (l : List V3) (h : l.Nodup) : (addIf c q l).Nodup := by
  unfold addIf; split
  · exact nodup_addNew l q h
  · exact h

/-- segment between two (possibly equal) points, as a point set -/
def Between (P Q x : V3) : Prop := ∃ t : Rat, 0 ≤ t ∧ t ≤ 1 ∧ x = add P (smul t (sub Q P))

theorem Between_swap (P Q x : V3) : Between P Q x ↔ Between Q P x := by
  have h : ∀ P Q, Between P Q x → Between Q P x := by
    rintro P Q ⟨t, h0, h1, rfl⟩
    exact ⟨1 - t, by linarith, by linarith, by apply V3.ext' <;> simp [add, smul, sub] <;> ring⟩
  exact ⟨h P Q, h Q P⟩

theorem Between_self (P x : V3) : Between P P x ↔ x = P := by
  constructor
  · rintro ⟨t, _, _, rfl⟩; apply V3.ext' <;> simp [add, smul, sub]
  · rintro rfl; exact ⟨0, le_refl _, by norm_num, by apply V3.ext' <;> simp [add, smul, sub]⟩

theorem Seg.mk'_den (P Q x : V3) : (Seg.mk' P Q).den x ↔ Between P Q x := Iff.rfl

theorem Seg.mk'_WF {P Q : V3} (h : P ≠ Q) : (Seg.mk' P Q).WF := ⟨h, rfl⟩

theorem ofPointSet_nil_exact {A B : V3 → Prop} (h : ∀ x, ¬ (A x ∧ B x)) : Exact (ofPointSet []) A B :=
  Exact.mk_none h

/-- a duplicate-free collected list whose members are the two extreme points `P`, `Q` of `A ∩ B` -/
theorem ofPointSet_pair_exact {A B : V3 → Prop} (ps : List V3) (P Q : V3) (hnd : ps.Nodup)
    (hsub : ∀ p ∈ ps, p = P ∨ p = Q) (hP : P ∈ ps) (hQ : Q ∈ ps)
    (hden : ∀ x, (A x ∧ B x) ↔ Between P Q x) : Exact (ofPointSet ps) A B := by
  -- `ps` is a permutation of any duplicate-free list with the members `P`, `Q`
  have hperm : ∀ l : List V3, l.Nodup → (∀ p, p ∈ l ↔ p = P ∨ p = Q) → ps.Perm l := fun l hl hm =>
    (List.perm_ext_iff_of_nodup hnd hl).mpr fun p =>
      ⟨fun h => (hm p).mpr (hsub p h), fun h => by rcases (hm p).mp h with rfl | rfl <;> assumption⟩
  by_cases hPQ : P = Q
  · subst hPQ
    rw [List.perm_singleton.mp (hperm [P] (List.nodup_singleton _) (by simp))]
    refine Exact.mk_some (.point P) trivial (fun x => ?_)
    simp only [Geo.den]; rw [hden, Between_self]
  · have h2 := hperm [P, Q] (by simp [hPQ]) (by simp)
    have hlen : ps = [P, Q] ∨ ps = [Q, P] := by
      obtain ⟨a, b, rfl⟩ := List.length_eq_two.mp h2.length_eq
      have ha : a = P ∨ a = Q := by simpa using h2.subset (List.mem_cons_self ..)
      have hb : b = P ∨ b = Q := by simpa using h2.subset (List.mem_cons_of_mem _ (List.mem_cons_self ..))
      have hab : a ≠ b := by simpa using hnd
      rcases ha with rfl | rfl <;> rcases hb with rfl | rfl <;> simp_all
    rcases hlen with h | h
    · rw [h]
      simp only [ofPointSet, mkSeg, if_neg hPQ]
      refine Exact.mk_some (.seg (Seg.mk' P Q)) (Seg.mk'_WF hPQ) (fun x => ?_)
      simp only [Geo.den]; rw [Seg.mk'_den, hden]
    · rw [h]
      simp only [ofPointSet, mkSeg, if_neg (Ne.symm hPQ)]
      refine Exact.mk_some (.seg (Seg.mk' Q P)) (Seg.mk'_WF (Ne.symm hPQ)) (fun x => ?_)
      simp only [Geo.den]; rw [Seg.mk'_den, hden, Between_swap]
#print axioms ofPointSet_pair_exact

/-! ### segments and half-lines in the parametrisation of a line -/
theorem Between_pt {o d : V3} {lo hi : Rat} (h : lo ≤ hi) (x : V3) :
    Between (pt o d lo) (pt o d hi) x ↔ ∃ t, lo ≤ t ∧ t ≤ hi ∧ x = pt o d t := by
  show (∃ u, 0 ≤ u ∧ u ≤ 1 ∧ x = pt (pt o d lo) (sub (pt o d hi) (pt o d lo)) u) ↔ _
  simp only [pt_sub_pt, pt_pt]
  constructor
  · rintro ⟨u, h0, h1, rfl⟩
    exact ⟨_, le_add_of_nonneg_right (mul_nonneg h0 (sub_nonneg.mpr h)), by nlinarith, rfl⟩
  · rintro ⟨t, h0, h1, rfl⟩
    rcases eq_or_lt_of_le h with rfl | hlt
    · exact ⟨0, le_refl _, zero_le_one, by rw [le_antisymm h1 h0]; simp⟩
    · have hpos := sub_pos.mpr hlt
      exact ⟨(t - lo) / (hi - lo), div_nonneg (sub_nonneg.mpr h0) hpos.le, (div_le_one hpos).mpr (by linarith),
        by rw [div_mul_cancel₀ _ hpos.ne', add_sub_cancel]⟩

/-- a segment whose endpoints sit at parameters `s`, `e` of the line -/
theorem seg_den_pt {o d : V3} (hd : d ≠ zero) (b : Seg) {s e : Rat} (hs : b.a = pt o d s) (he : b.b = pt o d e)
    (t : Rat) : b.den (pt o d t) ↔ (min s e ≤ t ∧ t ≤ max s e) := by
  have hb : ∀ x, b.den x ↔ Between (pt o d s) (pt o d e) x := by
    intro x; unfold Seg.den Between; rw [hs, he]
  -- in either order of the end points the segment is the parameter interval
  have hI : b.den (pt o d t) ↔ ∃ t', min s e ≤ t' ∧ t' ≤ max s e ∧ pt o d t = pt o d t' := by
    rw [hb]
    rcases le_total s e with hse | hse
    · rw [min_eq_left hse, max_eq_right hse, Between_pt hse]
    · rw [min_eq_right hse, max_eq_left hse, Between_swap, Between_pt hse]
  rw [hI]
  constructor
  · rintro ⟨t', h0, h1, ht⟩; rw [pt_inj hd ht]; exact ⟨h0, h1⟩
  · rintro ⟨h0, h1⟩; exact ⟨t, h0, h1, rfl⟩

/-- non-collinear branch shared by segment/halfline pairs: carrier lines meet in at most a point,
    which is then filtered by both membership tests -/
theorem two_carrier_filter {SA SB : V3 → Prop} (la lb : Line) (hla : la.WF) (hlb : lb.WF)
    (hSA : ∀ x, SA x → la.den x) (hSB : ∀ x, SB x → lb.den x)
    (ca cb : V3 → Bool) (hca : ∀ q, ca q = true ↔ SA q) (hcb : ∀ q, cb q = true ↔ SB q)
    (hneq : ¬ la.eqv lb = true) :
    Exact (match interLineLine la lb with
      | .ok none => .ok none
      | .ok (some (.point q)) => .ok (if ca q && cb q then some (.point q) else none)
      | .ok _ => .error .bug
      | .error e => .error e) SA SB := by
  have hr := interLineLine_exact la lb hla hlb
  -- the carrier lines differ, so their intersection is not a line
  have hsh : ∀ o, interLineLine la lb = .ok o → o = none ∨ ∃ q, o = some (.point q) := fun o ho =>
    (interLineLine_shape la lb o ho).imp_right (Or.elim · id fun h => absurd h.2 hneq)
  have h := restrictCarrier_exact (whole := .point zero) hr hSA hSB (c := fun q => ca q && cb q)
    (fun q _ => by rw [Bool.and_eq_true, hca, hcb]) trivial fun o ho => (hsh o ho).imp_right Or.inl
  obtain ⟨o, ho, -⟩ := hr
  rcases hsh o ho with rfl | ⟨q, rfl⟩ <;> rw [ho] at h ⊢ <;> exact h

def WithinBounds (L U : List Rat) (t : Rat) : Prop := (∀ l ∈ L, l ≤ t) ∧ ∀ u ∈ U, t ≤ u

theorem exists_max_mem : ∀ (L : List Rat), L ≠ [] → ∃ m ∈ L, ∀ l ∈ L, l ≤ m := by
  intro L
  induction L with
  | nil => intro h; exact absurd rfl h
  | cons a as ih =>
    intro _
    by_cases has : as = []
    · exact ⟨a, by simp, by simp [has]⟩
    · obtain ⟨m, hm, hmax⟩ := ih has
      rcases le_total a m with h | h
      · exact ⟨m, by simp [hm], by simpa [h] using hmax⟩
      · exact ⟨a, by simp, by simpa using fun l hl => (hmax l hl).trans h⟩

theorem exists_min_mem (U : List Rat) (hU : U ≠ []) : ∃ m ∈ U, ∀ u ∈ U, m ≤ u := by
  obtain ⟨m, hm, hmax⟩ := exists_max_mem (U.map (- ·)) (by simpa using hU)
  obtain ⟨m', hm', rfl⟩ := List.mem_map.mp hm
  exact ⟨m', hm', fun u hu => neg_le_neg_iff.mp (hmax _ (List.mem_map_of_mem hu))⟩

/-- a duplicate-free collected list, characterised member-wise, against the parameter interval `[lo, hi]` of the
    common points -/
theorem collected_exact {A B : V3 → Prop} {o d : V3} (ps : List V3) (hnd : ps.Nodup) (lo hi : Rat)
    (hcommon : ∀ x, (A x ∧ B x) ↔ ∃ t, (lo ≤ t ∧ t ≤ hi) ∧ x = pt o d t)
    (hsub : ∀ p ∈ ps, lo ≤ hi ∧ (p = pt o d lo ∨ p = pt o d hi))
    (hlo : lo ≤ hi → pt o d lo ∈ ps) (hhi : lo ≤ hi → pt o d hi ∈ ps) :
    Exact (ofPointSet ps) A B := by
  by_cases hI : lo ≤ hi
  · exact ofPointSet_pair_exact ps (pt o d lo) (pt o d hi) hnd (fun p hp => (hsub p hp).2) (hlo hI) (hhi hI)
      (fun x => by rw [hcommon, Between_pt hI]; simp only [and_assoc])
  · have hempty : ps = [] := List.eq_nil_iff_forall_not_mem.mpr fun p hp => hI (hsub p hp).1
    rw [hempty]
    refine ofPointSet_nil_exact (fun x hx => ?_)
    obtain ⟨t, ⟨h1, h2⟩, _⟩ := (hcommon x).mp hx
    exact hI (le_trans h1 h2)

/-- Two objects on the line `t ↦ pt o d t` whose parameter sets are given by bounds, the ends of the two objects.
    The handlers collect, without duplicates, those ends that lie in both objects: these are the extreme common
    points, so the collected list is empty, a point or the two ends of the common segment. -/
theorem collected_ends_exact {A B : V3 → Prop} {o d : V3} {LA UA LB UB : List Rat} (E : List Rat) (ps : List V3)
    (hnd : ps.Nodup) (hline : ∀ x, A x → ∃ t, x = pt o d t)
    (hA : ∀ t, A (pt o d t) ↔ WithinBounds LA UA t) (hB : ∀ t, B (pt o d t) ↔ WithinBounds LB UB t)
    (hL : LA ++ LB ≠ []) (hU : UA ++ UB ≠ [])
    (hE : ∀ t, t ∈ E ↔ t ∈ LA ++ LB ∨ t ∈ UA ++ UB)
    (hmem : ∀ p, p ∈ ps ↔ ∃ t ∈ E, (A (pt o d t) ∧ B (pt o d t)) ∧ p = pt o d t) :
    Exact (ofPointSet ps) A B := by
  obtain ⟨lo, hloL, hlo⟩ := exists_max_mem _ hL
  obtain ⟨hi, hhiU, hhi⟩ := exists_min_mem _ hU
  have hW : ∀ t, (A (pt o d t) ∧ B (pt o d t)) ↔ lo ≤ t ∧ t ≤ hi := by
    intro t
    simp only [hA, hB, WithinBounds, List.mem_append] at hlo hhi hloL hhiU ⊢
    exact ⟨fun h => ⟨hloL.elim (h.1.1 lo) (h.2.1 lo), hhiU.elim (h.1.2 hi) (h.2.2 hi)⟩,
      fun h => ⟨⟨fun l hl => (hlo l (Or.inl hl)).trans h.1, fun u hu => h.2.trans (hhi u (Or.inl hu))⟩,
        fun l hl => (hlo l (Or.inr hl)).trans h.1, fun u hu => h.2.trans (hhi u (Or.inr hu))⟩⟩
  refine collected_exact ps hnd lo hi (fun x => ⟨fun h => ?_, ?_⟩) (fun p hp => ?_)
    (fun hI => (hmem _).mpr ⟨lo, (hE lo).mpr (Or.inl hloL), (hW lo).mpr ⟨le_refl _, hI⟩, rfl⟩)
    (fun hI => (hmem _).mpr ⟨hi, (hE hi).mpr (Or.inr hhiU), (hW hi).mpr ⟨hI, le_refl _⟩, rfl⟩)
  · obtain ⟨t, rfl⟩ := hline x h.1
    exact ⟨t, (hW t).mp h, rfl⟩
  · rintro ⟨t, h, rfl⟩; exact (hW t).mpr h
  · obtain ⟨t, ht, hw, rfl⟩ := (hmem p).mp hp
    rw [hW] at hw
    refine ⟨hw.1.trans hw.2, ((hE t).mp ht).imp (fun ht => ?_) (fun ht => ?_)⟩
    · rw [le_antisymm (hlo t ht) hw.1]
    · rw [le_antisymm hw.2 (hhi t ht)]

theorem Seg.a_mem_den (s : Seg) : s.den s.a := ⟨0, le_refl _, zero_le_one, (pt_at_zero ..).symm⟩
theorem Seg.b_mem_den (s : Seg) : s.den s.b := ⟨1, zero_le_one, le_refl _, by apply V3.ext' <;> simp [add, smul, sub]⟩
theorem HalfLine.p_mem_den (h : HalfLine) : h.den h.p := ⟨0, le_refl _, (pt_at_zero ..).symm⟩

theorem Geo.nonempty : ∀ a : Geo, ∃ x, a.den x
  | .point p => ⟨p, rfl⟩
  | .line l => ⟨l.sv, 0, (pt_at_zero ..).symm⟩
  | .plane pl => ⟨pl.p, by show dot pl.n (sub pl.p pl.p) = 0; simp only [dot, sub]; ring⟩
  | .seg s => ⟨s.a, s.a_mem_den⟩
  | .halfline h => ⟨h.p, h.p_mem_den⟩

theorem Seg.own_params (a : Seg) (ha : a.WF) :
    sub a.b a.a ≠ zero ∧ a.b = pt a.a (sub a.b a.a) 1 ∧
      (∀ t, a.den (pt a.a (sub a.b a.a) t) ↔ WithinBounds [0] [1] t) ∧
      ∀ x, a.den x → ∃ t, x = pt a.a (sub a.b a.a) t := by
  have hd : sub a.b a.a ≠ zero := fun h => ha.1 (sub_eq_zero_iff.mp h).symm
  refine ⟨hd, by apply V3.ext' <;> simp [pt, add, smul, sub], fun t => ?_, fun x ⟨u, _, _, hx⟩ => ⟨u, hx⟩⟩
  simp only [WithinBounds, List.forall_mem_singleton]
  constructor
  · rintro ⟨u, h0, h1, hx⟩; rw [pt_inj hd hx]; exact ⟨h0, h1⟩
  · rintro ⟨h0, h1⟩; exact ⟨t, h0, h1, rfl⟩

theorem interSegSeg_collinear_exact (a b : Seg) (ha : a.WF) (hb : b.WF) (heq : a.line.eqv b.line = true) :
    Exact (interSegSeg a b) a.den b.den := by
  obtain ⟨hd, ha1, aden, aline⟩ := a.own_params ha
  obtain ⟨s, k, hs, hk⟩ := eqv_params a.line b.line (a.line_WF ha) heq
  rw [ha.2, hb.2] at hs hk
  simp only at hs hk
  have he : b.b = pt a.a (sub a.b a.a) (s + k) := by
    rw [← one_mul k, ← pt_pt, ← hs, ← hk]; apply V3.ext' <;> simp [pt, add, smul, sub]
  have bden : ∀ t, b.den (pt a.a (sub a.b a.a) t) ↔ WithinBounds [min s (s + k)] [max s (s + k)] t := fun t => by
    simpa [WithinBounds] using seg_den_pt hd b hs he t
  unfold interSegSeg
  rw [if_pos heq]
  change Exact (ofPointSet (addIf (a.contains b.b) b.b (addIf (a.contains b.a) b.a
      (addIf (b.contains a.b) a.b (addIf (b.contains a.a) a.a []))))) _ _
  refine collected_ends_exact [0, 1, s, s + k] _
    (nodup_addIf _ _ _ (nodup_addIf _ _ _ (nodup_addIf _ _ _ (nodup_addIf _ _ _ List.nodup_nil))))
    aline aden bden (by simp) (by simp) (fun t => ?_) (fun p => ?_)
  · rcases le_total s (s + k) with h | h <;> simp [h, or_assoc, or_comm, or_left_comm]
  · simp only [mem_addIf, List.not_mem_nil, false_or, or_assoc, List.mem_cons, or_false, exists_eq_or_imp,
      exists_eq_left, Seg.contains_iff a ha, Seg.contains_iff b hb, pt_at_zero, ← ha1, ← hs, ← he, Seg.a_mem_den, Seg.b_mem_den,
      true_and, and_true]

#print axioms interSegSeg_collinear_exact

theorem interSegSeg_exact (a b : Seg) (ha : a.WF) (hb : b.WF) : Exact (interSegSeg a b) a.den b.den := by
  by_cases heq : a.line.eqv b.line = true
  · exact interSegSeg_collinear_exact a b ha hb heq
  · have := two_carrier_filter a.line b.line (a.line_WF ha) (b.line_WF hb) (a.den_sub_line ha) (b.den_sub_line hb)
      a.contains b.contains (Seg.contains_iff a ha) (Seg.contains_iff b hb) heq
    unfold interSegSeg; rw [if_neg heq]; exact this
#print axioms interSegSeg_exact

theorem hl_den_pt {o d : V3} (hd : d ≠ zero) (h : HalfLine) {s k : Rat} (hp : h.p = pt o d s)
    (hv : h.v = smul k d) (hk : k ≠ 0) (t : Rat) : h.den (pt o d t) ↔ 0 ≤ k * (t - s) := by
  have : h.den (pt o d t) ↔ ∃ u, 0 ≤ u ∧ t = s + u * k := by
    show (∃ u, 0 ≤ u ∧ pt o d t = pt h.p h.v u) ↔ _
    simp only [hp, hv, pt_pt]
    exact ⟨fun ⟨u, hu, e⟩ => ⟨u, hu, pt_inj hd e⟩, fun ⟨u, hu, e⟩ => ⟨u, hu, e ▸ rfl⟩⟩
  rw [this]
  constructor
  · rintro ⟨u, hu, rfl⟩
    rw [show k * (s + u * k - s) = u * (k * k) by ring]
    exact mul_nonneg hu (mul_self_nonneg k)
  · intro h0
    refine ⟨(t - s) / k, ?_, by rw [div_mul_cancel₀ _ hk]; ring⟩
    rw [show (t - s) / k = k * (t - s) / (k * k) by field_simp]
    exact div_nonneg h0 (mul_self_nonneg k)

theorem hl_den_within {o d : V3} (hd : d ≠ zero) (h : HalfLine) {s k : Rat} (hp : h.p = pt o d s)
    (hv : h.v = smul k d) (hk : k ≠ 0) (t : Rat) :
    h.den (pt o d t) ↔ WithinBounds (if 0 < k then [s] else []) (if 0 < k then [] else [s]) t := by
  rw [hl_den_pt hd h hp hv hk t]
  rcases lt_or_gt_of_ne hk with hneg | hpos
  · rw [← neg_mul_neg, mul_nonneg_iff_of_pos_left (neg_pos.mpr hneg)]
    simp [not_lt.mpr hneg.le, WithinBounds]
  · rw [mul_nonneg_iff_of_pos_left hpos]
    simp [hpos, WithinBounds]

theorem hl_den_on_line {o d : V3} (h : HalfLine) {s k : Rat} (hp : h.p = pt o d s) (hv : h.v = smul k d)
    (x : V3) (hx : h.den x) : ∃ t, x = pt o d t := by
  obtain ⟨u, _, rfl⟩ := hx
  exact ⟨s + u * k, by rw [hp, hv]; exact pt_pt o d s k u⟩

theorem interSegHalfLine_collinear_exact (a : Seg) (b : HalfLine) (ha : a.WF) (hb : b.WF)
    (heq : a.line.eqv b.line = true) : Exact (interSegHalfLine a b) a.den b.den := by
  obtain ⟨hd, ha1, aden, aline⟩ := a.own_params ha
  obtain ⟨s, k, hs, hk⟩ := eqv_params a.line b.line (a.line_WF ha) heq
  rw [ha.2, hb.2] at hs hk
  simp only at hs hk
  have hk0 : k ≠ 0 := smul_ne_zero_left (by rw [← hk]; exact hb.1)
  unfold interSegHalfLine
  rw [if_pos heq]
  change Exact (ofPointSet (addIf (a.contains b.p) b.p (addIf (b.contains a.b) a.b
      (addIf (b.contains a.a) a.a [])))) _ _
  refine collected_ends_exact [0, 1, s] _ (nodup_addIf _ _ _ (nodup_addIf _ _ _ (nodup_addIf _ _ _ List.nodup_nil)))
    aline aden (hl_den_within hd b hs hk hk0) (by simp) (by simp) (fun t => ?_) (fun p => ?_)
  · split_ifs <;> simp [or_assoc, or_comm, or_left_comm]
  · simp only [mem_addIf, List.not_mem_nil, false_or, or_assoc, List.mem_cons, or_false, exists_eq_or_imp,
      exists_eq_left, Seg.contains_iff a ha, HalfLine.contains_iff b hb, pt_at_zero, ← ha1, ← hs, Seg.a_mem_den, Seg.b_mem_den,
      HalfLine.p_mem_den, true_and, and_true]

theorem interSegHalfLine_exact (a : Seg) (b : HalfLine) (ha : a.WF) (hb : b.WF) :
    Exact (interSegHalfLine a b) a.den b.den := by
  by_cases heq : a.line.eqv b.line = true
  · exact interSegHalfLine_collinear_exact a b ha hb heq
  · have := two_carrier_filter a.line b.line (a.line_WF ha) (b.line_WF hb) (a.den_sub_line ha) (b.den_sub_line hb)
      a.contains b.contains (Seg.contains_iff a ha) (HalfLine.contains_iff b hb) heq
    unfold interSegHalfLine; rw [if_neg heq]; exact this
#print axioms interSegHalfLine_exact

theorem interHalfLineHalfLine_collinear_exact (a b : HalfLine) (ha : a.WF) (hb : b.WF)
    (heq : a.line.eqv b.line = true) : Exact (interHalfLineHalfLine a b) a.den b.den := by
  have hd : a.v ≠ zero := ha.1
  obtain ⟨s, k, hs, hk⟩ := eqv_params a.line b.line (a.line_WF ha) heq
  rw [ha.2, hb.2] at hs hk
  simp only at hs hk
  have hk0 : k ≠ 0 := smul_ne_zero_left (by rw [← hk]; exact hb.1)
  have aline : ∀ x, a.den x → ∃ t, x = pt a.p a.v t := fun x ⟨u, _, hx⟩ => ⟨u, hx⟩
  have aden : ∀ t, a.den (pt a.p a.v t) ↔ WithinBounds [0] [] t := fun t => by
    simpa using hl_den_within hd a (pt_at_zero ..).symm (by apply V3.ext' <;> simp [smul] : a.v = smul 1 a.v) one_ne_zero t
  have bden := hl_den_within hd b hs hk hk0
  have cba : b.contains a.p = true ↔ b.den (pt a.p a.v 0) := by rw [HalfLine.contains_iff b hb, pt_at_zero]
  have cab : a.contains b.p = true ↔ a.den (pt a.p a.v s) := by rw [HalfLine.contains_iff a ha, hs]
  have hdot : dot b.v a.v = k * normSq a.v := by rw [hk]; simp only [dot, smul, normSq]; ring
  have hdot' : dot a.v b.v = k * normSq a.v := by rw [hk]; simp only [dot, smul, normSq]; ring
  have hN := normSq_pos hd
  -- both `containsHL` tests say: same direction, and the one end point lies behind the other
  have c1 : b.containsHL a = true ↔ 0 < k ∧ s ≤ 0 := by
    simp only [HalfLine.containsHL, (Line.eqv_iff _ _ (b.line_WF hb) (a.line_WF ha)).mpr
      (fun x => ((Line.eqv_iff _ _ (a.line_WF ha) (b.line_WF hb)).mp heq x).symm), cba, bden, hdot,
      Bool.true_and, Bool.and_eq_true, decide_eq_true_eq]
    constructor
    · rintro ⟨h1, h2⟩
      have hk : 0 < k := lt_of_le_of_ne (nonneg_of_mul_nonneg_left h2 hN) hk0.symm
      simpa [hk, WithinBounds] using h1
    · rintro ⟨hk, h⟩; exact ⟨by simpa [hk, WithinBounds] using h, by positivity⟩
  have c2 : a.containsHL b = true ↔ 0 < k ∧ 0 ≤ s := by
    simp only [HalfLine.containsHL, heq, cab, aden, hdot', Bool.true_and, Bool.and_eq_true, decide_eq_true_eq]
    constructor
    · rintro ⟨h1, h2⟩
      exact ⟨lt_of_le_of_ne (nonneg_of_mul_nonneg_left h2 hN) hk0.symm, by simpa [WithinBounds] using h1⟩
    · rintro ⟨hk, h⟩; exact ⟨by simpa [WithinBounds] using h, by positivity⟩
  unfold interHalfLineHalfLine
  rw [if_pos heq]
  by_cases h1 : b.containsHL a = true
  · rw [if_pos h1]
    obtain ⟨hkpos, hs0⟩ := c1.mp h1
    refine Exact.mk_some (.halfline a) ha (fun x => ⟨fun hx => ⟨hx, ?_⟩, fun h => h.1⟩)
    obtain ⟨t, rfl⟩ := aline x hx
    have ht : 0 ≤ t := by simpa [WithinBounds] using (aden t).mp hx
    exact (bden t).mpr (by simpa [hkpos, WithinBounds] using hs0.trans ht)
  · rw [if_neg h1]
    by_cases h2 : a.containsHL b = true
    · rw [if_pos h2]
      obtain ⟨hkpos, hs0⟩ := c2.mp h2
      refine Exact.mk_some (.halfline b) hb (fun x => ⟨fun hx => ⟨?_, hx⟩, fun h => h.2⟩)
      obtain ⟨t, rfl⟩ := hl_den_on_line b hs hk x hx
      have ht : s ≤ t := by simpa [hkpos, WithinBounds] using (bden t).mp hx
      exact (aden t).mpr (by simpa [WithinBounds] using hs0.trans ht)
    · rw [if_neg h2]
      -- the directions are opposite
      have hkneg : ¬ 0 < k := fun hkpos =>
        (le_total s 0).elim (fun h => h1 (c1.mpr ⟨hkpos, h⟩)) (fun h => h2 (c2.mpr ⟨hkpos, h⟩))
      simp only [hkneg, if_false] at bden
      change Exact (ofPointSet (addIf (a.contains b.p) b.p (addIf (b.contains a.p) a.p []))) _ _
      refine collected_ends_exact [0, s] _ (nodup_addIf _ _ _ (nodup_addIf _ _ _ List.nodup_nil))
        aline aden bden (by simp) (by simp) (fun t => by simp) (fun p => ?_)
      simp only [mem_addIf, List.not_mem_nil, false_or, List.mem_cons, or_false, exists_eq_or_imp,
        exists_eq_left, HalfLine.contains_iff a ha, HalfLine.contains_iff b hb, pt_at_zero, ← hs, HalfLine.p_mem_den,
        true_and, and_true]

theorem interHalfLineHalfLine_exact (a b : HalfLine) (ha : a.WF) (hb : b.WF) :
    Exact (interHalfLineHalfLine a b) a.den b.den := by
  by_cases heq : a.line.eqv b.line = true
  · exact interHalfLineHalfLine_collinear_exact a b ha hb heq
  · have := two_carrier_filter a.line b.line (a.line_WF ha) (b.line_WF hb) (a.den_sub_line ha) (b.den_sub_line hb)
      a.contains b.contains (HalfLine.contains_iff a ha) (HalfLine.contains_iff b hb) heq
    unfold interHalfLineHalfLine; rw [if_neg heq]; exact this
#print axioms interHalfLineHalfLine_exact

/-! ### C01: all 25 ordered pairs of flat types -/
theorem interFlat_exact (a b : Geo) (ha : a.WF) (hb : b.WF) : Exact (interFlat a b) a.den b.den := by
  cases a <;> cases b <;> simp only [interFlat, Geo.den] <;> simp only [Geo.WF] at ha hb
  · exact interPointPoint_exact _ _
  · exact interPointLine_exact _ _ hb
  · exact interPointPlane_exact _ _
  · exact interPointSeg_exact _ _ hb
  · exact interPointHalfLine_exact _ _ hb
  · exact (interPointLine_exact _ _ ha).symm
  · exact interLineLine_exact _ _ ha hb
  · exact interLinePlane_exact _ _ ha
  · exact interLineSeg_exact _ _ ha hb
  · exact interLineHalfLine_exact _ _ ha hb
  · exact (interPointPlane_exact _ _).symm
  · exact (interLinePlane_exact _ _ hb).symm
  · exact interPlanePlane_exact _ _ ha hb
  · exact interPlaneSeg_exact _ _ hb
  · exact interPlaneHalfLine_exact _ _ hb
  · exact (interPointSeg_exact _ _ ha).symm
  · exact (interLineSeg_exact _ _ hb ha).symm
  · exact (interPlaneSeg_exact _ _ ha).symm
  · exact interSegSeg_exact _ _ ha hb
  · exact interSegHalfLine_exact _ _ ha hb
  · exact (interPointHalfLine_exact _ _ ha).symm
  · exact (interLineHalfLine_exact _ _ hb ha).symm
  · exact (interPlaneHalfLine_exact _ _ ha).symm
  · exact (interSegHalfLine_exact _ _ hb ha).symm
  · exact interHalfLineHalfLine_exact _ _ ha hb
#print axioms interFlat_exact
end G3D
