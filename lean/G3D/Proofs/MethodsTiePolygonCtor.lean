import G3D.Extracted.Mpolygon
import G3D.Proofs.MethodsTiePolygonShared
import G3D.Proofs.MethodsTiePolygonCenter
/-! # Tie, group `mpolygon`, role CONSTRUCTION (C09; error branches C15): `_check_and_sort_points`, `__init__` (= `Polygon.mk?`, unconditional), `__neg__`.
    Imports `MethodsTiePolygonCenter` (`__init__` calls `_get_center_point`).  Conventions, trusted readings and the deviations found: `G3D.Proofs.MethodsTie`, header of `G3D.Model.PyRtM`. -/
set_option linter.style.nameCheck false
namespace G3D.Tie
open V3 PyRt Extracted

/-- the angular keys of `_check_and_sort_points` on the unnormalised frame -/
def angKey (n c p0 p : V3) : Rat × Rat := (dot (sub p c) (sub p0 c), dot (sub p c) (cross n (sub p0 c)))

/-- the vertex order `_check_and_sort_points` produces -/
def angSort (n c p0 : V3) (pts : List V3) : List V3 :=
  (pts.foldl (fun acc p => angInsert (angKey n c p0 p) p acc) []).map (·.2)

theorem m_ConvexPolygon__check_and_sort_points_eq (self : Self) (p0 : V3) (ps : List V3) (a : Plane) (c : V3)
    (h1 : self.f_points = some (Val.ptSeq (p0 :: ps))) (h2 : self.f_plane = some (.obj (plObj a)))
    (h3 : self.f_center_point = some (.obj (ptObj c))) (hn : a.n ≠ zero) :
    m_ConvexPolygon__check_and_sort_points self =
      if sub p0 c = zero then .error (.ctor .zeroDiv)
      else if (p0 :: ps).all a.contains = true then
        .ok ({ self with f_points := some (Val.ptSeq (angSort a.n c p0 (p0 :: ps))) },
             .bool true)
      else .error (.ctor .value) := by
  unfold m_ConvexPolygon__check_and_sort_points
  by_cases hv : sub p0 c = zero
  · simp only [h1, h2, h3, pyrt, Val.ptSeq, hn, if_false, hv, if_true]
  simp only [h1, h2, h3, pyrt, Val.ptSeq, List.map_map, hn, if_false, hv, pyAngDictNew]
  rw [forIn_repr (Val.obj ∘ ptObj) (fun d : AngDict => d) (p0 :: ps) _
    (fun p d => if a.contains p = true then .ok (.yield (angInsert (angKey a.n c p0 p) p d)) else .error (.ctor .value))]
  · rw [forIn_guard (p0 :: ps) a.contains (fun d p => angInsert (angKey a.n c p0 p) p d)]
    by_cases hall : (p0 :: ps).all a.contains = true <;> simp [hall, pyAngDictSortedValues, pyList, Val.ptSeq, angSort]
  · intro p _ d
    by_cases hp : a.contains p = true <;> simp [pyrt, hp, ForInStep.map', angKey]

theorem new_ConvexPolygon_eq (input : List V3) (rev : Bool) (cc : Val) :
    new_ConvexPolygon (Val.ptSeq input) (.bool rev) cc = ofCtor Obj.polygon (Polygon.mk? input rev) := by
  unfold new_ConvexPolygon m_ConvexPolygon___init__
  simp only [pyrt, pyDedupFirst, Val.ptSeq, allPoints_pt, Self.empty, List.length_map, pyFld]
  unfold Polygon.mk?
  by_cases hlen : input.length < 3
  · have : (input.length : Int) < 3 := by omega
    simp [hlen, this, ofCtor]
  have hlen' : ¬ (input.length : Int) < 3 := by omega
  simp only [hlen, hlen', decide_false, if_false, Bool.false_eq_true]
  generalize dedupV input = ded
  simp only [plane3_seq]
  match ded with
  | [] | [_] | [_, _] => cases rev <;> rfl
  | p0 :: p1 :: p2 :: rest =>
    simp only [pyrt, Plane.ofPoints]
    by_cases hn0 : cross (sub p1 p0) (sub p2 p0) = zero
    · cases rev <;> simp [hn0]
    have hneg : ¬ neg (cross (sub p1 p0) (sub p2 p0)) = zero := fun e => hn0 (neg_eq_zero_iff.mp e)
    -- both orientations: from here on only the normal of the carrier plane differs
    cases rev <;> simp only [hn0, if_false, Bool.false_eq_true, pyrt, pyNegM, Plane.neg, if_true]
    all_goals
      rw [m_ConvexPolygon__get_center_point_eq _ (p0 :: p1 :: p2 :: rest) rfl]
      simp only [List.cons_ne_nil, if_false, pyrt]
      rw [m_ConvexPolygon__check_and_sort_points_eq _ p0 (p1 :: p2 :: rest) ⟨p0, _⟩ _ rfl rfl rfl (by assumption)]
      by_cases hv : sub p0 (meanV (p0 :: p1 :: p2 :: rest)) = zero
      · simp [hv]
      simp only [hv, if_false]
      split
      · rename_i hall
        simp only [hall, pyrt, pyPack_ConvexPolygon, Val.ptSeq, allPoints_pt]
        rfl
      · rename_i hall
        simp [hall]

theorem m_ConvexPolygon___neg___eq (P : Polygon) :
    m_ConvexPolygon___neg__ (Self.ofPolygon P) = ofCtor Obj.polygon P.neg? := by
  unfold m_ConvexPolygon___neg__
  simp only [Self.ofPolygon, pyFld, pyrt, Val.ptSeq, pyConvexPolygon_pt, Polygon.neg?, ofCtor]
  cases Polygon.mk? P.pts true <;> simp [liftC]

end G3D.Tie
