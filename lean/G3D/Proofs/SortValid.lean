import G3D.Proofs.Sort
import G3D.Proofs.Neg
import G3D.Proofs.FlatPolygon
import Mathlib.Tactic.Ring
import Mathlib.Tactic.Linarith
import Mathlib.Tactic.LinearCombination

/-! Kernel K6: the angular sort about the centroid of points in strictly convex position is a `Valid`
    (counter-clockwise, strictly convex) vertex cycle. -/
namespace G3D
open V3

/-! ### three keys in increasing angular order: at most one of the three gaps is ≥ π -/
/-- from a key to a later one that is less than two classes ahead the angle grows by less than π -/
theorem angLt_gap {k1 k2 : Key} (h : angLt k1 k2 = true) (h1 : k1 ≠ (0, 0)) :
    (kcls k1 < kcls k2 ∨ kcls k1 = kcls k2 ∧ (kcls k1 = 1 ∨ kcls k1 = 3)) ∧
      (kcls k2 < kcls k1 + 2 → 0 < kcross k1 k2) := by
  rcases (angLt_iff k1 k2).mp h with lt | ⟨e, c, X⟩
  · refine ⟨Or.inl lt, fun g => ?_⟩
    -- adjacent classes: one of the two keys lies on the first axis
    have e : kcls k2 = kcls k1 + 1 := by omega
    unfold kcross
    rcases kcls_cases k1 with ⟨c, z, _⟩ | ⟨c, z⟩ | ⟨c, z, y⟩ | ⟨c, z⟩ <;> rw [c] at e
    · rw [z, zero_mul, sub_zero]
      exact mul_pos (fst_pos_of_kcls_zero h1 c) (kcls_eq_one.mp e)
    · obtain ⟨z2, y2⟩ := kcls_eq_two.mp e
      rw [z2, mul_zero, zero_sub]
      exact neg_pos.mpr (mul_neg_of_pos_of_neg z y2)
    · rw [z, zero_mul, sub_zero]
      exact mul_pos_of_neg_of_neg y (kcls_eq_three.mp e)
    · exact absurd (kcls_lt_four k2) (by rw [e]; decide)
  · exact ⟨Or.inr ⟨e, c⟩, fun _ => X⟩

theorem pos_of_three {z1 z2 z3 A B C : Rat} (Z : z1 * B + z2 * C + z3 * A = 0)
    (h1 : 0 ≤ z1) (h2 : 0 < z2) (h3 : z3 < 0) (hA : 0 < A) : 0 < B ∨ 0 < C := by
  by_contra h
  rw [not_or, not_lt, not_lt] at h
  have := mul_nonpos_of_nonneg_of_nonpos h1 h.1
  have := mul_nonpos_of_nonneg_of_nonpos h2.le h.2
  have := mul_neg_of_neg_of_pos h3 hA
  linarith

/-- for `k1 < k2 < k3` (with `k1` not the zero key) at least two of the three cyclic cross products
    `k1×k2`, `k2×k3`, `k3×k1` are positive -/
theorem two_of_three_pos (k1 k2 k3 : Key) (h12 : angLt k1 k2 = true) (h23 : angLt k2 k3 = true)
    (h1 : k1 ≠ (0, 0)) :
    (0 < kcross k1 k2 ∧ 0 < kcross k2 k3) ∨ (0 < kcross k2 k3 ∧ 0 < kcross k3 k1) ∨
    (0 < kcross k3 k1 ∧ 0 < kcross k1 k2) := by
  obtain ⟨l12, g12⟩ := angLt_gap h12 h1
  obtain ⟨l23, g23⟩ := angLt_gap h23 (fun e => by rw [e, kcls_zero] at l12; omega)
  have b3 := kcls_lt_four k3
  have Z : k1.2 * kcross k2 k3 + k2.2 * kcross k3 k1 + k3.2 * kcross k1 k2 = 0 := by unfold kcross; ring
  -- only one of `k1 → k2`, `k2 → k3` can jump two classes; then `Z` makes one of the other two gaps positive
  by_cases a : kcls k2 < kcls k1 + 2
  · by_cases b : kcls k3 < kcls k2 + 2
    · exact Or.inl ⟨g12 a, g23 b⟩
    ·
      obtain ⟨c1, c2, c3⟩ : (kcls k1 = 0 ∨ kcls k1 = 1) ∧ kcls k2 = 1 ∧ kcls k3 = 3 := by omega
      have z1 : 0 ≤ k1.2 := c1.elim (fun c => (kcls_eq_zero.mp c).1.ge) (fun c => (kcls_eq_one.mp c).le)
      rcases pos_of_three Z z1 (kcls_eq_one.mp c2) (kcls_eq_three.mp c3) (g12 a) with B | C
      · exact Or.inl ⟨g12 a, B⟩
      · exact Or.inr (Or.inr ⟨C, g12 a⟩)
  · obtain ⟨c1, c3, b⟩ : (kcls k1 = 0 ∨ kcls k1 = 1 ∧ kcls k2 = 3) ∧ kcls k3 = 3 ∧ kcls k3 < kcls k2 + 2 := by
      omega
    have z3 := kcls_eq_three.mp c3
    rcases c1 with c | ⟨c, c2⟩
    · -- `k1` on the positive first axis, `k3` below it
      refine Or.inr (Or.inl ⟨g23 b, ?_⟩)
      unfold kcross
      rw [(kcls_eq_zero.mp c).1, mul_zero, zero_sub]
      exact neg_pos.mpr (mul_neg_of_neg_of_pos z3 (fst_pos_of_kcls_zero h1 c))
    ·
      rcases pos_of_three (z1 := -k2.2) (z2 := -k3.2) (z3 := -k1.2) (A := kcross k2 k3) (B := kcross k3 k1)
        (C := kcross k1 k2) (by linear_combination -Z) (neg_pos.mpr (kcls_eq_three.mp c2)).le (neg_pos.mpr z3)
        (neg_neg_of_pos (kcls_eq_one.mp c)) (g23 b) with C | A
      · exact Or.inr (Or.inl ⟨g23 b, C⟩)
      · exact Or.inl ⟨A, g23 b⟩

#print axioms two_of_three_pos

/-! ### linear functionals on the centroid -/
theorem sum_map_lt (f : V3 → Rat) (M : Rat) : ∀ l : List V3, (∀ q ∈ l, f q ≤ M) → (∃ q ∈ l, f q < M) →
    (l.map f).sum < l.length * M := fun l h hex => by
  have := List.sum_lt_sum f (fun _ => M) h hex
  rwa [List.map_const', List.sum_replicate, nsmul_eq_mul] at this

theorem dot_meanV_lt (d : V3) (M : Rat) (l : List V3) (hle : ∀ q ∈ l, dot d q ≤ M) (hex : ∃ q ∈ l, dot d q < M) :
    dot d (meanV l) < M := by
  obtain ⟨q, hq, hlt⟩ := hex
  rw [dot_meanV, div_lt_iff₀ (by exact_mod_cast List.length_pos_of_mem hq), mul_comm]
  exact sum_map_lt (dot d) M l hle ⟨q, hq, hlt⟩

theorem exposed_gt_mean (d p : V3) (l : List V3) (hp : p ∈ l) (hnd : l.Nodup) (hlen : 2 ≤ l.length)
    (hd : ∀ q ∈ l, q ≠ p → dot d q < dot d p) : dot d (meanV l) < dot d p := by
  have hle : ∀ q ∈ l, dot d q ≤ dot d p := fun q hq => by
    by_cases h : q = p
    · rw [h]
    · exact (hd q hq h).le
  obtain ⟨q, hq, hne⟩ : ∃ q ∈ l, q ≠ p := by
    match l, hnd, hlen with
    | a :: b :: _, hnd, _ =>
      by_cases h : p = a
      · exact ⟨b, by simp, fun e => (List.pairwise_cons.mp hnd).1 b List.mem_cons_self (h ▸ e.symm)⟩
      · exact ⟨a, List.mem_cons_self, fun e => h e.symm⟩
  exact dot_meanV_lt d _ l hle ⟨q, hq, hd q hq hne⟩

theorem exposed_sub_mean_ne {l : List V3} (hx : ∀ p ∈ l, ∃ d : V3, ∀ q ∈ l, q ≠ p → dot d q < dot d p)
    (hnd : l.Nodup) (hlen : 2 ≤ l.length) {p : V3} (hp : p ∈ l) : sub p (meanV l) ≠ zero := by
  obtain ⟨d, hd⟩ := hx p hp
  exact fun h => (exposed_gt_mean d p l hp hnd hlen hd).ne' (congrArg (dot d) (sub_eq_zero_iff.mp h))

theorem exists_scale_of_cross_zero {p q c : V3} (hq : sub q c ≠ zero) (h : cross (sub p c) (sub q c) = zero) :
    ∃ t : Rat, sub p c = smul t (sub q c) ∧ ∀ d : V3, dot d p - dot d c = t * (dot d q - dot d c) := by
  have hpar := eq_smul_of_cross_eq_zero hq h
  generalize dot (sub p c) (sub q c) / normSq (sub q c) = t at hpar
  exact ⟨t, hpar, fun d => by rw [← dot_sub_right, ← dot_sub_right, hpar]; simp only [dot, smul]; ring⟩

/-- `0 < p`, `q < p` force `t > 1`; `0 < q'`, `p' < q'` force `t < 1` -/
theorem no_common_scale {t p q p' q' : Rat} (ht : 0 < t) (e : p = t * q) (e' : p' = t * q')
    (hp : 0 < p) (hqp : q < p) (hq' : 0 < q') (hpq' : p' < q') : False := by
  have hq : 0 < q := pos_of_mul_pos_right (e ▸ hp) ht.le
  have h1 : 1 < t := lt_of_mul_lt_mul_right (by linarith : 1 * q < t * q) hq.le
  have := mul_lt_mul_of_pos_right h1 hq'
  linarith

/-- Cramer's rule in the plane orthogonal to `n`: three vectors of the plane are linearly dependent, with
    their pairwise 2-D cross products as coefficients (read through an arbitrary functional `d`) -/
theorem planar_cramer (n u v w d : V3) (hn : n ≠ zero) (hu : dot n u = 0) (hv : dot n v = 0) (hw : dot n w = 0) :
    dot n (cross v w) * dot d u + dot n (cross w u) * dot d v + dot n (cross u v) * dot d w = 0 := by
  have key : ∀ d : V3, dot n (cross v w) * dot d u + dot n (cross w u) * dot d v + dot n (cross u v) * dot d w =
      trip u v w * dot d n := by intro d; simp only [trip, dot, cross]; ring
  -- with `d = n` the left side vanishes, so the triple product does
  have h0 := key n
  rw [hu, hv, hw, mul_zero, mul_zero, mul_zero, add_zero, add_zero] at h0
  rw [key, (mul_eq_zero.mp h0.symm).resolve_right (normSq_pos hn).ne', zero_mul]

/-- the 2-D cross product of two keys is `|v0|²` times the orientation of the two points about the centre -/
theorem kcross_frameKey (c p0 n p q : V3) (hv0n : dot n (sub p0 c) = 0) :
    kcross (frameKey c p0 n p) (frameKey c p0 n q) = normSq (sub p0 c) * orient n c p q := by
  simp only [kcross, frameKey, orient]
  rw [key_det_id, hv0n, zero_mul, sub_zero]

/-- the frame `(v0, n × v0)` spans the plane: only the centre has the key `(0,0)` -/
theorem frameKey_ne_zero (c p0 n p : V3) (hn : n ≠ zero) (hv0 : sub p0 c ≠ zero)
    (hv0n : dot n (sub p0 c) = 0) (hp : dot n (sub p c) = 0) (hpc : p ≠ c) : frameKey c p0 n p ≠ (0, 0) := by
  intro h
  obtain ⟨hy, hz⟩ := Prod.mk.inj h
  -- `p - c` is orthogonal to `n × v0`, hence parallel to `v0`, and orthogonal to `v0`
  have e : dot n (cross (sub p c) (sub p0 c)) = - dot (sub p c) (cross n (sub p0 c)) := by
    simp only [dot, cross]; ring
  have hpar := eq_smul_of_cross_eq_zero hv0 (coplanar_cross_zero hn hp hv0n (by rw [e, hz, neg_zero]))
  rw [hy, zero_div] at hpar
  exact hpc (sub_eq_zero_iff.mp (hpar.trans (smul_zero_left _)))

/-! ### an exposed middle vertex turns left -/
theorem orient_center (n c x y z : V3) :
    orient n x y z = orient n c x y + orient n c y z + orient n c z x := by
  rw [← orient_sum n x y z c, orient_cyc n c x y, orient_cyc n c y z, orient_cyc n c z x]; ring

theorem orient_pos_of_exposed (n c x y z d : V3) (hn : n ≠ zero)
    (hx : dot n (sub x c) = 0) (hy : dot n (sub y c) = 0) (hz : dot n (sub z c) = 0)
    (dx : dot d x < dot d y) (dz : dot d z < dot d y) (dc : dot d c < dot d y)
    (a : 0 < orient n c x y) (b : 0 < orient n c y z) : 0 < orient n x y z := by
  have hC : orient n c y z * dot d (sub x c) + orient n c z x * dot d (sub y c) +
      orient n c x y * dot d (sub z c) = 0 := planar_cramer n _ _ _ d hn hx hy hz
  rw [dot_sub_right, dot_sub_right, dot_sub_right] at hC
  have h1 := mul_pos b (sub_pos.mpr dx)
  have h2 := mul_pos a (sub_pos.mpr dz)
  -- `(A + B + C) (d·y - d·c) = B (d·y - d·x) + A (d·y - d·z)`
  have h3 : 0 < (orient n c x y + orient n c y z + orient n c z x) * (dot d y - dot d c) := by linarith
  rw [orient_center n c]
  exact (pos_iff_pos_of_mul_pos h3).mpr (sub_pos.mpr dc)

#print axioms orient_pos_of_exposed

theorem triplesPos_iff_sublist (n : V3) : ∀ l : List V3,
    triplesPos n l ↔ ∀ a b c, List.Sublist [a, b, c] l → 0 < orient n a b c := by
  intro l
  induction l with
  | nil =>
    constructor
    · intro _ a b c h; cases h
    · intro _; trivial
  | cons x l ih =>
    constructor
    · rintro ⟨h1, h2⟩ a b c h
      rcases List.sublist_cons_iff.mp h with h | ⟨r, hr, hs⟩
      · exact (ih.mp h2) a b c h
      · simp only [List.cons.injEq] at hr
        obtain ⟨rfl, rfl⟩ := hr
        exact h1 b c hs
    · intro h
      refine ⟨fun b c hbc => h x b c (List.Sublist.cons_cons x hbc), ih.mpr (fun a b c habc => h a b c (List.Sublist.cons x habc))⟩

theorem triplesPos_of_pairwise (n : V3) (R : V3 → V3 → Prop) (l : List V3) (hs : l.Pairwise R)
    (h : ∀ a ∈ l, ∀ b ∈ l, ∀ c ∈ l, R a b → R b c → 0 < orient n a b c) : triplesPos n l :=
  (triplesPos_iff_sublist n l).mpr fun a b c habc => by
    obtain ⟨hab, hbc⟩ := List.pairwise_cons.mp (hs.sublist habc)
    exact h a (habc.subset (by simp)) b (habc.subset (by simp)) c (habc.subset (by simp))
      (hab b List.mem_cons_self) ((List.pairwise_cons.mp hbc).1 c List.mem_cons_self)

/-! ### strictly convex position -/
/-- every point of the list is a strictly exposed vertex: some linear functional attains its strict maximum
    over the list there (for finitely many points: every point is a vertex of the convex hull) -/
def StrictConvexPos (l : List V3) : Prop := ∀ p ∈ l, ∃ d : V3, ∀ q ∈ l, q ≠ p → dot d q < dot d p

/-- the hypotheses on the frame of the constructor, bundled -/
structure SortFrame (n c p0 : V3) (L : List V3) : Prop where
  hn : n ≠ zero
  hv0 : sub p0 c ≠ zero
  hv0n : dot n (sub p0 c) = 0
  hin : ∀ p ∈ L, dot n (sub p c) = 0
  hexp : ∀ p ∈ L, ∃ d : V3, (∀ q ∈ L, q ≠ p → dot d q < dot d p) ∧ dot d c < dot d p

section
variable {n c p0 : V3} {L : List V3} (F : SortFrame n c p0 L)
include F

theorem SortFrame.ne_center {p : V3} (hp : p ∈ L) : p ≠ c := by
  obtain ⟨d, _, hc⟩ := F.hexp p hp
  exact fun h => hc.ne' (congrArg (dot d) h)

theorem SortFrame.key_ne_zero {p : V3} (hp : p ∈ L) :
    frameKey c p0 n p ≠ (0, 0) :=
  frameKey_ne_zero c p0 n p F.hn F.hv0 F.hv0n (F.hin p hp) (F.ne_center hp)

theorem SortFrame.kcross_pos (p q : V3) :
    0 < kcross (frameKey c p0 n p) (frameKey c p0 n q) ↔ 0 < orient n c p q := by
  rw [kcross_frameKey c p0 n p q F.hv0n, mul_pos_iff_of_pos_left (normSq_pos F.hv0)]

theorem SortFrame.turn_left {x y z : V3}
    (hx : x ∈ L) (hy : y ∈ L) (hz : z ∈ L) (nx : x ≠ y) (nz : z ≠ y)
    (a : 0 < kcross (frameKey c p0 n x) (frameKey c p0 n y))
    (b : 0 < kcross (frameKey c p0 n y) (frameKey c p0 n z)) : 0 < orient n x y z := by
  obtain ⟨d, hd, hc⟩ := F.hexp y hy
  exact orient_pos_of_exposed n c x y z d F.hn (F.hin x hx) (F.hin y hy) (F.hin z hz)
    (hd x hx nx) (hd z hz nz) hc ((F.kcross_pos x y).mp a) ((F.kcross_pos y z).mp b)

/-- three points in strictly increasing angular order about the centre turn left -/
theorem SortFrame.triple_pos (x y z : V3)
    (hx : x ∈ L) (hy : y ∈ L) (hz : z ∈ L)
    (hxy : angLt (frameKey c p0 n x) (frameKey c p0 n y) = true)
    (hyz : angLt (frameKey c p0 n y) (frameKey c p0 n z) = true) : 0 < orient n x y z := by
  have ne : ∀ {a b : V3}, angLt (frameKey c p0 n a) (frameKey c p0 n b) = true → a ≠ b :=
    fun h e => Bool.false_ne_true ((angLt_irrefl _).symm.trans (e ▸ h))
  have nxy := ne hxy
  have nyz := ne hyz
  have nxz := ne (angLt_trans hxy hyz)
  -- the exposed vertex between two gaps smaller than π turns left
  rcases two_of_three_pos _ _ _ hxy hyz (F.key_ne_zero hx) with ⟨A, B⟩ | ⟨B, C⟩ | ⟨C, A⟩
  · exact F.turn_left hx hy hz nxy nyz.symm A B
  · rw [orient_cyc]
    exact F.turn_left hy hz hx nyz nxz B C
  · rw [← orient_cyc]
    exact F.turn_left hz hx hy nxz.symm nxy.symm C A

/-- two different exposed points are seen under different angles from the centroid -/
theorem SortFrame.angNe (p q : V3)
    (hp : p ∈ L) (hq : q ∈ L) (hpq : p ≠ q) :
    angEq (frameKey c p0 n p) (frameKey c p0 n q) = false := by
  rw [Bool.eq_false_iff]
  intro he
  -- equal angles: `p - c` and `q - c` are parallel, `p - c = t (q - c)`
  have hX := kcross_eq_zero_of_angEq he
  rw [kcross_frameKey c p0 n p q F.hv0n] at hX
  obtain ⟨t, hpar, hd⟩ := exists_scale_of_cross_zero (fun h => F.ne_center hq (sub_eq_zero_iff.mp h))
    (coplanar_cross_zero F.hn (F.hin p hp) (F.hin q hq)
      ((mul_eq_zero.mp hX).resolve_left (normSq_pos F.hv0).ne'))
  -- so are their keys, with the same factor; equal classes force `t > 0`
  have ht : 0 < t := by
    refine pos_of_kcls_smul (F.key_ne_zero hq) (fun h0 => F.ne_center hp (sub_eq_zero_iff.mp ?_)) ?_
    · rw [hpar, h0, smul_zero_left]
    · refine Eq.trans (congrArg kcls (Prod.ext ?_ ?_)) ((angEq_iff _ _).mp he).1 <;>
        simp only [frameKey, hpar, dot, smul] <;> ring
  -- `p` beats `q` and `c` in its direction, so `t > 1`; `q` beats `p` and `c` in its own, so `t < 1`
  obtain ⟨dp, hdp, hcp⟩ := F.hexp p hp
  obtain ⟨dq, hdq, hcq⟩ := F.hexp q hq
  exact no_common_scale ht (hd dp) (hd dq) (sub_pos.mpr hcp) (sub_lt_sub_right (hdp q hq hpq.symm) _)
    (sub_pos.mpr hcq) (sub_lt_sub_right (hdq p hp hpq) _)

end

#print axioms SortFrame.triple_pos
#print axioms SortFrame.angNe

/-! ### the constructor on points in strictly convex position -/
theorem StrictConvexPos.of_subset {l l' : List V3} (h : StrictConvexPos l) (hs : ∀ p ∈ l', p ∈ l) :
    StrictConvexPos l' := by
  intro p hp
  obtain ⟨d, hd⟩ := h p (hs p hp)
  exact ⟨d, fun q hq hne => hd q (hs q hq) hne⟩

theorem StrictConvexPos.perm {l l' : List V3} (h : StrictConvexPos l) (hp : List.Perm l' l) :
    StrictConvexPos l' := h.of_subset (fun _ hq => hp.subset hq)

/-- the frame used by a successful constructor call on points in strictly convex position satisfies all
    the side conditions of the sorting argument -/
theorem Polygon.mk?_frame (input : List V3) (rev : Bool) (P : Polygon) (h : Polygon.mk? input rev = .ok P)
    (hx : StrictConvexPos (dedupV input)) : SortFrame P.plane.n P.center P.plane.p (dedupV input) := by
  obtain ⟨p0, p1, p2, rest, hd, _, hpl, hc, hv0, hall, _⟩ := Polygon.mk?_shape input rev P h
  obtain ⟨_, hW, _, _, _⟩ := Polygon.mk?_ok input rev P h
  have hinp : ∀ p ∈ dedupV input, dot P.plane.n (sub p P.plane.p) = 0 :=
    fun p hp => (Plane.contains_iff P.plane p).mp (hall p hp)
  have hcin : dot P.plane.n (sub P.center P.plane.p) = 0 := by
    rw [hc]
    exact meanV_inplane _ _ _ (by rw [hd]; simp) hinp
  have hrel : ∀ p, dot P.plane.n (sub p P.plane.p) = 0 → dot P.plane.n (sub p P.center) = 0 := fun p h => by
    rw [dot_sub_right] at h hcin ⊢; linarith
  refine ⟨hW, by rw [hpl]; exact hv0, hrel _ (by rw [dot_sub_right, sub_self]), fun p hp => hrel p (hinp p hp),
    fun p hp => ?_⟩
  obtain ⟨d, hd'⟩ := hx p hp
  exact ⟨d, hd', hc ▸ exposed_gt_mean d p _ hp (dedupV_nodup input) (by rw [hd]; simp) hd'⟩

/-- **K6.** `ConvexPolygon(points, reverse)` on points in strictly convex position (every point a strictly
    exposed vertex) in one plane: whenever the constructor succeeds, the stored cycle is `Valid` — all
    vertices in the stored plane and every ordered triple counter-clockwise about the STORED normal — and is a
    permutation of the de-duplicated input (no vertex is lost). -/
theorem Polygon.mk?_valid_of_strictConvex (input : List V3) (rev : Bool) (P : Polygon)
    (h : Polygon.mk? input rev = .ok P) (hx : StrictConvexPos (dedupV input)) :
    P.Valid ∧ List.Perm P.pts (dedupV input) ∧
      (∀ p ∈ dedupV input, ∀ q ∈ dedupV input, p ≠ q → angEq (P.key p) (P.key q) = false) := by
  have F := Polygon.mk?_frame input rev P h hx
  have hne : ∀ p ∈ dedupV input, ∀ q ∈ dedupV input, p ≠ q → angEq (P.key p) (P.key q) = false :=
    fun p hp q hq hpq => F.angNe p q hp hq hpq
  obtain ⟨hperm, hs⟩ := Polygon.mk?_sorted_perm input rev P h hne
  obtain ⟨_, _, _, hlen⟩ := Polygon.mk?_mem_iff input rev P h hne
  obtain ⟨_, _, _, hcont, _⟩ := Polygon.mk?_ok input rev P h
  refine ⟨?_, hperm, hne⟩
  obtain ⟨q0, q1, q2, r, hP⟩ : ∃ q0 q1 q2 r, P.pts = q0 :: q1 :: q2 :: r := by
    match hq : P.pts, hlen with
    | a :: b :: c :: r, _ => exact ⟨a, b, c, r, rfl⟩
  refine ⟨q0, q1, q2, r, hP, ?_, ?_⟩
  · intro p hp
    rw [← Plane.contains_eq_inPlane]; exact hcont p hp
  · apply triplesPos_of_pairwise P.plane.n _ P.pts hs
    intro a ha b hb c hc hab hbc
    exact F.triple_pos a b c (hperm.subset ha) (hperm.subset hb) (hperm.subset hc) hab hbc

#print axioms Polygon.mk?_valid_of_strictConvex

/-! ### total correctness on coplanar points in strictly convex position -/
/-- three strictly exposed points are not collinear -/
theorem exposed_not_collinear (x y z : V3)
    (hx : ∃ d : V3, dot d y < dot d x ∧ dot d z < dot d x)
    (hy : ∃ d : V3, dot d x < dot d y ∧ dot d z < dot d y)
    (hz : ∃ d : V3, dot d x < dot d z ∧ dot d y < dot d z) :
    cross (sub y x) (sub z x) ≠ zero := by
  intro hm
  obtain ⟨dx, hx1, hx2⟩ := hx
  obtain ⟨dy, hy1, hy2⟩ := hy
  obtain ⟨dz, hz1, hz2⟩ := hz
  -- collinear: `y - x = t (z - x)`; `x` exposed gives `t > 0`, `z` exposed `t < 1`, `y` exposed `t > 1`
  obtain ⟨t, _, hd⟩ := exists_scale_of_cross_zero (fun h => hx2.ne (congrArg (dot dx) (sub_eq_zero_iff.mp h))) hm
  have ht : 0 < t := by
    by_contra h
    have := mul_nonneg_of_nonpos_of_nonpos (not_lt.mp h) (sub_neg.mpr hx2).le
    linarith [hd dx]
  exact no_common_scale ht (hd dy) (hd dz) (sub_pos.mpr hy1) (sub_lt_sub_right hy2 _) (sub_pos.mpr hz1)
    (sub_lt_sub_right hz2 _)

theorem dedupV_length_le (l : List V3) : (dedupV l).length ≤ l.length :=
  ((dedupV_nodup l).subperm fun p => dedupV_mem l p).length_le

/-- the constructor's plane check; `reverse` only flips the normal -/
theorem contains_of_dot_eq_zero (p0 m : V3) (rev : Bool) {p : V3} (h : dot m (sub p p0) = 0) :
    (⟨p0, if rev = true then neg m else m⟩ : Plane).contains p = true := by
  rw [Plane.contains_iff]
  cases rev
  · exact h
  · simp only [Plane.den, if_true, dot, neg] at h ⊢; linarith

/-- **K6, total form.**  Distinct input points in strictly convex position lying in the plane of the first
    three: the constructor succeeds, the result is `Valid` and keeps every (distinct) input point -/
theorem Polygon.mk?_ok_of_strictConvex (input : List V3) (rev : Bool) (p0 p1 p2 : V3) (rest : List V3)
    (hd : dedupV input = p0 :: p1 :: p2 :: rest) (hx : StrictConvexPos (dedupV input))
    (hpl : ∀ p ∈ dedupV input, dot (cross (sub p1 p0) (sub p2 p0)) (sub p p0) = 0) :
    ∃ P, Polygon.mk? input rev = .ok P ∧ P.Valid ∧ List.Perm P.pts (dedupV input) := by
  have hnd := dedupV_nodup input
  have m0 : p0 ∈ dedupV input := by rw [hd]; simp
  have m1 : p1 ∈ dedupV input := by rw [hd]; simp
  have m2 : p2 ∈ dedupV input := by rw [hd]; simp
  have hn0 : cross (sub p1 p0) (sub p2 p0) ≠ zero := by
    obtain ⟨h01, h02, h12⟩ : p0 ≠ p1 ∧ p0 ≠ p2 ∧ p1 ≠ p2 := by
      rw [hd] at hnd; simp only [List.nodup_cons, List.mem_cons, not_or] at hnd; exact ⟨hnd.1.1, hnd.1.2.1, hnd.2.1.1⟩
    obtain ⟨d0, h0⟩ := hx p0 m0
    obtain ⟨d1, h1⟩ := hx p1 m1
    obtain ⟨d2, h2⟩ := hx p2 m2
    exact exposed_not_collinear p0 p1 p2 ⟨d0, h0 p1 m1 h01.symm, h0 p2 m2 h02.symm⟩
      ⟨d1, h1 p0 m0 h01, h1 p2 m2 h12.symm⟩ ⟨d2, h2 p0 m0 h02, h2 p1 m1 h12⟩
  have hlen := dedupV_length_le input
  rw [hd] at hlen
  have hok := (Polygon.mk?_ok_iff input rev _).mpr ⟨not_lt.mpr (Nat.le_of_add_left_le hlen), p0, p1, p2, rest, hd, hn0,
    exposed_sub_mean_ne hx hnd (by rw [hd]; simp) m0, _, rfl,
    fun p hp => contains_of_dot_eq_zero _ _ rev (hpl p hp), rfl⟩
  obtain ⟨hv, hp, _⟩ := Polygon.mk?_valid_of_strictConvex input rev _ hok hx
  exact ⟨_, hok, hv, hp⟩

#print axioms Polygon.mk?_ok_of_strictConvex

/-! ### meaning of `StrictConvexPos`: no point is a convex combination of the others -/
theorem sum_zipWith_negative : ∀ (ws : List Rat) (ps : List V3) (f : V3 → Rat), ws.length = ps.length →
    (∀ w ∈ ws, 0 ≤ w) → (∀ p ∈ ps, f p < 0) →
    (List.zipWith (fun w p => w * f p) ws ps).sum ≤ 0 ∧
      ((List.zipWith (fun w p => w * f p) ws ps).sum = 0 → ws.sum = 0)
  | [], _, _, _, _, _ => ⟨le_refl _, fun _ => rfl⟩
  | _ :: _, [], _, hl, _, _ => by cases hl
  | w :: ws, p :: ps, f, hl, hw, hf => by
    obtain ⟨h2, h3⟩ := sum_zipWith_negative ws ps f (Nat.succ.inj hl) (fun w' h => hw w' (List.mem_cons_of_mem _ h))
      (fun p' h => hf p' (List.mem_cons_of_mem _ h))
    have hfp := hf p List.mem_cons_self
    have h1 : w * f p ≤ 0 := mul_nonpos_of_nonneg_of_nonpos (hw w List.mem_cons_self) hfp.le
    rw [List.zipWith_cons_cons, List.sum_cons, List.sum_cons]
    refine ⟨by linarith, fun h0 => ?_⟩
    rw [(mul_eq_zero.mp (by linarith : w * f p = 0)).resolve_right hfp.ne, h3 (by linarith), add_zero]

theorem not_inHull_of_exposed {d p : V3} {others : List V3} (hd : ∀ q ∈ others, dot d q < dot d p) :
    ¬ InHull others p := by
  rintro ⟨ws, hl, hnn, hs, hc⟩
  -- `0 = d·(Σ wᵢ qᵢ - p) = Σ wᵢ (d·qᵢ - d·p)` with all terms `≤ 0` forces all weights to vanish
  have h1 := dot_comb d p ws others hl
  have e : sub (add (comb ws others) (smul (1 - ws.sum) p)) p = zero := by
    rw [hc, hs]; apply V3.ext' <;> simp [sub, add, smul, zero]
  rw [e, show dot d zero = 0 by simp [dot, zero]] at h1
  have := (sum_zipWith_negative ws others (fun q => dot d (sub q p)) hl hnn
    (fun q hq => by rw [dot_sub_right]; exact sub_neg.mpr (hd q hq))).2 h1.symm
  rw [hs] at this
  exact one_ne_zero this

/-- a strictly exposed point is not in the convex hull of the other points: `StrictConvexPos` implies
    "every point is a vertex of the hull" (for finitely many points the two are equivalent; only this
    direction is proved here) -/
theorem StrictConvexPos.not_inHull {l : List V3} (h : StrictConvexPos l) (p : V3) (hp : p ∈ l)
    (others : List V3) (ho : ∀ q ∈ others, q ∈ l ∧ q ≠ p) : ¬ InHull others p := by
  obtain ⟨d, hd⟩ := h p hp
  exact not_inHull_of_exposed fun q hq => hd q (ho q hq).1 (ho q hq).2

#print axioms StrictConvexPos.not_inHull
end G3D
