import G3D.Proofs.KTieKhashPolyhedron
import G3D.Proofs.KTieKhashPolygonEq
/-! # khash, `ConvexPolyhedron.__hash__` end to end: the extracted hash is the model's hash-sum tuple; equal polyhedra hash equal  (C08)
    Imports the polygon end-to-end tie (and through it the Plane tie): the polyhedron hash delegates to `ConvexPolygon.__hash__`.
    Exact reading of the comparisons (`sigE`, `negE`); for all H, rnd, rndI.  Shapes walked: tetrahedron (4 triangles, 4 vertices),
    square pyramid (1 quadrilateral + 4 triangles, 5 vertices). -/
namespace G3D.KTie.Khash
open G3D G3D.Extracted G3D.KTie

/-- the abstract polyhedron hash only looks at the face hash on the listed faces -/
theorem polyhedronHashAbs_congr (H : HFun) (rndI : Int → Int) (hP : RVec → Int) (hF hF' : List RVec → RVec → RVec → Int)
    (faces : List (List RVec × RVec × RVec)) (verts : List RVec) (h : ∀ f ∈ faces, hF f.1 f.2.1 f.2.2 = hF' f.1 f.2.1 f.2.2) :
    polyhedronHashAbs H rndI hP hF faces verts = polyhedronHashAbs H rndI hP hF' faces verts := by
  unfold polyhedronHashAbs
  rw [List.map_congr_left h]

section hash_ConvexPolyhedron_tetra
theorem implFace3_ref (H : HFun) (rnd : ℝ → ℝ) (rndI : Int → Int) (pts : List RVec) (pp pn : RVec) (h : pts.length = 3) :
    implFace3 H rnd rndI sigE negE pts pp pn = polygonHashRef H rnd rndI pts pp pn := by
  obtain ⟨a, b, c, rfl⟩ := List.length_eq_three.mp h
  exact hash_ConvexPolygon3_ref H rnd rndI a b c pp pn

/-- a model polyhedron of the walked shape: four triangular faces, four listed vertices -/
structure IsTetra (B : Polyhedron) where
  (f0 f1 f2 f3 : Polygon)
  (a0 b0 c0 a1 b1 c1 a2 b2 c2 a3 b3 c3 v0 v1 v2 v3 : V3)
  hf : B.faces = [f0, f1, f2, f3]
  h0 : f0.pts = [a0, b0, c0]
  h1 : f1.pts = [a1, b1, c1]
  h2 : f2.pts = [a2, b2, c2]
  h3 : f3.pts = [a3, b3, c3]
  hv : B.verts = [v0, v1, v2, v3]

/-- the EXTRACTED `ConvexPolyhedron.__hash__` applied to the attributes of such a polyhedron (stored unit normals) -/
noncomputable def IsTetra.hash {B : Polyhedron} (t : IsTetra B) (H : HFun) (rnd : ℝ → ℝ) (rndI : Int → Int) : Int :=
  impl_hash_ConvexPolyhedron_tetra H rnd rndI sigE negE
    t.a0.toR t.b0.toR t.c0.toR t.f0.plane.p.toR (unitR t.f0.plane.n.toR)
    t.a1.toR t.b1.toR t.c1.toR t.f1.plane.p.toR (unitR t.f1.plane.n.toR)
    t.a2.toR t.b2.toR t.c2.toR t.f2.plane.p.toR (unitR t.f2.plane.n.toR)
    t.a3.toR t.b3.toR t.c3.toR t.f3.plane.p.toR (unitR t.f3.plane.n.toR)
    t.v0.toR t.v1.toR t.v2.toR t.v3.toR

/-- **the extracted hash of a tetrahedron is `hBody` of the model's `Polyhedron.hashTupleAbs`** instantiated with the extracted
    point hash, the plane-pair hash of the canonical plane key and the polygon tuple hash -/
theorem hash_ConvexPolyhedron_tetra_tuple_partial (H : HFun) (rnd : ℝ → ℝ) (rndI : Int → Int) {B : Polyhedron} (t : IsTetra B)
    (hw : ∀ f ∈ B.faces, f.plane.WF) :
    t.hash H rnd rndI = hBody H rndI (B.hashTupleAbs (hPt H rnd) (hPlanePair H rnd) (hFace H rndI)) := by
  unfold IsTetra.hash
  rw [hash_ConvexPolyhedron_tetra_shape, ← polyhedronHashRef_tuple H rnd rndI B hw, t.hf, t.hv, implPoint_eq_ref]
  simp only [List.map, faceAttrs, t.h0, t.h1, t.h2, t.h3]
  refine polyhedronHashAbs_congr _ _ _ _ _ _ _ (fun f hf => implFace3_ref _ _ _ _ _ _ ?_)
  simp only [List.mem_cons, List.not_mem_nil, or_false] at hf
  rcases hf with rfl | rfl | rfl | rfl <;> rfl

/-- **EQUAL TETRAHEDRA HAVE EQUAL EXTRACTED HASHES** (same vertex set, same face set; any face order, any vertex order inside a
    face, either orientation of a face plane), for every H, rnd, rndI -/
theorem hash_ConvexPolyhedron_tetra_eq_of_sameB_partial (H : HFun) (rnd : ℝ → ℝ) (rndI : Int → Int) {A B : Polyhedron}
    (tA : IsTetra A) (tB : IsTetra B) (hAf : ∀ f ∈ A.faces, f.Valid) (hBf : ∀ f ∈ B.faces, f.Valid)
    (hAd : A.faces.Pairwise (fun f g => ¬ f.same g = true)) (hBd : B.faces.Pairwise (fun f g => ¬ f.same g = true))
    (hAv : A.verts.Nodup) (hBv : B.verts.Nodup) (hs : A.sameB B = true) :
    tA.hash H rnd rndI = tB.hash H rnd rndI := by
  rw [hash_ConvexPolyhedron_tetra_tuple_partial H rnd rndI tA (fun f hf => Polygon.plane_WF f (hAf f hf)),
    hash_ConvexPolyhedron_tetra_tuple_partial H rnd rndI tB (fun f hf => Polygon.plane_WF f (hBf f hf)),
    Polyhedron.hashTupleAbs_eq_of_sameB _ _ _ hAf hBf hAd hBd hAv hBv hs]

/-! non-vacuity: the unit corner tetrahedron 0, e1, e2, e3 (outward normals) with its faces and vertices listed in two different
    ways (other face order, other start vertices, rescaled normals, other plane points) -/
def t0 : V3 := ⟨0,0,0⟩
def t1 : V3 := ⟨1,0,0⟩
def t2 : V3 := ⟨0,1,0⟩
def t3 : V3 := ⟨0,0,1⟩
def fA0 : Polygon := ⟨[t0, t2, t1], ⟨t0, ⟨0,0,-1⟩⟩, t0⟩
def fA1 : Polygon := ⟨[t0, t1, t3], ⟨t0, ⟨0,-1,0⟩⟩, t0⟩
def fA2 : Polygon := ⟨[t0, t3, t2], ⟨t0, ⟨-1,0,0⟩⟩, t0⟩
def fA3 : Polygon := ⟨[t1, t2, t3], ⟨t1, ⟨1,1,1⟩⟩, t0⟩
def fB0 : Polygon := ⟨[t2, t3, t1], ⟨t2, ⟨2,2,2⟩⟩, t0⟩
def fB1 : Polygon := ⟨[t2, t1, t0], ⟨t2, ⟨0,0,-3⟩⟩, t0⟩
def fB2 : Polygon := ⟨[t3, t2, t0], ⟨t3, ⟨-1,0,0⟩⟩, t0⟩
def fB3 : Polygon := ⟨[t1, t3, t0], ⟨t1, ⟨0,-5,0⟩⟩, t0⟩
def exA : Polyhedron := ⟨[fA0, fA1, fA2, fA3], [t0, t1, t2, t3], [], [], t0⟩
def exB : Polyhedron := ⟨[fB0, fB1, fB2, fB3], [t3, t2, t1, t0], [], [], t0⟩
def tetA : IsTetra exA :=
  ⟨fA0, fA1, fA2, fA3, t0, t2, t1, t0, t1, t3, t0, t3, t2, t1, t2, t3, t0, t1, t2, t3, rfl, rfl, rfl, rfl, rfl, rfl⟩
def tetB : IsTetra exB :=
  ⟨fB0, fB1, fB2, fB3, t2, t3, t1, t2, t1, t0, t3, t2, t0, t1, t3, t0, t3, t2, t1, t0, rfl, rfl, rfl, rfl, rfl, rfl⟩

theorem exA_valid : ∀ f ∈ exA.faces, f.Valid := by
  intro f hf
  simp only [exA, List.mem_cons, List.not_mem_nil, or_false] at hf
  rcases hf with rfl | rfl | rfl | rfl <;> exact Polygon.valid_of_polygonValidB _ rfl (by decide +kernel)

theorem exB_valid : ∀ f ∈ exB.faces, f.Valid := by
  intro f hf
  simp only [exB, List.mem_cons, List.not_mem_nil, or_false] at hf
  rcases hf with rfl | rfl | rfl | rfl <;> exact Polygon.valid_of_polygonValidB _ rfl (by decide +kernel)

theorem hash_ConvexPolyhedron_tetra_example (H : HFun) (rnd : ℝ → ℝ) (rndI : Int → Int) :
    tetA.hash H rnd rndI = tetB.hash H rnd rndI :=
  hash_ConvexPolyhedron_tetra_eq_of_sameB_partial H rnd rndI tetA tetB exA_valid exB_valid (by decide +kernel) (by decide +kernel)
    (by decide +kernel) (by decide +kernel) (by decide +kernel)
end hash_ConvexPolyhedron_tetra

section hash_ConvexPolyhedron_pyramid
theorem implFace34_ref (H : HFun) (rnd : ℝ → ℝ) (rndI : Int → Int) (pts : List RVec) (pp pn : RVec)
    (h : pts.length = 3 ∨ pts.length = 4) :
    implFace34 H rnd rndI sigE negE pts pp pn = polygonHashRef H rnd rndI pts pp pn := by
  rcases h with h | h
  · obtain ⟨a, b, c, rfl⟩ := List.length_eq_three.mp h
    exact hash_ConvexPolygon3_ref H rnd rndI a b c pp pn
  · match pts, h with
    | [a, b, c, d], _ => exact hash_ConvexPolygon4_ref H rnd rndI a b c d pp pn

/-- a model polyhedron of the walked shape: one quadrilateral and four triangular faces, five listed vertices -/
structure IsPyramid (B : Polyhedron) where
  (f0 f1 f2 f3 f4 : Polygon)
  (a0 b0 c0 d0 a1 b1 c1 a2 b2 c2 a3 b3 c3 a4 b4 c4 v0 v1 v2 v3 v4 : V3)
  hf : B.faces = [f0, f1, f2, f3, f4]
  h0 : f0.pts = [a0, b0, c0, d0]
  h1 : f1.pts = [a1, b1, c1]
  h2 : f2.pts = [a2, b2, c2]
  h3 : f3.pts = [a3, b3, c3]
  h4 : f4.pts = [a4, b4, c4]
  hv : B.verts = [v0, v1, v2, v3, v4]

noncomputable def IsPyramid.hash {B : Polyhedron} (t : IsPyramid B) (H : HFun) (rnd : ℝ → ℝ) (rndI : Int → Int) : Int :=
  impl_hash_ConvexPolyhedron_pyramid H rnd rndI sigE negE
    t.a0.toR t.b0.toR t.c0.toR t.d0.toR t.f0.plane.p.toR (unitR t.f0.plane.n.toR)
    t.a1.toR t.b1.toR t.c1.toR t.f1.plane.p.toR (unitR t.f1.plane.n.toR)
    t.a2.toR t.b2.toR t.c2.toR t.f2.plane.p.toR (unitR t.f2.plane.n.toR)
    t.a3.toR t.b3.toR t.c3.toR t.f3.plane.p.toR (unitR t.f3.plane.n.toR)
    t.a4.toR t.b4.toR t.c4.toR t.f4.plane.p.toR (unitR t.f4.plane.n.toR)
    t.v0.toR t.v1.toR t.v2.toR t.v3.toR t.v4.toR

theorem hash_ConvexPolyhedron_pyramid_tuple_partial (H : HFun) (rnd : ℝ → ℝ) (rndI : Int → Int) {B : Polyhedron} (t : IsPyramid B)
    (hw : ∀ f ∈ B.faces, f.plane.WF) :
    t.hash H rnd rndI = hBody H rndI (B.hashTupleAbs (hPt H rnd) (hPlanePair H rnd) (hFace H rndI)) := by
  unfold IsPyramid.hash
  rw [hash_ConvexPolyhedron_pyramid_shape, ← polyhedronHashRef_tuple H rnd rndI B hw, t.hf, t.hv, implPoint_eq_ref]
  simp only [List.map, faceAttrs, t.h0, t.h1, t.h2, t.h3, t.h4]
  refine polyhedronHashAbs_congr _ _ _ _ _ _ _ (fun f hf => implFace34_ref _ _ _ _ _ _ ?_)
  simp only [List.mem_cons, List.not_mem_nil, or_false] at hf
  rcases hf with rfl | rfl | rfl | rfl | rfl
  · right; rfl
  all_goals (left; rfl)

/-- **EQUAL SQUARE PYRAMIDS HAVE EQUAL EXTRACTED HASHES**, for every H, rnd, rndI -/
theorem hash_ConvexPolyhedron_pyramid_eq_of_sameB_partial (H : HFun) (rnd : ℝ → ℝ) (rndI : Int → Int) {A B : Polyhedron}
    (tA : IsPyramid A) (tB : IsPyramid B) (hAf : ∀ f ∈ A.faces, f.Valid) (hBf : ∀ f ∈ B.faces, f.Valid)
    (hAd : A.faces.Pairwise (fun f g => ¬ f.same g = true)) (hBd : B.faces.Pairwise (fun f g => ¬ f.same g = true))
    (hAv : A.verts.Nodup) (hBv : B.verts.Nodup) (hs : A.sameB B = true) :
    tA.hash H rnd rndI = tB.hash H rnd rndI := by
  rw [hash_ConvexPolyhedron_pyramid_tuple_partial H rnd rndI tA (fun f hf => Polygon.plane_WF f (hAf f hf)),
    hash_ConvexPolyhedron_pyramid_tuple_partial H rnd rndI tB (fun f hf => Polygon.plane_WF f (hBf f hf)),
    Polyhedron.hashTupleAbs_eq_of_sameB _ _ _ hAf hBf hAd hBd hAv hBv hs]
end hash_ConvexPolyhedron_pyramid

#print axioms hash_ConvexPolyhedron_tetra_tuple_partial
#print axioms hash_ConvexPolyhedron_tetra_eq_of_sameB_partial
#print axioms hash_ConvexPolyhedron_pyramid_eq_of_sameB_partial
end G3D.KTie.Khash
