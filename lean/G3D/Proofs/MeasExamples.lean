import G3D.Proofs.MeasMove
import G3D.Proofs.BridgeExact

/-! Non-vacuity of the hypotheses of the C06 theorems (`MeasPolygon`, `MeasBody`, `MeasMove`): the unit square given
    in two orders (with a repeated point, one call with `reverse = True`) and the unit cube built from its faces
    listed backwards and turned inside out (`Bridge.cubeInput`). -/
namespace G3D
open V3

/-! ### a Bool certificate for strictly convex position -/
/-- `ds[i]` is a direction in which `l[i]` is the strict maximum over `l` -/
def Meas.strictConvexCertB (l ds : List V3) : Bool :=
  l.length == ds.length &&
  (l.zip ds).all (fun pd => l.all (fun q => q == pd.1 || decide (dot pd.2 q < dot pd.2 pd.1)))

theorem Meas.strictConvexPos_of_cert (l ds : List V3) (h : Meas.strictConvexCertB l ds = true) :
    StrictConvexPos l := by
  simp only [Meas.strictConvexCertB, Bool.and_eq_true, beq_iff_eq, List.all_eq_true] at h
  obtain ⟨hlen, hall⟩ := h
  intro p hp
  obtain ⟨i, hi, rfl⟩ := List.getElem_of_mem hp
  have hi' : i < ds.length := hlen ▸ hi
  have hz : (l[i], ds[i]) ∈ l.zip ds := by
    have hiz : i < (l.zip ds).length := by rw [List.length_zip]; omega
    have h2 : (l.zip ds)[i] = (l[i], ds[i]) := by simp [List.getElem_zip]
    exact h2 ▸ List.getElem_mem hiz
  refine ⟨ds[i], fun q hq hne => ?_⟩
  have := hall _ hz q hq
  simp only [Bool.or_eq_true, beq_iff_eq, decide_eq_true_eq] at this
  rcases this with h | h
  · exact absurd h hne
  · exact h

/-! ### a convex quadrilateral (area 9/2), two inputs -/
/-- not in cyclic order; the constructor computes the normal `(0,0,-3)` from the first three points -/
def Meas.sqA : List V3 := [⟨0,0,0⟩, ⟨3,3,0⟩, ⟨1,0,0⟩, ⟨0,2,0⟩]
/-- the same four points in another order, one of them repeated; with `reverse = True` the normal is `(0,0,7)` -/
def Meas.sqB : List V3 := [⟨1,0,0⟩, ⟨0,2,0⟩, ⟨3,3,0⟩, ⟨0,0,0⟩, ⟨3,3,0⟩]

def Meas.getP (e : Except CErr Polygon) : Polygon :=
  match e with
  | .ok P => P
  | .error _ => ⟨[], ⟨zero, zero⟩, zero⟩

theorem Meas.sq_sameSet : ∀ p, p ∈ Meas.sqA ↔ p ∈ Meas.sqB := by
  intro p
  simp only [Meas.sqA, Meas.sqB, List.mem_cons, List.not_mem_nil, or_false]
  tauto

theorem Meas.sq_strictConvex : StrictConvexPos (dedupV Meas.sqA) :=
  Meas.strictConvexPos_of_cert _ [⟨-1,-1,0⟩, ⟨1,1,0⟩, ⟨1,-2,0⟩, ⟨-2,1,0⟩] (by decide +kernel)

theorem Meas.sqA_ok : Polygon.mk? Meas.sqA false = .ok (Meas.getP (Polygon.mk? Meas.sqA false)) := by decide +kernel
theorem Meas.sqB_ok : Polygon.mk? Meas.sqB true = .ok (Meas.getP (Polygon.mk? Meas.sqB true)) := by decide +kernel

/-- the hypotheses of `Polygon.mk?_measures_input_order` hold for the two inputs; the two results are different
    records (different cycles, opposite normals) -/
example :
    let P1 := Meas.getP (Polygon.mk? Meas.sqA false)
    let P2 := Meas.getP (Polygon.mk? Meas.sqB true)
    P1.areaSq = P2.areaSq ∧ List.Perm P1.edgeLenSqs P2.edgeLenSqs ∧ P1.center = P2.center ∧
      (∀ p, p ∈ P1.pts ↔ p ∈ P2.pts) :=
  Polygon.mk?_measures_input_order Meas.sqA Meas.sqB false true _ _ Meas.sq_sameSet Meas.sq_strictConvex
    Meas.sqA_ok Meas.sqB_ok

/-- … and by evaluation: different cycles (opposite sense), normals of different length and sign, different area
    numerators, area² = (9/2)² in both cases, the same edge lengths in a different order, centre (1, 5/4, 0) -/
example :
    (let P1 := Meas.getP (Polygon.mk? Meas.sqA false)
     let P2 := Meas.getP (Polygon.mk? Meas.sqB true)
     P1.pts != P2.pts && P1.plane.n == ⟨0, 0, -3⟩ && P2.plane.n == ⟨0, 0, 7⟩ &&
       P1.areaNum == 27 && P2.areaNum == 63 && P1.areaSq == 81/4 && P2.areaSq == 81/4 &&
       P1.edgeLenSqs != P2.edgeLenSqs && P1.edgeLenSqs.isPerm P2.edgeLenSqs &&
       P1.center == ⟨1, 5/4, 0⟩ && P2.center == ⟨1, 5/4, 0⟩) = true := by decide +kernel

/-- `areaSq` is the squared true area `|½ Σ pᵢ × pᵢ₊₁|²` -/
example : (Meas.getP (Polygon.mk? Meas.sqB true)).areaSq =
    normSq (vecArea2 (Meas.getP (Polygon.mk? Meas.sqB true)).pts) / 4 :=
  Polygon.mk?_areaSq Meas.sqB true _ Meas.sqB_ok (StrictConvexPos.perm Meas.sq_strictConvex
    (Meas.dedupV_perm_of_same_set _ _ Meas.sq_sameSet).symm)

/-- `-P` : hypotheses of `Polygon.neg?_measures` -/
example :
    let P := Meas.getP (Polygon.mk? Meas.sqA false)
    ∀ Q, P.neg? = .ok Q → Q.areaSq = P.areaSq ∧ List.Perm Q.edgeLenSqs P.edgeLenSqs := by
  intro P Q h
  obtain ⟨hv, hci, _⟩ := Polygon.mk?_measure_facts Meas.sqA false _ Meas.sqA_ok Meas.sq_strictConvex
  obtain ⟨_, _, ha, he, _⟩ := Polygon.neg?_measures P hv hci Q h
  exact ⟨ha, he⟩

example : (match (Meas.getP (Polygon.mk? Meas.sqA false)).neg? with
    | .ok Q => Q.areaSq == 81/4 && Q.plane.n == ⟨0, 0, 6⟩
    | .error _ => false) = true := by decide +kernel

/-! ### the unit cube from reversed, inverted faces -/
theorem Meas.unitCube_centreInside : ∀ f ∈ unitCube.faces, f.CentreInside := by
  intro f hf
  apply Polygon.CentreInside.of_mean (unitCube_valid.faces_valid f hf)
  revert f
  decide +kernel

theorem Meas.negOf_centreInside (f : Polygon) (hf : f.Valid) (hc : f.CentreInside) :
    (Bridge.negOf f).CentreInside := by
  obtain ⟨Q, _, _, _, hQ, _⟩ := Polygon.neg?_of_valid f hf
  have : Bridge.negOf f = Q := by unfold Bridge.negOf; rw [hQ]
  rw [this]
  exact (Polygon.neg?_measures f hf hc Q hQ).2.1

theorem Meas.cubeInput_centreInside : ∀ g ∈ Bridge.cubeInput, g.CentreInside := by
  intro g hg
  obtain ⟨f, hf, rfl⟩ := List.mem_map.mp hg
  have hf' := List.mem_reverse.mp hf
  exact Meas.negOf_centreInside f (unitCube_valid.faces_valid f hf') (Meas.unitCube_centreInside f hf')

theorem Meas.reoriented_refl (B0 : Polyhedron) (hV : B0.Valid) :
    List.Forall₂ Reoriented B0.faces B0.faces := by
  have := Forall₂.map_self (R := Reoriented) (fun f : Polygon => f) B0.faces
    (fun f hf => ⟨hV.faces_valid f hf, hV.center_in_plane f hf, fun _ => Iff.rfl⟩)
  rwa [List.map_id'] at this

theorem Meas.unitCube_vol : vol6 (unitCube.faces.map (·.pts)) zero / 6 = 1 := by decide +kernel
theorem Meas.unitCube_edgeLenSqs : (edgesOf unitCube.faces []).map Seg.lenSq = List.replicate 12 1 := by decide +kernel

/-- hypotheses of `Polyhedron.mk?_reoriented_measures` for `Bridge.cubeInput`: the constructor succeeds (by
    `Polyhedron.mk?_reoriented`) and the result has volume 1, twelve edges of squared length 1, six faces of squared
    area 1 -/
example : ∃ B, Polyhedron.mk? Bridge.cubeInput = .ok B ∧ B.Valid ∧ B.Stored ∧ B.volume = 1 ∧
    (∀ q, B.volume = vol6 (B.faces.map (·.pts)) q / 6) ∧
    List.Perm B.edgeLenSqs (List.replicate 12 1) ∧ List.Perm (B.faces.map Polygon.areaSq) (List.replicate 6 1) := by
  obtain ⟨B, hB, _⟩ := Polyhedron.mk?_reoriented unitCube unitCube_valid _ _ Bridge.cubeInput_hyp.1
    Bridge.cubeInput_hyp.2 unitCube_euler
  obtain ⟨hBV, hS, hvol, hed, har, _⟩ := Polyhedron.mk?_reoriented_measures unitCube unitCube_valid _ _
    Bridge.cubeInput_hyp.1 Bridge.cubeInput_hyp.2 Meas.cubeInput_centreInside B hB
  refine ⟨B, hB, hBV, hS, ?_, fun q => (B.volume_eq_surface_integral hBV hS q).1, ?_, ?_⟩
  · rw [hvol zero, Meas.unitCube_vol]
  · rw [← Meas.unitCube_edgeLenSqs]; exact hed
  · refine har.trans ?_
    have : unitCube.faces.map (fun f => normSq (vecArea2 f.pts) / 4) = List.replicate 6 1 := by decide +kernel
    rw [this]

/-- two inputs: the inverted, reversed face list and the outward face list itself -/
example (B1 B2 : Polyhedron) (h1 : Polyhedron.mk? Bridge.cubeInput = .ok B1)
    (h2 : Polyhedron.mk? unitCube.faces = .ok B2) :
    B1.volume = B2.volume ∧ List.Perm B1.edgeLenSqs B2.edgeLenSqs ∧
    List.Perm (B1.faces.map Polygon.areaSq) (B2.faces.map Polygon.areaSq) ∧ B1.center = B2.center :=
  Polyhedron.mk?_reoriented_measures_two unitCube unitCube_valid _ _ _ _ Bridge.cubeInput_hyp.1
    Bridge.cubeInput_hyp.2 (List.Perm.refl _) (Meas.reoriented_refl unitCube unitCube_valid)
    Meas.cubeInput_centreInside Meas.unitCube_centreInside B1 B2 h1 h2

/-- the same by evaluation: both constructor calls succeed, the stored face lists differ, volume 1 in both cases -/
example : (match Polyhedron.mk? Bridge.cubeInput, Polyhedron.mk? unitCube.faces with
    | .ok B1, .ok B2 => B1.volume == 1 && B2.volume == 1 && !(B1.faces == B2.faces) &&
        B1.edgeLenSqs == List.replicate 12 1 && B1.faces.map Polygon.areaSq == List.replicate 6 1
    | _, _ => false) = true := by decide +kernel

/-- the moved unit cube: hypotheses of `Polyhedron.moved_measures` -/
example (v : V3) : (unitCube.moved v).volume = 1 ∧ (unitCube.moved v).edgeLenSqs = List.replicate 12 1 ∧
    (unitCube.moved v).faces.map Polygon.areaSq = List.replicate 6 1 := by
  obtain ⟨h1, h2, h3⟩ := unitCube.moved_measures unitCube_valid Meas.unitCube_centreInside v
  refine ⟨?_, ?_, ?_⟩
  · rw [h3 zero, Meas.unitCube_vol]
  · rw [h1, Meas.unitCube_edgeLenSqs]
  · rw [h2]; decide +kernel

end G3D
