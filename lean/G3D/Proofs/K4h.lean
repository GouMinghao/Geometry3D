import G3D.Proofs.K4f
import G3D.Proofs.BridgeExact

/-! # Kernel K4, part h: the constructor call `ConvexPolyhedron(collected polygons)` fails at most at the Euler check

    `p` are the collected parts (`K4.Parts2 A B p`), `K = A ∩ B` has an interior point.
    * `K4.IsPiece.center` : the stored centre of a collected polygon lies in its plane
    * `K4.mean_interior` : the mean of the collected vertices is strictly inside every half-space of `A` and `B`
    * `K4.stored` : for every collected polygon `g` the constructor loop succeeds; the stored face `flipOf c g` is a
      Valid polygon on the vertices of `g`, centre in plane, looking outwards (`SamePlane F _` for the face `F` of
      `A` or `B` whose plane carries `g`), and passes `_check_normal` strictly
    * `K4.mk?_ok_or_euler`, `interPolyhedronPolyhedron_ok_or_euler` -/
namespace G3D
open V3

/-! ### the stored centre of a constructed polygon lies in its plane -/
theorem K4.Polygon_mk?_center (input : List V3) (rev : Bool) (P : Polygon) (h : Polygon.mk? input rev = .ok P) :
    G3D.inPlane P.plane.n P.plane.p P.center = true := by
  obtain ⟨p0, p1, p2, rest, hd, _, _, hc, _, hall, _⟩ := Polygon.mk?_shape input rev P h
  simp only [G3D.inPlane, beq_iff_eq]
  rw [hc]
  exact meanV_inplane _ _ _ (by rw [hd]; simp) (fun p hp => (Plane.contains_iff _ p).mp (hall p hp))

/-- a polygon returned by polygon × polygon is the result of a constructor call -/
theorem K4.interPolygonPolygon_polygon_mk (a b Q : Polygon)
    (h : interPolygonPolygon a b = .ok (some (.polygon Q))) : ∃ ps, Polygon.mk? ps = .ok Q := by
  have hco := K4.interPolygonPolygon_polygon_coplanar a b Q h
  rw [interPolygonPolygon_coplanar_eq a b hco] at h
  cases hc : coplanarCollect a b with
  | error e => rw [hc] at h; cases h
  | ok out =>
    rw [hc] at h
    exact ⟨out, coplanarFinish_polygon out Q h⟩

/-- the stored centre of a polygon returned by ConvexPolygon × ConvexPolyhedron lies in its plane -/
theorem K4.interPolygonPolyhedron_polygon_center (B : Polyhedron) (hH : B.ExactHyp) (P : Polygon) (hv : P.Valid)
    (Q : Polygon) (h : interPolygonPolyhedron B P = .ok (some (.polygon Q))) :
    G3D.inPlane Q.plane.n Q.plane.p Q.center = true := by
  obtain ⟨Q', _, h'⟩ := K4.interPolygonPolyhedron_polygon_origin B hH P hv Q h
  obtain ⟨ps, hps⟩ := K4.interPolygonPolygon_polygon_mk Q' P Q h'
  exact K4.Polygon_mk?_center ps false Q hps

theorem K4.IsPiece.center {A B : Polyhedron} (hA : A.ExactHyp) (hB : B.ExactHyp) {f Q : Polygon}
    (h : K4.IsPiece A B f (some (.polygon Q))) : G3D.inPlane Q.plane.n Q.plane.p Q.center = true := by
  rcases h with ⟨hf, ho⟩ | ⟨hf, ho⟩
  · exact K4.interPolygonPolyhedron_polygon_center B hB f (hA.proper.core.faces_valid f hf) Q ho
  · exact K4.interPolygonPolyhedron_polygon_center A hA f (hB.proper.core.faces_valid f hf) Q ho

/-! ### the mean of the collected vertices is an interior point -/
theorem K4.mean_interior {A B : Polyhedron} (hA : A.ExactHyp) (hB : B.ExactHyp) {p : Parts}
    (hp : K4.Parts2 A B p) (o : V3) (ho : ∀ f ∈ A.faces ++ B.faces, f.side o < 0) :
    ∀ f ∈ A.faces ++ B.faces, f.side (meanV (collectVerts p.gons)) < 0 := by
  intro f hf
  set V := collectVerts p.gons with hV
  have hle : ∀ v ∈ V, f.side v ≤ 0 := fun v hv =>
    (K4.InK_iff_side A B v).mp (K4.hull_sub_inK hA hB hp v (vertex_in_hull _ _ hv)) f hf
  have hoK : K4.InK A B o := (K4.InK_iff_side A B o).mpr (fun g hg => le_of_lt (ho g hg))
  obtain ⟨ws, hlen, hnn, hsum, hcomb⟩ := K4.inK_sub_hull hA hB hp o ho o hoK
  have hex : ∃ v ∈ V, f.side v < 0 := by
    by_contra hcon
    have hge : ∀ v ∈ V, 0 ≤ f.side v := by
      intro v hv
      by_contra hlt
      exact hcon ⟨v, hv, not_le.mp hlt⟩
    have h1 := zipWith_side_sum f ws V hlen
    rw [hcomb, hsum] at h1
    have h2 := sum_zipWith_nonneg ws V (fun p => f.side p) hnn hge
    have := ho f hf
    linarith
  have hne : V ≠ [] := by
    obtain ⟨v, hv, _⟩ := hex
    intro h0; rw [h0] at hv; cases hv
  have hlenpos : (0 : Rat) < V.length := by
    have : 0 < V.length := List.length_pos_iff.mpr hne
    exact_mod_cast this
  rw [SameSet.side_eq, dot_meanV]
  have hlt := sum_map_lt (dot f.plane.n) (dot f.plane.n f.center) V
    (fun q hq => by have := hle q hq; rw [SameSet.side_eq] at this; linarith)
    (by obtain ⟨v, hv, hvl⟩ := hex; exact ⟨v, hv, by rw [SameSet.side_eq] at hvl; linarith⟩)
  rw [sub_neg, div_lt_iff₀ hlenpos]
  linarith

/-! ### what the constructor stores for a collected polygon -/

theorem K4.face_center {A B : Polyhedron} (hA : A.ExactHyp) (hB : B.ExactHyp) (f : Polygon)
    (hf : f ∈ A.faces ++ B.faces) : G3D.inPlane f.plane.n f.plane.p f.center = true := by
  rcases List.mem_append.mp hf with h | h
  · exact hA.proper.core.center_in_plane f h
  · exact hB.proper.core.center_in_plane f h

/-- the face `flipOf c g` stored for the collected polygon `g` (centre `c`), relative to the face `F` of `A` or `B`
    whose plane carries `g` -/
structure K4.Stored (A B : Polyhedron) (c : V3) (g F : Polygon) : Prop where
  memF : F ∈ A.faces ++ B.faces
  den : ∀ x, InHull g.pts x ↔ (K4.InK A B x ∧ F.side x = 0)
  orient : orientFace c g = .ok (flipOf c g, (g, c))
  check : 0 < dot (sub (flipOf c g).plane.p c) (flipOf c g).plane.n
  valid : (flipOf c g).Valid
  center : G3D.inPlane (flipOf c g).plane.n (flipOf c g).plane.p (flipOf c g).center = true
  same : SamePlane F (flipOf c g)
  verts : ∀ v, v ∈ (flipOf c g).pts ↔ v ∈ g.pts

theorem K4.stored {A B : Polyhedron} (hA : A.ExactHyp) (hB : B.ExactHyp) {p : Parts} (hp : K4.Parts2 A B p)
    (g : Polygon) (hg : g ∈ p.gons) (c : V3) (hc : ∀ f ∈ A.faces ++ B.faces, f.side c < 0) :
    ∃ F, K4.Stored A B c g F := by
  obtain ⟨hv, F, hFp, hd⟩ := hp.gon_spec hA hB g hg
  have hcen := hFp.center hA hB
  have hF := hFp.mem
  have hFV := K4.face_valid hA hB F hF
  have hcF := K4.face_center hA hB F hF
  have hnF : F.plane.n ≠ zero := Polygon.plane_WF F hFV
  have hng : g.plane.n ≠ zero := Polygon.plane_WF g hv
  obtain ⟨a, ha, b, hb, c', hc', hor⟩ := hv.nondeg
  have hN : cross (sub b a) (sub c' a) ≠ zero := by
    intro e; apply hor; simp only [G3D.orient, e, dot, zero]; ring
  have sF : ∀ v ∈ g.pts, F.side v = 0 := fun v hvm => ((hd v).mp (vertex_in_hull _ _ hvm)).2
  have hgpl : ∀ v ∈ g.pts, G3D.inPlane g.plane.n g.plane.p v = true := by
    obtain ⟨_, _, _, _, _, hpl, _⟩ := hv
    exact hpl
  have sg : ∀ v ∈ g.pts, g.side v = 0 := fun v hvm => (g.side_zero_inPlane hcen v).mpr (hgpl v hvm)
  obtain ⟨k, hn, hside⟩ := K4.side_prop_of_three F g a b c' hN hnF (sF a ha) (sF b hb) (sF c' hc')
    (sg a ha) (sg b hb) (sg c' hc')
  have hk0 : k ≠ 0 := smul_ne_zero_left (by rw [← hn]; exact hng)
  have hFa : G3D.inPlane F.plane.n F.plane.p a = true := (F.side_zero_inPlane hcF a).mp (sF a ha)
  -- the reference polygon `Q` looking outwards: `g` itself, or `-g` if `g` looks inwards
  obtain ⟨Q, hvQ, hcenQ, hr, hsame⟩ : ∃ Q : Polygon, Q.Valid ∧ G3D.inPlane Q.plane.n Q.plane.p Q.center = true ∧
      Reoriented Q g ∧ SamePlane F Q := by
    rcases lt_or_gt_of_ne hk0 with hneg | hpos
    · obtain ⟨Q, q0, rest, hgp, hQ, hvQ, hQp, _, _, t, ht, hQn⟩ := Polygon.neg?_of_valid g hv
      have hrq : Reoriented g Q := Reoriented.of_neg g Q hv hQ
      have hnQ : Q.plane.n = smul (-(t * k)) F.plane.n := by
        rw [hQn, hn]; apply V3.ext' <;> simp only [smul, neg] <;> ring
      have hQa : G3D.inPlane Q.plane.n Q.plane.p a = true := by
        obtain ⟨_, _, _, _, _, hpl, _⟩ := hvQ
        exact hpl a ((hrq.same_verts a).mpr ha)
      exact ⟨Q, hvQ, hrq.center, ⟨hv, hcen, fun v => (hrq.same_verts v).symm⟩, _,
        neg_pos.mpr (mul_neg_of_pos_of_neg ht hneg), hnQ, (side_proportional F Q _ hnQ hcF hrq.center a hFa hQa).1⟩
    · exact ⟨g, hv, hcen, ⟨hv, hcen, fun v => Iff.rfl⟩, k, hpos, hn, hside⟩
  have hcQ : Q.side c < 0 := by
    obtain ⟨κ, hκ, _, hsQ⟩ := hsame
    rw [hsQ]; exact mul_neg_of_pos_of_neg hκ (hc F hF)
  obtain ⟨hor', hoc, hchk, _, _, _⟩ := orientFace_reoriented Q g hvQ hcenQ hr c hcQ
  exact ⟨F, hF, hd, hor', hchk, hoc.valid, hoc.center, hsame.trans hoc.samePlane,
    fun v => (hoc.mem_iff v).trans (hr.same_verts v).symm⟩
#print axioms K4.stored

/-! ### the constructor call -/

/-- when everything before it passes and Euler's formula fails the constructor raises `ValueError` (whether at
    `_check_normal` or at the Euler check) -/
theorem K4.mk?_euler_fail (input : List Polygon)
    (hdist : ∀ f ∈ input, ∀ e ∈ closedPairs f.pts, e.1 ≠ e.2) (hne : collectVerts input ≠ [])
    (hor : ∀ g ∈ input, orientFace (meanV (collectVerts input)) g =
      .ok (flipOf (meanV (collectVerts input)) g, (g, meanV (collectVerts input))))
    (heul : ((collectVerts input).length : Int) - (edgesOf input []).length + input.length ≠ 2) :
    Polyhedron.mk? input = .error .value := by
  unfold Polyhedron.mk?
  simp only [bind, Except.bind, (collectEdges_ok_iff input [] _).mpr ⟨rfl, hdist⟩, List.length_eq_zero_iff, if_neg hne,
    mapM_ok_of_forall _ _ input hor, List.length_map, bne_iff_ne, ne_eq, heul, not_false_eq_true, if_true, ite_self]

/-- the Euler number of the collected complex: vertices − undirected edges + polygons -/
def K4.eulerOf (gons : List Polygon) : Int :=
  ((collectVerts gons).length : Int) - (edgesOf gons []).length + gons.length

/-- **the constructor fails at most at the Euler check** -/
theorem K4.mk?_ok_or_euler {A B : Polyhedron} (hA : A.ExactHyp) (hB : B.ExactHyp) {p : Parts}
    (hp : K4.Parts2 A B p) (o : V3) (ho : ∀ f ∈ A.faces ++ B.faces, f.side o < 0) :
    (K4.eulerOf p.gons = 2 ∧ ∃ R, Polyhedron.mk? p.gons = .ok R) ∨
    (K4.eulerOf p.gons ≠ 2 ∧ Polyhedron.mk? p.gons = .error .value) := by
  have hst := fun g hg => K4.stored hA hB hp g hg _ (K4.mean_interior hA hB hp o ho)
  have hdist : ∀ f ∈ p.gons, ∀ e ∈ closedPairs f.pts, e.1 ≠ e.2 :=
    fun f hf => (hp.gon_spec hA hB f hf).1.edge_ne
  have hne : collectVerts p.gons ≠ [] := by
    obtain ⟨Q1, Q2, t, hpg⟩ := K4.two_gons hA hB hp o ho
    have hQ1 : Q1 ∈ p.gons := by rw [hpg]; simp
    obtain ⟨a, ha, _⟩ := (hp.gon_spec hA hB Q1 hQ1).1.nondeg
    exact List.ne_nil_of_mem ((mem_collectVerts _ a).mpr ⟨Q1, hQ1, ha⟩)
  have hor : ∀ g ∈ p.gons, _ := fun g hg => (hst g hg).elim fun _ hs => hs.orient
  by_cases heul : K4.eulerOf p.gons = 2
  · exact Or.inl ⟨heul, _, Polyhedron.mk?_intro p.gons hdist hne hor
      (fun g hg => (hst g hg).elim fun _ hs => hs.check.le) heul⟩
  · exact Or.inr ⟨heul, K4.mk?_euler_fail p.gons hdist hne hor heul⟩
#print axioms K4.mk?_ok_or_euler

/-- **K4, totality up to Euler's formula**: under `ExactHyp` for both bodies, with `p` the collected parts,
    * fewer than two polygons: the handler returns `None`, a Point, a well-formed Segment or a Valid polygon denoting
      exactly `A ∩ B`;
    * two or more polygons and Euler number 2: the handler returns the polyhedron `ConvexPolyhedron(polygons)`, and it
      denotes exactly `A ∩ B`;
    * two or more polygons and Euler number ≠ 2: the handler raises the constructor's `ValueError`. -/
theorem interPolyhedronPolyhedron_ok_or_euler (A B : Polyhedron) (hA : A.ExactHyp) (hB : B.ExactHyp) :
    ∃ p, K4.Parts2 A B p ∧
      ((p.gons.length < 2 ∧ ∃ o, interPolyhedronPolyhedron A B = .ok o ∧ K4.Shape o ∧
          ∀ x, denOptB o x ↔ (InHull A.verts x ∧ InHull B.verts x)) ∨
       (2 ≤ p.gons.length ∧ K4.eulerOf p.gons = 2 ∧ ∃ R, Polyhedron.mk? p.gons = .ok R ∧
          interPolyhedronPolyhedron A B = .ok (some (.polyhedron R)) ∧
          ∀ x, InHull R.verts x ↔ (InHull A.verts x ∧ InHull B.verts x)) ∨
       (2 ≤ p.gons.length ∧ K4.eulerOf p.gons ≠ 2 ∧ Polyhedron.mk? p.gons = .error .value ∧
          interPolyhedronPolyhedron A B = .error (.ctor .value))) := by
  obtain ⟨p, hp, h⟩ := interPolyhedronPolyhedron_total A B hA hB
  refine ⟨p, hp, ?_⟩
  rcases h with h | ⟨h2, _, heq, hex⟩
  · exact Or.inl h
  · obtain ⟨o, ho⟩ := K4.interior_of_two hA hB hp h2
    rcases K4.mk?_ok_or_euler hA hB hp o ho with ⟨he, R, hR⟩ | ⟨he, herr⟩
    · refine Or.inr (Or.inl ⟨h2, he, R, hR, ?_, hex R hR⟩)
      rw [heq, hR]; rfl
    · refine Or.inr (Or.inr ⟨h2, he, herr, ?_⟩)
      rw [heq, herr]; rfl
#print axioms interPolyhedronPolyhedron_ok_or_euler

end G3D
