import G3D.Proofs.MeasPolygon
import G3D.Proofs.MovePolyhedron
import Mathlib.Tactic.Ring
import Mathlib.Tactic.Linarith
import Mathlib.Tactic.FieldSimp
import Mathlib.Algebra.BigOperators.Ring.List

/-! # C06, polyhedron: volume, edge lengths and face areas are the true measures, whatever the order of the faces,
    the starting vertex of their cycles and the orientation of their normals

    * `Polyhedron.volume_eq_surface_integral`: for a `Valid` body stored the way the constructor stores it
      (`Polyhedron.Stored`: every pyramid stands on a valid polygon with the vertices of the corresponding stored face,
      its apex is the stored centre, and the centre is on the inner side of every face)
      `volume = ⅙ Σ_faces (p₀ − q)·A_f` for EVERY reference point `q` — the divergence-theorem volume of the closed
      surface, with the positive sign.
    * `Polyhedron.mk?_stored`: every successful constructor call on valid polygons whose result is `Valid` is `Stored`.
    * `Polyhedron.mk?_reoriented_measures`: the constructor on the faces of a valid reference body `B0` given in any
      order / with any starting vertex / either orientation: the volume is the surface integral over `B0`, the edge
      lengths are those of the undirected edges of `B0`, the face areas are those of the faces of `B0`.
    * `Polyhedron.mk?_reoriented_measures_two`: two such inputs give the same volume, edge lengths and face areas. -/
namespace G3D
open V3

/-! ### lists of representatives of the same classes -/
/-- two lists of pairwise inequivalent representatives of the same classes have the same multiset of values of any
    class function -/
theorem Meas.perm_map_of_classes {α β : Type} (R : α → α → Prop) (hs : ∀ a b, R a b → R b a)
    (ht : ∀ a b c, R a b → R b c → R a c) (φ : α → β) (hφ : ∀ a b, R a b → φ a = φ b) :
    ∀ l1 l2 : List α, l1.Pairwise (fun a b => ¬ R a b) → l2.Pairwise (fun a b => ¬ R a b) →
      (∀ a ∈ l1, ∃ b ∈ l2, R a b) → (∀ b ∈ l2, ∃ a ∈ l1, R a b) → List.Perm (l1.map φ) (l2.map φ) := by
  intro l1
  induction l1 with
  | nil =>
    intro l2 _ _ _ h2
    cases l2 with
    | nil => exact List.Perm.refl _
    | cons b l2 => obtain ⟨a, ha, _⟩ := h2 b (by simp); cases ha
  | cons a t ih =>
    intro l2 p1 p2 h1 h2
    obtain ⟨b, hb, hab⟩ := h1 a (by simp)
    obtain ⟨s, u, rfl⟩ := List.append_of_mem hb
    -- all hypotheses are invariant under permutation of the second list: bring the partner `b` of `a` to its front
    have hm : List.Perm (s ++ b :: u) (b :: (s ++ u)) := List.perm_middle
    rw [List.pairwise_cons] at p1
    have p2' := List.pairwise_cons.mp (hm.pairwise p2 (fun h h' => h (hs _ _ h')))
    have hrec := ih (s ++ u) p1.2 p2'.2
      (fun a' ha' => by
        obtain ⟨b', hb', hab'⟩ := h1 a' (List.mem_cons_of_mem _ ha')
        rcases List.mem_cons.mp (hm.mem_iff.mp hb') with rfl | hb'
        · exact absurd (ht _ _ _ hab (hs _ _ hab')) (p1.1 a' ha')
        · exact ⟨b', hb', hab'⟩)
      (fun b' hb' => by
        obtain ⟨a', ha', hab'⟩ := h2 b' (hm.mem_iff.mpr (List.mem_cons_of_mem _ hb'))
        rcases List.mem_cons.mp ha' with rfl | ha'
        · exact absurd (ht _ _ _ (hs _ _ hab) hab') (p2'.1 b' hb')
        · exact ⟨a', ha', hab'⟩)
    rw [List.map_cons, hφ a b hab]
    exact (List.Perm.cons _ hrec).trans (hm.map φ).symm

theorem Meas.lenSq_same {s o : Seg} (h : s.same o = true) : s.lenSq = o.lenSq := by
  rcases (Seg.same_iff s o).mp h with ⟨ha, hb⟩ | ⟨ha, hb⟩
  · unfold Seg.lenSq; rw [ha, hb]
  · unfold Seg.lenSq; rw [ha, hb]; exact normSq_sub_comm _ _

/-- face lists with the same undirected edges give edge lists with the same multiset of squared lengths -/
theorem Meas.edgesOf_lenSq_perm (i1 i2 : List Polygon) (h : SameUEdges i1 i2) :
    List.Perm ((edgesOf i1 []).map Seg.lenSq) ((edgesOf i2 []).map Seg.lenSq) := by
  apply Meas.perm_map_of_classes (fun a b : Seg => a.same b = true) (fun _ _ => Seg.same_symm)
    (fun _ _ _ => Seg.same_trans) Seg.lenSq (fun _ _ => Meas.lenSq_same) _ _
    (edgesOf_noSame i1 [] List.Pairwise.nil) (edgesOf_noSame i2 [] List.Pairwise.nil)
    (edgesOf_class_sub i1 i2 h.1)
  intro b hb
  obtain ⟨a, ha, hab⟩ := edgesOf_class_sub i2 i1 h.2 b hb
  exact ⟨a, ha, Seg.same_symm hab⟩

theorem Meas.sameUEdges_symm {i1 i2 : List Polygon} (h : SameUEdges i1 i2) : SameUEdges i2 i1 := ⟨h.2, h.1⟩

theorem Meas.sameUEdges_trans {i1 i2 i3 : List Polygon} (h : SameUEdges i1 i2) (h' : SameUEdges i2 i3) :
    SameUEdges i1 i3 := by
  constructor
  · intro f hf e he
    obtain ⟨g, hg, hge⟩ := h.1 f hf e he
    rcases hge with hge | hge
    · exact h'.1 g hg e hge
    · obtain ⟨k, hk, hke⟩ := h'.1 g hg _ hge
      exact ⟨k, hk, hke.symm⟩
  · intro f hf e he
    obtain ⟨g, hg, hge⟩ := h'.2 f hf e he
    rcases hge with hge | hge
    · exact h.2 g hg e hge
    · obtain ⟨k, hk, hke⟩ := h.2 g hg _ hge
      exact ⟨k, hk, hke.symm⟩

/-- two valid polygons on the same vertex set have the same undirected edges -/
theorem Meas.uedges_of_same_verts (f g : Polygon) (hf : f.Valid) (hg : g.Valid) (hmem : ∀ p, p ∈ g.pts ↔ p ∈ f.pts) :
    (∀ e, e ∈ closedPairs g.pts → e ∈ closedPairs f.pts ∨ (e.2, e.1) ∈ closedPairs f.pts) ∧
    (∀ e, e ∈ closedPairs f.pts → e ∈ closedPairs g.pts ∨ (e.2, e.1) ∈ closedPairs g.pts) := by
  obtain ⟨k, _, _, ⟨_, hp⟩ | ⟨_, hp⟩⟩ := Meas.cycle_cases f g hf hg hmem
  · exact ⟨fun e he => Or.inl (hp.mem_iff.mp he), fun e he => Or.inl (hp.mem_iff.mpr he)⟩
  · constructor
    · intro e he
      obtain ⟨e', he', rfl⟩ := List.mem_map.mp (hp.mem_iff.mp he)
      exact Or.inr he'
    · intro e he
      exact Or.inr (hp.mem_iff.mpr (List.mem_map.mpr ⟨e, he, rfl⟩))

/-- a reordered, re-oriented face list has the undirected edges of the reference body -/
theorem Meas.sameUEdges_reoriented (B0 : Polyhedron) (hV : B0.Valid) (F input : List Polygon)
    (hperm : List.Perm F B0.faces) (hrel : List.Forall₂ Reoriented F input) : SameUEdges input B0.faces := by
  constructor
  · intro g hg e he
    obtain ⟨f, hf, hr⟩ := Forall₂.exists_left hrel g hg
    have hf0 := hperm.mem_iff.mp hf
    exact ⟨f, hf0, (Meas.uedges_of_same_verts f g (hV.faces_valid f hf0) hr.valid hr.same_verts).1 e he⟩
  · intro f hf e he
    obtain ⟨g, hg, hr⟩ := Forall₂.exists_right hrel f (hperm.mem_iff.mpr hf)
    exact ⟨g, hg, (Meas.uedges_of_same_verts f g (hV.faces_valid f hf) hr.valid hr.same_verts).2 e he⟩

/-! ### the cone term of one face -/
/-- `(p₀ − q)·A` : six times the signed volume of the cone over the vertex cycle `l` with apex `q`
    (`p₀` the first vertex, `A` twice the vector area).  `vol6 fs q` is the sum of these terms. -/
def coneTerm (l : List V3) (q : V3) : Rat := dot (sub (l.headD zero) q) (vecArea2 l)

theorem Meas.vol6_faces (fs : List Polygon) (q : V3) :
    vol6 (fs.map (·.pts)) q = (fs.map (fun f => coneTerm f.pts q)).sum := by
  rw [vol6, List.map_map]; rfl

theorem Meas.vecArea2_eq_smul (f : Polygon) (hf : f.Valid) : ∃ κ : Rat, 0 ≤ κ ∧ vecArea2 f.pts = smul κ f.plane.n := by
  have hn : f.plane.n ≠ zero := Polygon.plane_WF f hf
  obtain ⟨p0, p1, p2, rest, hp, hpl, htp⟩ := hf
  refine ⟨_, div_nonneg ?_ (normSq_pos hn).le, vecArea2_parallel f.plane.n f.plane.p hn f.pts hpl⟩
  rw [hp] at hpl htp ⊢
  unfold vecArea2
  rw [← polygon_area_shoelace f.plane.n f.plane.p p0 p1 p2 rest hpl htp]
  apply List.sum_nonneg
  intro x hx
  obtain ⟨e, _, rfl⟩ := List.mem_map.mp hx
  rw [triNum, Meas.absQ_eq_abs]; exact abs_nonneg _

theorem Meas.headD_mem (f : Polygon) (hf : f.Valid) : f.pts.headD zero ∈ f.pts := by
  obtain ⟨p0, p1, p2, rest, hp, _, _⟩ := hf
  rw [hp]; simp

/-- the anchor vertex does not matter: all vertices lie in the face plane and the vector area is normal to it -/
theorem Meas.coneTerm_anchor (f : Polygon) (hf : f.Valid) (a : V3) (ha : a ∈ f.pts) (c : V3) :
    dot (sub a c) (vecArea2 f.pts) = coneTerm f.pts c := by
  obtain ⟨κ, _, hκ⟩ := Meas.vecArea2_eq_smul f hf
  have hd : dot f.plane.n (sub a (f.pts.headD zero)) = 0 :=
    inPlane_diff (hf.pts_inPlane _ (Meas.headD_mem f hf)) (hf.pts_inPlane _ ha)
  rw [coneTerm, hκ, Meas.dot_smul_right, Meas.dot_smul_right, Meas.dot_sub_split _ a (f.pts.headD zero) c, hd, zero_add]

/-- the cone term of a second valid polygon on the same vertices is `±` that of the first -/
theorem Meas.coneTerm_cases (f g : Polygon) (hf : f.Valid) (hg : g.Valid) (hmem : ∀ p, p ∈ g.pts ↔ p ∈ f.pts)
    (c : V3) : coneTerm g.pts c = coneTerm f.pts c ∨ coneTerm g.pts c = - coneTerm f.pts c := by
  have hanchor := Meas.coneTerm_anchor f hf _ ((hmem _).mp (Meas.headD_mem g hg)) c
  obtain ⟨k, _, _, ⟨_, h⟩ | ⟨_, h⟩⟩ := Meas.vecArea2_cases f g hf hg hmem
  · left; rw [← hanchor, ← h]; rfl
  · right; rw [← hanchor, coneTerm, h]; simp only [dot, neg]; ring

/-- an outward copy (rotated cycle, same direction of the normal) has the same cone term -/
theorem Meas.coneTerm_outwardCopy (f h : Polygon) (hf : f.Valid) (hc : OutwardCopy f h) (c : V3) :
    coneTerm h.pts c = coneTerm f.pts c := by
  rw [← Meas.coneTerm_anchor f hf _ ((hc.mem_iff _).mp (Meas.headD_mem h hc.valid)) c,
    ← vecArea2_of_perm hc.closedPairs_perm]
  rfl

/-- seen from a point on the inner side of an outward face the cone term is non-negative -/
theorem Meas.coneTerm_nonneg (f : Polygon) (hf : f.Valid)
    (hcf : G3D.inPlane f.plane.n f.plane.p f.center = true) (c : V3) (hc : f.side c ≤ 0) :
    0 ≤ coneTerm f.pts c := by
  obtain ⟨κ, hκ0, hκ⟩ := Meas.vecArea2_eq_smul f hf
  have h0 : dot f.plane.n (sub (f.pts.headD zero) f.center) = 0 :=
    inPlane_diff hcf (hf.pts_inPlane _ (Meas.headD_mem f hf))
  -- `(p₀ − c)·κn = κ n·(centre − c) = −κ side c`: `p₀` and the centre lie in the plane
  have h1 : dot f.plane.n (sub f.center c) = - f.side c := by
    simp only [Polygon.side, dot, sub]; ring
  rw [coneTerm, hκ, Meas.dot_smul_right, Meas.dot_sub_split _ _ f.center c, h0, zero_add, h1]
  exact mul_nonneg hκ0 (by linarith)

/-- `Pyramid(g, c).volume()` in cone form -/
theorem Meas.pyramidVolume_cone (g : Polygon) (hg : g.Valid) (hcg : g.CentreInside) (c : V3) :
    pyramidVolume g c = absQ (coneTerm g.pts c) / 6 := by
  rw [pyramidVolume_eq_cone g hg hcg c, ← absQ_neg, coneTerm]
  congr 2
  simp only [dot, sub]; ring

/-- the pyramid over ANY valid polygon `g` on the vertices of an outward face `f`, apex on the inner side of `f`:
    its volume is the (non-negative) cone term of `f` over six -/
theorem Meas.pyramidVolume_of_face (f g : Polygon) (hf : f.Valid)
    (hcf : G3D.inPlane f.plane.n f.plane.p f.center = true) (hg : g.Valid) (hcg : g.CentreInside)
    (hmem : ∀ p, p ∈ g.pts ↔ p ∈ f.pts) (c : V3) (hc : f.side c ≤ 0) :
    pyramidVolume g c = coneTerm f.pts c / 6 := by
  rw [Meas.pyramidVolume_cone g hg hcg c, Meas.absQ_eq_abs, abs_eq_abs.mpr (Meas.coneTerm_cases f g hf hg hmem c),
    abs_of_nonneg (Meas.coneTerm_nonneg f hf hcf c hc)]

/-! ### the volume is the surface integral -/
/-- the body is stored the way the constructor stores it: pyramid `i` stands on a valid polygon (stored centre inside)
    with the vertices of face `i`, its apex is the stored centre, and the stored centre is on the inner side of every
    face -/
structure Polyhedron.Stored (B : Polyhedron) : Prop where
  pyr : List.Forall₂ (fun f (pa : Polygon × V3) => pa.1.Valid ∧ pa.1.CentreInside ∧
    (∀ p, p ∈ pa.1.pts ↔ p ∈ f.pts) ∧ pa.2 = B.center) B.faces B.pyramids
  inside : ∀ f ∈ B.faces, f.side B.center ≤ 0

theorem Meas.sum_coneTerm_div (fs : List Polygon) (c : V3) :
    (fs.map (fun f => coneTerm f.pts c / 6)).sum = vol6 (fs.map (·.pts)) c / 6 := by
  simp only [Meas.vol6_faces, div_eq_mul_inv, List.sum_map_mul_right]

/-- **C06, volume is the surface integral.**  For a `Valid` body stored as the constructor stores it, the sum of the
    pyramid volumes `Σ h·A/3` is `⅙ Σ_faces (p₀ − q)·A_f` for EVERY reference point `q`; in particular that surface
    integral is non-negative (outward faces). -/
theorem Polyhedron.volume_eq_surface_integral (B : Polyhedron) (hV : B.Valid) (hS : B.Stored) (q : V3) :
    B.volume = vol6 (B.faces.map (·.pts)) q / 6 ∧ 0 ≤ vol6 (B.faces.map (·.pts)) q := by
  rw [vol6_ref_independent _ hV.closed q B.center]
  constructor
  · unfold Polyhedron.volume
    rw [← Meas.sum_coneTerm_div]
    congr 1
    symm
    apply forall₂_map_eq
    exact Forall₂.imp_mem hS.pyr (fun f hf pa _ ⟨hg, hcg, hmem, hap⟩ => by
      rw [hap]
      exact (Meas.pyramidVolume_of_face f pa.1 (hV.faces_valid f hf) (hV.center_in_plane f hf) hg hcg hmem
        B.center (hS.inside f hf)).symm)
  · rw [Meas.vol6_faces]
    apply List.sum_nonneg
    intro x hx
    obtain ⟨f, hf, rfl⟩ := List.mem_map.mp hx
    exact Meas.coneTerm_nonneg f (hV.faces_valid f hf) (hV.center_in_plane f hf) _ (hS.inside f hf)
#print axioms Polyhedron.volume_eq_surface_integral

/-- the absolute-value form, for every reference point -/
theorem Polyhedron.volume_eq_abs_surface_integral (B : Polyhedron) (hV : B.Valid) (hS : B.Stored) (q : V3) :
    B.volume = absQ (vol6 (B.faces.map (·.pts)) q) / 6 := by
  obtain ⟨h1, h2⟩ := B.volume_eq_surface_integral hV hS q
  rw [Meas.absQ_of_nonneg h2]; exact h1

/-! ### the constructor stores bodies this way -/
theorem Meas.flipOf_facts (c : V3) (g : Polygon) (hg : g.Valid) (hcg : g.CentreInside) :
    (flipOf c g).Valid ∧ (flipOf c g).CentreInside ∧ (∀ p, p ∈ (flipOf c g).pts ↔ p ∈ g.pts) := by
  by_cases hd : dot (sub g.plane.p c) g.plane.n < 0
  · obtain ⟨Q, _, _, _, hQ, _⟩ := Polygon.neg?_of_valid g hg
    have hflip : flipOf c g = Q := by unfold flipOf; rw [if_pos hd, hQ]
    obtain ⟨h1, h2, _, _, _, h3⟩ := Polygon.neg?_measures g hg hcg Q hQ
    rw [hflip]; exact ⟨h1, h2, h3⟩
  · have hflip : flipOf c g = g := by unfold flipOf; rw [if_neg hd]
    rw [hflip]; exact ⟨hg, hcg, fun _ => Iff.rfl⟩

/-- **every `Valid` result of the constructor on valid polygons (stored centres inside) is `Stored`** -/
theorem Polyhedron.mk?_stored (input : List Polygon) (hv : ∀ g ∈ input, g.Valid)
    (hc : ∀ g ∈ input, g.CentreInside) (B : Polyhedron) (h : Polyhedron.mk? input = .ok B) (hV : B.Valid) :
    B.Stored := by
  obtain ⟨_, _, _, _, hF, hP, _, hout, _, _⟩ := Polyhedron.mk?_eq input B h
  constructor
  · rw [hF, hP, List.forall₂_map_left_iff, List.forall₂_map_right_iff, List.forall₂_same]
    intro g hg
    exact ⟨hv g hg, hc g hg, fun p => ((Meas.flipOf_facts B.center g (hv g hg) (hc g hg)).2.2 p).symm, rfl⟩
  · intro f hf
    rw [hF] at hf
    obtain ⟨g, hg, rfl⟩ := List.mem_map.mp hf
    have hmem : flipOf B.center g ∈ B.faces := by rw [hF]; exact List.mem_map.mpr ⟨g, hg, rfl⟩
    have := hout g hg
    rw [Polygon.side_eq_neg_planeTest _ (hV.center_in_plane _ hmem)] at this
    linarith
#print axioms Polyhedron.mk?_stored

/-! ### the constructor on a reordered, re-oriented face list of a valid reference body -/
/-- **C06, polyhedron: order of the faces, starting vertices, orientation of the normals.**
    `input`: the faces of the `Valid` body `B0` in any order, each replaced by any valid polygon on the same vertex
    set (rotated cycle, `-f`, rescaled normal …) whose stored centre is inside (true for the vertex mean).  For every
    successful `ConvexPolyhedron(input)`:
    * the volume is the surface integral `⅙ Σ_{f ∈ B0.faces} (p₀ − q)·A_f` of the reference body, for every `q`;
    * the squared edge lengths are, as a multiset, those of the undirected edges of `B0`;
    * the squared face areas are, as a multiset, the squared true areas `|½ Σ pᵢ × pᵢ₊₁|²` of the faces of `B0`;
    * the centre is the mean of the distinct face vertices of `B0`. -/
theorem Polyhedron.mk?_reoriented_measures (B0 : Polyhedron) (hV : B0.Valid) (F input : List Polygon)
    (hperm : List.Perm F B0.faces) (hrel : List.Forall₂ Reoriented F input)
    (hc : ∀ g ∈ input, g.CentreInside) (B : Polyhedron) (h : Polyhedron.mk? input = .ok B) :
    B.Valid ∧ B.Stored ∧
    (∀ q, B.volume = vol6 (B0.faces.map (·.pts)) q / 6) ∧
    List.Perm B.edgeLenSqs ((edgesOf B0.faces []).map Seg.lenSq) ∧
    List.Perm (B.faces.map Polygon.areaSq) (B0.faces.map (fun f => normSq (vecArea2 f.pts) / 4)) ∧
    B.center = meanV (collectVerts B0.faces) := by
  obtain ⟨hBV, hBc, _, hcop, _, _, _⟩ := Polyhedron.mk?_reoriented_queries B0 hV F input hperm hrel B h
  have hvin : ∀ g ∈ input, g.Valid := by
    intro g hg
    obtain ⟨f, _, hr⟩ := Forall₂.exists_left hrel g hg
    exact hr.valid
  have hS := Polyhedron.mk?_stored input hvin hc B h hBV
  obtain ⟨_, hE, _, _, hF, _⟩ := Polyhedron.mk?_eq input B h
  have hFmem : ∀ f ∈ F, f ∈ B0.faces := fun f hf => hperm.mem_iff.mp hf
  refine ⟨hBV, hS, ?_, ?_, ?_, hBc⟩
  · intro q
    rw [(B.volume_eq_surface_integral hBV hS B.center).1, vol6_ref_independent _ hV.closed q B.center,
      Meas.vol6_faces, Meas.vol6_faces, ← (hperm.map _).sum_eq]
    congr 2
    symm
    apply forall₂_map_eq
    exact Forall₂.imp_mem hcop (fun f hf h' _ hoc =>
      (Meas.coneTerm_outwardCopy f h' (hV.faces_valid f (hFmem f hf)) hoc B.center).symm)
  · unfold Polyhedron.edgeLenSqs
    rw [hE]
    exact Meas.edgesOf_lenSq_perm _ _ (Meas.sameUEdges_reoriented B0 hV F input hperm hrel)
  · have h1 : B.faces.map Polygon.areaSq = F.map (fun f => normSq (vecArea2 f.pts) / 4) := by
      symm
      apply forall₂_map_eq
      exact Forall₂.imp_mem hcop (fun f hf h' hh' hoc => by
        have hci : h'.CentreInside := by
          rw [hF] at hh'
          obtain ⟨g, hg, rfl⟩ := List.mem_map.mp hh'
          exact (Meas.flipOf_facts B.center g (hvin g hg) (hc g hg)).2.1
        rw [h'.areaSq_eq_vecArea hoc.valid hci, vecArea2_of_perm hoc.closedPairs_perm])
    rw [h1]
    exact hperm.map _
#print axioms Polyhedron.mk?_reoriented_measures

/-- the link with the polygon constructor: ANY successful `ConvexPolygon(points, reverse)` on a point list with the
    vertex set of the valid face `f` (any order, repetitions allowed) is an admissible input face for
    `Polyhedron.mk?_reoriented_measures` -/
theorem Reoriented.of_mk? (f : Polygon) (hf : f.Valid) (i : List V3) (rev : Bool) (g : Polygon)
    (hset : ∀ p, p ∈ i ↔ p ∈ f.pts) (h : Polygon.mk? i rev = .ok g) : Reoriented f g ∧ g.CentreInside := by
  have hperm : List.Perm (dedupV i) f.pts := by
    rw [List.perm_ext_iff_of_nodup (dedupV_nodup i) hf.nodup]
    intro p; rw [dedupV_mem_iff]; exact hset p
  have hx : StrictConvexPos (dedupV i) := hf.strictConvexPos.perm hperm
  obtain ⟨hv, hci, hp, _, hc⟩ := Polygon.mk?_measure_facts i rev g h hx
  refine ⟨⟨hv, ?_, fun p => by rw [hp.mem_iff, hperm.mem_iff]⟩, hci⟩
  rw [hc]
  exact beq_iff_eq.mpr (meanV_inplane g.plane.n g.plane.p g.pts hv.pts_ne_nil fun p hpm => beq_iff_eq.mp (hv.pts_inPlane p hpm))

/-- **two inputs**: any two reordered, re-oriented face lists of the same valid body give bodies with the same volume,
    the same multiset of squared edge lengths, the same multiset of squared face areas and the same centre -/
theorem Polyhedron.mk?_reoriented_measures_two (B0 : Polyhedron) (hV : B0.Valid)
    (F1 F2 input1 input2 : List Polygon)
    (hperm1 : List.Perm F1 B0.faces) (hrel1 : List.Forall₂ Reoriented F1 input1)
    (hperm2 : List.Perm F2 B0.faces) (hrel2 : List.Forall₂ Reoriented F2 input2)
    (hc1 : ∀ g ∈ input1, g.CentreInside) (hc2 : ∀ g ∈ input2, g.CentreInside)
    (B1 B2 : Polyhedron) (h1 : Polyhedron.mk? input1 = .ok B1) (h2 : Polyhedron.mk? input2 = .ok B2) :
    B1.volume = B2.volume ∧ List.Perm B1.edgeLenSqs B2.edgeLenSqs ∧
    List.Perm (B1.faces.map Polygon.areaSq) (B2.faces.map Polygon.areaSq) ∧ B1.center = B2.center := by
  obtain ⟨_, _, v1, e1, a1, c1⟩ := Polyhedron.mk?_reoriented_measures B0 hV F1 input1 hperm1 hrel1 hc1 B1 h1
  obtain ⟨_, _, v2, e2, a2, c2⟩ := Polyhedron.mk?_reoriented_measures B0 hV F2 input2 hperm2 hrel2 hc2 B2 h2
  exact ⟨by rw [v1 zero, v2 zero], e1.trans e2.symm, a1.trans a2.symm, by rw [c1, c2]⟩
#print axioms Polyhedron.mk?_reoriented_measures_two

#print axioms Reoriented.of_mk?
#print axioms Polyhedron.volume_eq_abs_surface_integral
end G3D
