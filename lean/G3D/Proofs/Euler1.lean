import G3D.Proofs.K4l

/-! # Euler's polyhedron formula, part 1: counting lemmas on lists

    * `Eu.consec3`, `Eu.cycTriples` : the cyclic triples `(pred, v, succ)` of a vertex cycle and their projections
      onto the directed edges (`Eu.cycTriples_left`, `Eu.cycTriples_right_perm`, `Eu.cycTriples_mid_perm`)
    * `Eu.edges_count` : for a closed surface in which every directed edge occurs once, the number of undirected edges
      the constructor counts (`edgesOf fs []`) is the number of ASCENDING directed edges w.r.t. a functional that
      separates the end points of every edge -/
namespace G3D
open V3

/-! ### consecutive triples -/

/-- consecutive triples of a path -/
def Eu.consec3 : List V3 → List (V3 × V3 × V3)
  | a :: b :: c :: l => (a, b, c) :: Eu.consec3 (b :: c :: l)
  | _ => []

/-- cyclic triples `(pred, v, succ)` of a vertex cycle -/
def Eu.cycTriples : List V3 → List (V3 × V3 × V3)
  | a :: b :: l => Eu.consec3 (a :: b :: l ++ [a, b])
  | _ => []

theorem Eu.consec3_right : ∀ l : List V3, (Eu.consec3 l).map (fun t => (t.2.1, t.2.2)) = consec l.tail
  | [] => rfl
  | [_] => rfl
  | [_, _] => rfl
  | a :: b :: c :: l => by
    have ih := Eu.consec3_right (b :: c :: l)
    simp only [Eu.consec3, List.map_cons, List.tail_cons, consec] at ih ⊢
    rw [ih]

theorem Eu.consec3_left : ∀ l : List V3, (Eu.consec3 l).map (fun t => (t.1, t.2.1)) = consec l.dropLast
  | [] => rfl
  | [_] => rfl
  | [_, _] => rfl
  | a :: b :: c :: l => by
    have ih := Eu.consec3_left (b :: c :: l)
    simp only [Eu.consec3, List.map_cons, List.dropLast_cons_cons, consec] at ih ⊢
    rw [ih]

/-- the pairs `(pred, v)` of the cyclic triples are the directed edges -/
theorem Eu.cycTriples_left (a b : V3) (l : List V3) :
    (Eu.cycTriples (a :: b :: l)).map (fun t => (t.1, t.2.1)) = closedPairs (a :: b :: l) := by
  unfold Eu.cycTriples closedPairs
  rw [Eu.consec3_left, List.dropLast_append_of_ne_nil (List.cons_ne_nil a [b])]
  rfl

/-- the pairs `(v, succ)` of the cyclic triples are the directed edges of the cycle rotated by one -/
theorem Eu.cycTriples_right (a b : V3) (l : List V3) :
    (Eu.cycTriples (a :: b :: l)).map (fun t => (t.2.1, t.2.2)) = closedPairs (b :: l ++ [a]) := by
  unfold Eu.cycTriples closedPairs
  rw [Eu.consec3_right]
  simp

theorem Eu.cycTriples_right_perm (a b : V3) (l : List V3) :
    List.Perm ((Eu.cycTriples (a :: b :: l)).map (fun t => (t.2.1, t.2.2))) (closedPairs (a :: b :: l)) := by
  rw [Eu.cycTriples_right]
  exact closedPairs_rotate1 a (b :: l)

/-- the middle vertices of the cyclic triples are the vertices of the cycle -/
theorem Eu.cycTriples_mid_perm (a b : V3) (l : List V3) :
    List.Perm ((Eu.cycTriples (a :: b :: l)).map (fun t => t.2.1)) (a :: b :: l) := by
  have h : (Eu.cycTriples (a :: b :: l)).map (fun t => t.2.1) =
      ((Eu.cycTriples (a :: b :: l)).map (fun t => (t.2.1, t.2.2))).map Prod.fst := by
    rw [List.map_map]; rfl
  rw [h, Eu.cycTriples_right, K4.closedPairs_fst]
  exact List.perm_append_singleton a (b :: l)

theorem Eu.cycTriples_mem (l : List V3) (t : V3 × V3 × V3) (ht : t ∈ Eu.cycTriples l) :
    (t.1, t.2.1) ∈ closedPairs l ∧ (t.2.1, t.2.2) ∈ closedPairs l := by
  match l with
  | [] => simp [Eu.cycTriples] at ht
  | [a] => simp [Eu.cycTriples] at ht
  | a :: b :: l =>
    constructor
    · rw [← Eu.cycTriples_left]
      exact List.mem_map.mpr ⟨t, ht, rfl⟩
    · exact (Eu.cycTriples_right_perm a b l).mem_iff.mp (List.mem_map.mpr ⟨t, ht, rfl⟩)

theorem Eu.cycTriples_mid_nodup (l : List V3) (hnd : l.Nodup) : ((Eu.cycTriples l).map (fun t => t.2.1)).Nodup := by
  match l with
  | [] => exact List.nodup_nil
  | [a] => exact List.nodup_nil
  | a :: b :: l => exact (Eu.cycTriples_mid_perm a b l).nodup_iff.mpr hnd

/-- every vertex of a cycle with at least two vertices is the middle of a cyclic triple -/
theorem Eu.cycTriples_exists (l : List V3) (hlen : 2 ≤ l.length) (v : V3) (hv : v ∈ l) :
    ∃ t ∈ Eu.cycTriples l, t.2.1 = v := by
  match l with
  | [] => simp at hlen
  | [a] => simp at hlen
  | a :: b :: l => exact List.mem_map.mp ((Eu.cycTriples_mid_perm a b l).mem_iff.mpr hv)

/-! ### the number of undirected edges is the number of ascending directed edges -/

/-- for a closed surface in which every directed edge occurs once, and a functional `d` that separates the end
    points of every edge: `edgesOf fs []` has as many entries as there are directed edges ascending w.r.t. `d` -/
theorem Eu.edges_count (fs : List Polygon) (d : V3)
    (hc : ClosedSurface (fs.map (·.pts))) (hnd : (dirEdges (fs.map (·.pts))).Nodup)
    (hsep : ∀ e ∈ dirEdges (fs.map (·.pts)), dot d e.1 ≠ dot d e.2) :
    (edgesOf fs []).length = (dirEdges (fs.map (·.pts))).countP (fun e => decide (dot d e.1 < dot d e.2)) := by
  set L := dirEdges (fs.map (·.pts)) with hL
  set A := L.filter (fun e => decide (dot d e.1 < dot d e.2)) with hA
  have hlen : (A.map (fun e => Seg.mk' e.1 e.2)).length = L.countP (fun e => decide (dot d e.1 < dot d e.2)) := by
    rw [List.length_map, hA, List.countP_eq_length_filter]
  rw [← hlen]
  have hAmem : ∀ e, e ∈ A ↔ e ∈ L ∧ dot d e.1 < dot d e.2 := by
    intro e; rw [hA, List.mem_filter]; simp
  apply length_eq_of_classes (fun a b : Seg => a.same b = true) (fun _ _ => Seg.same_symm)
    (fun _ _ _ => Seg.same_trans) _ _ (edgesOf_noSame fs [] List.Pairwise.nil)
  · -- ascending representatives are pairwise different undirected edges
    rw [List.pairwise_map]
    have hAnd : A.Nodup := hnd.filter _
    refine List.Pairwise.imp_of_mem ?_ hAnd
    intro e e' he he' hne
    rw [Seg.same_iff]
    simp only [Seg.mk']
    rintro (⟨h1, h2⟩ | ⟨h1, h2⟩)
    · exact hne (Prod.ext h1 h2)
    · have a1 := ((hAmem e).mp he).2
      have a2 := ((hAmem e').mp he').2
      rw [h1, h2] at a1
      exact lt_asymm a1 a2
  · intro a ha
    rcases edgesOf_mem fs [] a ha with h' | ⟨f, hf, e, he, rfl⟩
    · cases h'
    · have heL : e ∈ L := (mem_dirEdges fs e).mpr ⟨f, hf, he⟩
      rcases lt_or_gt_of_ne (hsep e heL) with hlt | hgt
      · exact ⟨_, List.mem_map.mpr ⟨e, (hAmem e).mpr ⟨heL, hlt⟩, rfl⟩, Seg.same_refl _⟩
      · have hsw : e.swap ∈ L := by
          have := (List.Perm.mem_iff hc).mp heL
          obtain ⟨e', he', rfl⟩ := List.mem_map.mp this
          simpa using he'
        refine ⟨_, List.mem_map.mpr ⟨e.swap, (hAmem _).mpr ⟨hsw, by simpa using hgt⟩, rfl⟩, ?_⟩
        exact Seg.same_mk'_swap e.1 e.2
  · intro b hb
    obtain ⟨e, he, rfl⟩ := List.mem_map.mp hb
    obtain ⟨f, hf, hef⟩ := (mem_dirEdges fs e).mp ((hAmem e).mp he).1
    exact edgesOf_covers fs [] f hf e hef
#print axioms Eu.edges_count

end G3D
