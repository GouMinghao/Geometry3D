import G3D.Proofs.K4h
import G3D.Proofs.SameSet

/-! # Kernel K4, part i: the polyhedron returned by `ConvexPolyhedron(collected polygons)`

    * `K4.FacetBody A B R` : the faces of `R` are outward oriented Valid polygons, each cut out of `K = A ∩ B` by its
      own plane (`hull h = K ∩ {h.side = 0}`, `K ⊆ {h.side ≤ 0}`), every boundary point of `K` lies on one of them,
      different faces have different planes, the listed vertices are the face vertices and lie in `K`, and `K` has an
      interior point
    * `K4.facetBody_of_mk` : every body returned by the constructor on the collected polygons is such a body
    * consequences: `FacetBody.contains_iff` (`R.contains x ↔ K x`: the collected planes alone cut out `K`),
      `FacetBody.vertsInside`, `FacetBody.side_strict` -/
namespace G3D
open V3

/-- the face `h` of the result is the facet of `K` in its own plane -/
structure K4.RFace (A B : Polyhedron) (h : Polygon) : Prop where
  valid : h.Valid
  center : G3D.inPlane h.plane.n h.plane.p h.center = true
  inner : ∀ x, K4.InK A B x → h.side x ≤ 0
  den : ∀ x, InHull h.pts x ↔ (K4.InK A B x ∧ h.side x = 0)
  strict : ∀ c, (∀ F ∈ A.faces ++ B.faces, F.side c < 0) → h.side c < 0

structure K4.FacetBody (A B R : Polyhedron) : Prop where
  nonempty : R.faces ≠ []
  face : ∀ h ∈ R.faces, K4.RFace A B h
  cover : ∀ x, K4.InK A B x → (∃ F ∈ A.faces ++ B.faces, F.side x = 0) → ∃ h ∈ R.faces, InHull h.pts x
  verts_in : ∀ v ∈ R.verts, K4.InK A B v
  pts_sub : ∀ h ∈ R.faces, ∀ v ∈ h.pts, v ∈ R.verts
  distinct : R.faces.Pairwise (fun h1 h2 => ¬ ∀ x, InHull h1.pts x ↔ InHull h2.pts x)
  interior : ∃ c, ∀ F ∈ A.faces ++ B.faces, F.side c < 0

theorem K4.Stored.hull {A B : Polyhedron} {c : V3} {g F : Polygon} (hs : K4.Stored A B c g F) (x : V3) :
    InHull (flipOf c g).pts x ↔ InHull g.pts x :=
  SameSet.hull_congr (fun v hv => (hs.verts v).mp hv) (fun v hv => (hs.verts v).mpr hv) x

theorem K4.Stored.rface {A B : Polyhedron} {c : V3} {g F : Polygon} (hs : K4.Stored A B c g F) :
    K4.RFace A B (flipOf c g) := by
  obtain ⟨k, hk, _, hside⟩ := hs.same
  refine ⟨hs.valid, hs.center, ?_, ?_, ?_⟩
  · intro x hx
    rw [hside]
    exact mul_nonpos_of_nonneg_of_nonpos (le_of_lt hk) ((K4.InK_iff_side A B x).mp hx F hs.memF)
  · intro x
    rw [hs.hull x, hs.den x, hside, mul_eq_zero_iff_left hk.ne']
  · intro c' hc'
    rw [hside]
    exact mul_neg_of_pos_of_neg hk (hc' F hs.memF)

/-- a body with the listed vertices, the centre and the faces the constructor stores for the collected polygons
    (`flipOf c g`, `c` the mean of the collected vertices) is a facet body of `A ∩ B` -/
theorem K4.facetBody_of_stored {A B : Polyhedron} (hA : A.ExactHyp) (hB : B.ExactHyp) {p : Parts}
    (hp : K4.Parts2 A B p) (h2 : 2 ≤ p.gons.length) (R : Polyhedron) (hverts : R.verts = collectVerts p.gons)
    (hcen : R.center = meanV (collectVerts p.gons)) (hF : R.faces = p.gons.map (flipOf R.center)) :
    K4.FacetBody A B R := by
  obtain ⟨o, ho⟩ := K4.interior_of_two hA hB hp h2
  have hc := K4.mean_interior hA hB hp o ho
  rw [← hcen] at hc
  have hst : ∀ g ∈ p.gons, ∃ F, K4.Stored A B R.center g F := fun g hg => K4.stored hA hB hp g hg _ hc
  have hullflip : ∀ g ∈ p.gons, ∀ x, InHull (flipOf R.center g).pts x ↔ InHull g.pts x := by
    intro g hg x
    obtain ⟨F, hs⟩ := hst g hg
    exact hs.hull x
  refine ⟨?_, ?_, ?_, ?_, ?_, ?_, ⟨o, ho⟩⟩
  · rw [hF]
    intro h0
    have : p.gons = [] := List.map_eq_nil_iff.mp h0
    rw [this] at h2; simp at h2
  · intro h hh
    rw [hF] at hh
    obtain ⟨g, hg, rfl⟩ := List.mem_map.mp hh
    obtain ⟨F, hs⟩ := hst g hg
    exact hs.rface
  · intro x hx ⟨F, hFm, hFx⟩
    obtain ⟨g, hg, hin⟩ := (K4.onGon_of_boundary hA hB o ho x hx F hFm hFx).in_parts hp
    exact ⟨flipOf R.center g, by rw [hF]; exact List.mem_map.mpr ⟨g, hg, rfl⟩, (hullflip g hg x).mpr hin⟩
  · intro v hv
    rw [hverts] at hv
    exact K4.hull_sub_inK hA hB hp v (vertex_in_hull _ _ hv)
  · intro h hh v hv
    rw [hF] at hh
    obtain ⟨g, hg, rfl⟩ := List.mem_map.mp hh
    obtain ⟨F, hs⟩ := hst g hg
    rw [hverts]
    exact (mem_collectVerts _ v).mpr ⟨g, hg, (hs.verts v).mp hv⟩
  · rw [hF, List.pairwise_map]
    refine List.Pairwise.imp_of_mem ?_ hp.gons_pw
    intro g1 g2 hg1 hg2 hns hall
    have hv1 := (hp.gon_spec hA hB g1 hg1).1
    have hv2 := (hp.gon_spec hA hB g2 hg2).1
    have := (Polygon.same_iff_same_hull g1 g2 hv1 hv2).mpr (fun x => by
      rw [← hullflip g1 hg1 x, ← hullflip g2 hg2 x]; exact hall x)
    rw [hns] at this; cases this

/-- **every body the constructor returns on the collected polygons is a facet body of `A ∩ B`** -/
theorem K4.facetBody_of_mk {A B : Polyhedron} (hA : A.ExactHyp) (hB : B.ExactHyp) {p : Parts}
    (hp : K4.Parts2 A B p) (h2 : 2 ≤ p.gons.length) (R : Polyhedron) (hR : Polyhedron.mk? p.gons = .ok R) :
    K4.FacetBody A B R := by
  obtain ⟨hverts, _, _, hcen, hF, _⟩ := Polyhedron.mk?_eq p.gons R hR
  exact K4.facetBody_of_stored hA hB hp h2 R hverts hcen hF

namespace K4.FacetBody
variable {A B R : Polyhedron}

theorem side_strict (hb : K4.FacetBody A B R) {c : V3} (hc : ∀ F ∈ A.faces ++ B.faces, F.side c < 0) :
    ∀ h ∈ R.faces, h.side c < 0 := fun h hh => (hb.face h hh).strict c hc

/-- **the collected planes alone cut out `A ∩ B`** -/
theorem contains_iff (hb : K4.FacetBody A B R) (x : V3) : R.contains x = true ↔ K4.InK A B x := by
  rw [R.contains_iff_side]
  constructor
  · intro hall
    by_contra hnot
    rw [K4.InK_iff_side] at hnot
    push Not at hnot
    obtain ⟨F0, hF0, hF0x⟩ := hnot
    obtain ⟨c, hc⟩ := hb.interior
    set w := sub x c with hw
    have sd : ∀ (f : Polygon), dot f.plane.n w = f.side x - f.side c := by
      intro f; simp only [hw, Polygon.side, dot, sub]; ring
    obtain ⟨t, ht, hy, F1, hF1, hF1y⟩ := K4.exit (A.faces ++ B.faces) c w hc
      ⟨F0, hF0, by rw [sd]; linarith [hc F0 hF0]⟩
    have ht1 : t < 1 := by
      have h1 := hy F0 hF0
      rw [F0.side_pt, sd] at h1
      have h2 := hc F0 hF0
      by_contra hge
      have := mul_le_mul_of_nonneg_right (not_lt.mp hge) (by linarith : 0 ≤ F0.side x - F0.side c)
      linarith
    have hyK : K4.InK A B (pt c w t) := (K4.InK_iff_side A B _).mpr hy
    obtain ⟨h, hh, hin⟩ := hb.cover _ hyK ⟨F1, hF1, hF1y⟩
    have hy0 := (((hb.face h hh).den _).mp hin).2
    rw [h.side_pt, sd] at hy0
    have := mul_neg_of_pos_of_neg (by linarith : 0 < 1 - t) (hb.side_strict hc h hh)
    have := mul_nonpos_of_nonneg_of_nonpos ht.le (hall h hh)
    linarith
  · intro hx h hh
    exact (hb.face h hh).inner x hx

theorem vertsInside (hb : K4.FacetBody A B R) : R.VertsInside :=
  fun h hh v hv => (hb.face h hh).inner v (hb.verts_in v hv)

theorem contains_iff_hull (hb : K4.FacetBody A B R) (hA : A.ExactHyp) (hB : B.ExactHyp) (x : V3) :
    R.contains x = true ↔ (InHull A.verts x ∧ InHull B.verts x) := by
  rw [hb.contains_iff x, K4.InK_iff_hull hA hB]

end K4.FacetBody

#print axioms K4.facetBody_of_mk
#print axioms K4.FacetBody.contains_iff
end G3D
