import G3D.Model.PlaneForms
import G3D.Proofs.Equality

namespace G3D
open V3 Solver2

theorem gaussRec_nil (f nc j : Nat) : gaussRec f nc j [] = [] := by
  cases f with
  | zero => rfl
  | succ f => unfold gaussRec; split <;> rfl

theorem takePivot_single (r : Row) : takePivot [r] 0 = (r, []) := by simp [takePivot]

theorem gaussRec_single (nc : Nat) (r : Row) : ∀ (f j : Nat), gaussRec f nc j [r] = [r] := by
  intro f
  induction f with
  | zero => intro j; rfl
  | succ f ih =>
    intro j
    unfold gaussRec
    by_cases hj : j + 1 ≥ nc
    · simp [hj]
    · simp only [hj, if_false]
      cases hp : pivotIdx [r] j with
      | none => simp only; exact ih (j+1)
      | some k =>
        simp only
        have hk := (pivotIdx_some hp).1
        have hk0 : k = 0 := by simpa using hk
        subst hk0
        rw [takePivot_single]
        simp [gaussRec_nil]

theorem solve_single (r : Row) : solve [r] = [r] := by
  unfold solve gauss; exact gaussRec_single _ r _ _

theorem not_nullRow_of_coeffs {a b c : Rat} (d : Rat) (hn : (⟨a, b, c⟩ : V3) ≠ zero) : nullRow [a, b, c, d] = false := by
  by_contra h
  simp only [Bool.not_eq_false, nullRow_iff] at h
  exact hn (by rw [h a (by simp), h b (by simp), h c (by simp)]; rfl)

theorem varargs_one_row (a b c d : Rat) (hn : (⟨a, b, c⟩ : V3) ≠ zero) :
    varargs 3 (solve [[a, b, c, d]]) = 2 := by
  simp [solve_single, varargs, nonNullRows, not_nullRow_of_coeffs d hn]

/-- C17: `Plane(a, b, c, d)` contains exactly the points with `a x + b y + c z = d`, for every
    `(a, b, c) ≠ 0` including zero leading coefficients -/
theorem plane_gf_contains_iff (a b c d : Rat) (hn : (⟨a, b, c⟩ : V3) ≠ zero) :
    ∃ P, Plane.ofGF a b c d = .ok P ∧ P.n = ⟨a, b, c⟩ ∧
      ∀ x : V3, P.den x ↔ a * x.x + b * x.y + c * x.z = d := by
  have hu : Uniform (3+1) [[a, b, c, d]] := by intro r hr; simp at hr; subst hr; rfl
  -- a single row with a non-zero coefficient is not of the form `0 0 0 | d`
  have hs : solvable (solve [[a, b, c, d]]) = true := by
    rw [solve_single, solvable_iff]
    intro row hrow
    simp only [List.mem_singleton] at hrow
    subst hrow
    by_contra h
    simp at h
    exact hn (by rw [h.1, h.2.1, h.2.2.1]; rfl)
  obtain ⟨x, hlen, hcall, hsat, -⟩ := call_values 3 _ hu (by simp) hs [1, 1] (varargs_one_row a b c d hn).symm
  obtain ⟨x0, y0, z0, rfl⟩ := List.length_eq_three.mp hlen
  have hp : a * x0 + b * y0 + c * z0 = d := by
    have := hsat [a, b, c, d] (by simp)
    simp [rowSat, rowDot] at this
    linarith
  refine ⟨⟨⟨x0, y0, z0⟩, ⟨a, b, c⟩⟩, ?_, rfl, ?_⟩
  · unfold Plane.ofGF; rw [if_neg hn, hcall]; rfl
  · intro x
    simp only [Plane.den, dot, sub]
    constructor <;> intro h <;> linarith

/-- `Plane(*P.general_form()) == P` -/
theorem plane_gf_roundtrip (P : Plane) (hP : P.WF) :
    ∃ Q, Plane.ofGF P.generalForm.1 P.generalForm.2.1 P.generalForm.2.2.1 P.generalForm.2.2.2 = .ok Q ∧
      Q.eqv P = true := by
  have hn : (⟨P.n.x, P.n.y, P.n.z⟩ : V3) ≠ zero := hP
  obtain ⟨Q, hQ, hQn, hQd⟩ := plane_gf_contains_iff P.n.x P.n.y P.n.z (dot P.n P.p) hn
  refine ⟨Q, hQ, ?_⟩
  have hQW : Q.WF := by rw [Plane.WF, hQn]; exact hn
  rw [Plane.eqv_iff Q P hQW hP]
  intro x
  rw [hQd x]
  simp only [Plane.den, dot, sub]
  constructor <;> intro h <;> linarith

theorem plane_3pt_contains (a b c : V3) (P : Plane) (h : Plane.ofPoints a b c = .ok P) :
    P.den a ∧ P.den b ∧ P.den c ∧ P.WF := by
  unfold Plane.ofPoints at h
  simp only at h
  split at h
  · cases h
  · rename_i hne
    cases h
    refine ⟨?_, ?_, ?_, hne⟩ <;> simp only [Plane.den, dot, cross, sub] <;> ring

theorem plane_neg (P : Plane) : (∀ x, P.neg.den x ↔ P.den x) ∧ P.neg.n = V3.neg P.n := by
  refine ⟨fun x => ?_, rfl⟩
  simp only [Plane.neg, Plane.den, dot, sub, V3.neg]
  constructor <;> intro h <;> linarith
#print axioms plane_gf_contains_iff
#print axioms plane_gf_roundtrip
end G3D
