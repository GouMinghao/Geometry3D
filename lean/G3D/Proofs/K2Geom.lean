import G3D.Proofs.BodySound
import G3D.Proofs.SortCycle
import G3D.Proofs.K5
/-! Kernel K2, geometric core (independent of the handler code).
    Two `Valid` polygons `a`, `b` in one plane, `C = hull a ∩ hull b`.
    * `Polygon.feas_iff`, `Polygon.slopes`: the edge inequalities of a polygon along a parametrised line of its
      plane, as a 1-D linear programme; slopes of both signs (closed cycle).
    * `chord`: every point of `C` lies between two points of `C` that sit on an edge of `a` or of `b`.
    * `edge_clip`: a point of `hull Q` on a segment `[p, q]` of the plane of `Q` lies between two points of
      `[p, q] ∩ hull Q` each of which is `p`, `q`, or a transversal crossing with an edge of `Q`.
    * `CVertex a b w`: `w` is a vertex of `a` inside `b`, a vertex of `b` inside `a`, or a transversal crossing
      of an edge of `a` with an edge of `b`.
    * `coplanar_hull_of_vertices`: every point of `C` is a convex combination of (at most four) `CVertex` points. -/
namespace G3D
open V3

theorem Polygon.edge_nonneg (P : Polygon) (hv : P.Valid) (y : V3) (hy : InHull P.pts y) (e : V3 × V3)
    (he : e ∈ closedPairs P.pts) : 0 ≤ orient P.plane.n e.1 e.2 y := by
  have hc := (Polygon.contains_iff P hv y).mpr hy
  exact (P.contains_iff_edges y (P.inPlane_of_contains y hc)).mp hc e he

theorem Polygon.feas_iff (P : Polygon) (hv : P.Valid) (sv dv : V3)
    (hs : G3D.inPlane P.plane.n P.plane.p sv = true) (hd : dot P.plane.n dv = 0) (t : Rat) :
    Feas (cycleCons P.plane.n P.pts sv dv) t ↔ InHull P.pts (pt sv dv t) := by
  obtain ⟨p0, p1, p2, rest, hp, hpl, htp⟩ := hv
  rw [hp] at hpl htp ⊢
  exact feas_cycleCons_iff_hull hpl htp hs hd t

/-- a closed strictly convex cycle has edges turning both ways against any in-plane direction -/
theorem Polygon.slopes (P : Polygon) (hv : P.Valid) (sv dv : V3) (hdv : dv ≠ zero) (hd : dot P.plane.n dv = 0) :
    (∃ c ∈ cycleCons P.plane.n P.pts sv dv, 0 < c.2) ∧ (∃ c ∈ cycleCons P.plane.n P.pts sv dv, c.2 < 0) := by
  obtain ⟨p0, p1, p2, rest, hp, -, htp⟩ := hv
  rw [hp] at htp ⊢
  obtain ⟨⟨ep, hep, hpos⟩, ⟨en, hen, hneg⟩⟩ := edge_slopes P.plane.n p0 p1 p2 rest htp dv hdv hd
  exact ⟨⟨_, List.mem_map_of_mem hep, hpos⟩, ⟨_, List.mem_map_of_mem hen, hneg⟩⟩

/-- a tight edge constraint at a feasible parameter: the point lies on that edge -/
theorem Polygon.tight_on_edge (P : Polygon) (hv : P.Valid) (sv dv : V3) (t : Rat)
    (hin : InHull P.pts (pt sv dv t)) (c : Rat × Rat) (hc : c ∈ cycleCons P.plane.n P.pts sv dv)
    (ht : c.1 + c.2 * t = 0) :
    ∃ e ∈ closedPairs P.pts, Between e.1 e.2 (pt sv dv t) ∧ c.2 = dot P.plane.n (cross (sub e.2 e.1) dv) := by
  obtain ⟨p0, p1, p2, rest, hp, hpl, htp⟩ := hv
  unfold cycleCons at hc
  obtain ⟨e, he, rfl⟩ := List.mem_map.mp hc
  simp only at ht
  have hor : orient P.plane.n e.1 e.2 (pt sv dv t) = 0 := by rw [orient_pt]; exact ht
  exact ⟨e, he, on_edge_of_tight P.plane.n P.pts htp e he _ hin hor, rfl⟩

theorem inPlane_iff_den (pl : Plane) (x : V3) : inPlane pl.n pl.p x = true ↔ pl.den x := by
  rw [← Plane.contains_eq_inPlane, Plane.contains_iff]

/-- two coplanar `Valid` polygons: in-plane points / directions of one are in-plane for the other -/
theorem coplanar_inPlane (a b : Polygon) (ha : a.Valid) (hb : b.Valid) (hco : a.plane.eqv b.plane = true) (x : V3) :
    inPlane a.plane.n a.plane.p x = true ↔ inPlane b.plane.n b.plane.p x = true := by
  rw [inPlane_iff_den, inPlane_iff_den]
  exact Plane.eqv_den a.plane b.plane (Polygon.plane_WF a ha) (Polygon.plane_WF b hb) hco x

theorem hull_inPlane (P : Polygon) (hv : P.Valid) (x : V3) (hx : InHull P.pts x) :
    inPlane P.plane.n P.plane.p x = true :=
  (inPlane_iff_den _ _).mpr (Polygon.hull_in_plane P hv x hx)

/-- a point of both hulls lying on an edge of `a` or of `b` -/
def OnBd (a b : Polygon) (u : V3) : Prop :=
  InHull a.pts u ∧ InHull b.pts u ∧
    ((∃ e ∈ closedPairs a.pts, Between e.1 e.2 u) ∨ (∃ f ∈ closedPairs b.pts, Between f.1 f.2 u))

/-- **chord**: every common point lies between two common points on the boundary of `a` or `b` -/
theorem chord (a b : Polygon) (ha : a.Valid) (hb : b.Valid) (hco : a.plane.eqv b.plane = true)
    (x : V3) (hxa : InHull a.pts x) (hxb : InHull b.pts x) :
    ∃ u v, OnBd a b u ∧ OnBd a b v ∧ Between u v x := by
  obtain ⟨p0, p1, p2, rest, hp, hpl, htp⟩ := id ha
  -- direction: the first edge of `a`
  have h01 : p0 ≠ p1 := by
    intro h; rw [hp] at htp; have := htp.1 p1 p2 (by simp); rw [h, orient_same] at this
    exact lt_irrefl _ this
  set d := sub p1 p0 with hd
  have hdz : d ≠ zero := fun h => h01 (sub_eq_zero_iff.mp h).symm
  have hq0 : inPlane a.plane.n a.plane.p p0 = true := hpl p0 (by rw [hp]; simp)
  have hq1 : inPlane a.plane.n a.plane.p p1 = true := hpl p1 (by rw [hp]; simp)
  have hda : dot a.plane.n d = 0 := inPlane_diff hq0 hq1
  have hdb : dot b.plane.n d = 0 :=
    inPlane_diff ((coplanar_inPlane a b ha hb hco p0).mp hq0) ((coplanar_inPlane a b ha hb hco p1).mp hq1)
  have hsa := hull_inPlane a ha x hxa
  have hsb := hull_inPlane b hb x hxb
  set CA := cycleCons a.plane.n a.pts x d with hCA
  set CB := cycleCons b.plane.n b.pts x d with hCB
  have hfeas : ∀ t, Feas (CA ++ CB) t ↔ InHull a.pts (pt x d t) ∧ InHull b.pts (pt x d t) := by
    intro t
    rw [Feas_append, Polygon.feas_iff a ha x d hsa hda t, Polygon.feas_iff b hb x d hsb hdb t]
  have h0 : Feas (CA ++ CB) 0 := by rw [hfeas, pt_at_zero]; exact ⟨hxa, hxb⟩
  obtain ⟨⟨cp, hcp, hcpp⟩, ⟨cn, hcn, hcnn⟩⟩ := Polygon.slopes a ha x d hdz hda
  obtain ⟨tlo, hflo, hlo, clo, hclo, _, hclot⟩ := lp_lo (CA ++ CB) 0 h0 ⟨cp, List.mem_append_left _ hcp, hcpp⟩
  obtain ⟨thi, hfhi, hhi, chi, hchi, _, hchit⟩ := lp_hi (CA ++ CB) 0 h0 ⟨cn, List.mem_append_left _ hcn, hcnn⟩
  have key : ∀ t c, Feas (CA ++ CB) t → c ∈ CA ++ CB → c.1 + c.2 * t = 0 → OnBd a b (pt x d t) := by
    intro t c hft hc hct
    obtain ⟨h1, h2⟩ := (hfeas t).mp hft
    refine ⟨h1, h2, ?_⟩
    rcases List.mem_append.mp hc with hc | hc
    · obtain ⟨e, he, hbt, _⟩ := Polygon.tight_on_edge a ha x d t h1 c hc hct
      exact Or.inl ⟨e, he, hbt⟩
    · obtain ⟨e, he, hbt, _⟩ := Polygon.tight_on_edge b hb x d t h2 c hc hct
      exact Or.inr ⟨e, he, hbt⟩
  exact ⟨pt x d tlo, pt x d thi, key tlo clo hflo hclo hclot, key thi chi hfhi hchi hchit,
    Between_pt_origin (hlo 0 h0) (hhi 0 h0)⟩

/-- end point of the clipped edge: an end point of `[p, q]` or a transversal crossing with an edge of `Q` -/
def ClipEnd (Q : Polygon) (p q w : V3) : Prop :=
  InHull Q.pts w ∧ Between p q w ∧
    (w = p ∨ w = q ∨ ∃ f ∈ closedPairs Q.pts, Between f.1 f.2 w ∧ cross (sub f.2 f.1) (sub q p) ≠ zero)

theorem pt_one_sub (p q : V3) : pt p (sub q p) 1 = q := by
  apply V3.ext' <;> simp [pt, add, smul, sub]

/-- **edge clip**: `[p, q] ∩ hull Q` is spanned by end points of `[p, q]` and transversal crossings -/
theorem edge_clip (Q : Polygon) (hv : Q.Valid) (p q : V3)
    (hp : inPlane Q.plane.n Q.plane.p p = true) (hq : inPlane Q.plane.n Q.plane.p q = true)
    (u : V3) (hu : Between p q u) (huQ : InHull Q.pts u) :
    ∃ w1 w2, ClipEnd Q p q w1 ∧ ClipEnd Q p q w2 ∧ Between w1 w2 u := by
  set d := sub q p with hd
  have hdn : dot Q.plane.n d = 0 := inPlane_diff hp hq
  obtain ⟨tu, htu0, htu1, hut⟩ := hu
  have hut' : u = pt p d tu := hut
  set CQ := cycleCons Q.plane.n Q.pts p d with hCQ
  set C : List (Rat × Rat) := (0, 1) :: (1, -1) :: CQ with hC
  have hfeas : ∀ t, Feas C t ↔ (0 ≤ t ∧ t ≤ 1 ∧ InHull Q.pts (pt p d t)) := by
    intro t
    rw [hC, Feas_cons, Feas_cons, Polygon.feas_iff Q hv p d hp hdn t]
    exact ⟨fun ⟨h1, h2, h3⟩ => ⟨by linarith, by linarith, h3⟩, fun ⟨h1, h2, h3⟩ => ⟨by linarith, by linarith, h3⟩⟩
  have h0 : Feas C tu := by rw [hfeas]; rw [hut'] at huQ; exact ⟨htu0, htu1, huQ⟩
  obtain ⟨tlo, hflo, hlo, clo, hclo, hclop, hclot⟩ := lp_lo C tu h0 ⟨(0, 1), by simp [hC], by norm_num⟩
  obtain ⟨thi, hfhi, hhi, chi, hchi, hchin, hchit⟩ := lp_hi C tu h0 ⟨(1, -1), by simp [hC], by norm_num⟩
  have key : ∀ t c, Feas C t → c ∈ C → c.2 ≠ 0 → c.1 + c.2 * t = 0 → ClipEnd Q p q (pt p d t) := by
    intro t c hft hc hne hct
    obtain ⟨h1, h2, h3⟩ := (hfeas t).mp hft
    refine ⟨h3, ⟨t, h1, h2, rfl⟩, ?_⟩
    rw [hC] at hc
    rcases List.mem_cons.mp hc with rfl | hc
    · left
      simp only at hct
      have : t = 0 := by linarith
      rw [this, pt_at_zero]
    rcases List.mem_cons.mp hc with rfl | hc
    · right; left
      simp only at hct
      have : t = 1 := by linarith
      rw [this, hd, pt_one_sub]
    · right; right
      obtain ⟨f, hf, hbt, hsl⟩ := Polygon.tight_on_edge Q hv p d t h3 c hc hct
      refine ⟨f, hf, hbt, ?_⟩
      intro hz
      apply hne
      rw [hsl, hz]; simp [dot, zero]
  refine ⟨pt p d tlo, pt p d thi, key tlo clo hflo hclo (ne_of_gt hclop) hclot,
    key thi chi hfhi hchi (ne_of_lt hchin) hchit, ?_⟩
  have l0 : tlo ≤ tu := hlo tu h0
  have l1 : tu ≤ thi := hhi tu h0
  rw [Between_pt (le_trans l0 l1)]
  exact ⟨tu, l0, l1, hut'⟩

/-- **vertex of `hull a ∩ hull b`** (the three kinds of points the handler collects) -/
def CVertex (a b : Polygon) (w : V3) : Prop :=
  (w ∈ a.pts ∧ InHull b.pts w) ∨ (w ∈ b.pts ∧ InHull a.pts w) ∨
    (∃ e ∈ closedPairs a.pts, ∃ f ∈ closedPairs b.pts, Between e.1 e.2 w ∧ Between f.1 f.2 w ∧
      cross (sub e.2 e.1) (sub f.2 f.1) ≠ zero)

theorem cross_ne_zero_swap {u v : V3} (h : cross u v ≠ zero) : cross v u ≠ zero := by
  intro hz; apply h; rw [cross_anticomm, hz]; apply V3.ext' <;> simp [neg, zero]

theorem CVertex.swap {a b : Polygon} {w : V3} (h : CVertex a b w) : CVertex b a w := by
  rcases h with h | h | ⟨e, he, f, hf, hew, hfw, hcr⟩
  · exact Or.inr (Or.inl h)
  · exact Or.inl h
  · exact Or.inr (Or.inr ⟨f, hf, e, he, hfw, hew, cross_ne_zero_swap hcr⟩)

/-- the two `CVertex` points are the ends of the edge clipped by `b` -/
theorem edge_between_vertices (a b : Polygon) (hb : b.Valid)
    (hab : ∀ v ∈ a.pts, inPlane b.plane.n b.plane.p v = true) (u : V3) (hub : InHull b.pts u) (e : V3 × V3)
    (he : e ∈ closedPairs a.pts) (hbt : Between e.1 e.2 u) :
    ∃ w1 w2, CVertex a b w1 ∧ CVertex a b w2 ∧ Between w1 w2 u := by
  have hm := closedPairs_mem a.pts e he
  obtain ⟨w1, w2, c1, c2, hb12⟩ := edge_clip b hb e.1 e.2 (hab _ hm.1) (hab _ hm.2) u hbt hub
  have conv : ∀ w, ClipEnd b e.1 e.2 w → CVertex a b w := by
    rintro w ⟨hwb, hwe, h | h | ⟨f, hf, hfw, hcr⟩⟩
    · exact Or.inl ⟨by rw [h]; exact hm.1, hwb⟩
    · exact Or.inl ⟨by rw [h]; exact hm.2, hwb⟩
    · exact Or.inr (Or.inr ⟨e, he, f, hf, hwe, hfw, cross_ne_zero_swap hcr⟩)
  exact ⟨w1, w2, conv w1 c1, conv w2 c2, hb12⟩

/-- a boundary point of `C` lies between two `CVertex` points -/
theorem onBd_between_vertices (a b : Polygon) (ha : a.Valid) (hb : b.Valid) (hco : a.plane.eqv b.plane = true)
    (u : V3) (hu : OnBd a b u) : ∃ w1 w2, CVertex a b w1 ∧ CVertex a b w2 ∧ Between w1 w2 u := by
  obtain ⟨hua, hub, hedge⟩ := hu
  have hin : ∀ P : Polygon, P.Valid → ∀ v ∈ P.pts, inPlane P.plane.n P.plane.p v = true :=
    fun P hP v hv => by rw [← Plane.contains_eq_inPlane]; exact hP.pts_in_plane v hv
  rcases hedge with ⟨e, he, hbt⟩ | ⟨f, hf, hbt⟩
  · exact edge_between_vertices a b hb (fun v hv => (coplanar_inPlane a b ha hb hco v).mp (hin a ha v hv)) u hub e he hbt
  · obtain ⟨w1, w2, c1, c2, h⟩ := edge_between_vertices b a ha
      (fun v hv => (coplanar_inPlane a b ha hb hco v).mpr (hin b hb v hv)) u hua f hf hbt
    exact ⟨w1, w2, c1.swap, c2.swap, h⟩

/-- **K2, geometric completeness.**  Two `Valid` polygons in one plane: every point of `hull a ∩ hull b` is a
    convex combination of at most four vertices of the intersection (`CVertex`: contained vertices of either
    polygon and transversal edge crossings). -/
theorem coplanar_hull_of_vertices (a b : Polygon) (ha : a.Valid) (hb : b.Valid) (hco : a.plane.eqv b.plane = true)
    (x : V3) (hxa : InHull a.pts x) (hxb : InHull b.pts x) :
    ∃ w1 w2 w3 w4, CVertex a b w1 ∧ CVertex a b w2 ∧ CVertex a b w3 ∧ CVertex a b w4 ∧
      InHull [w1, w2, w3, w4] x := by
  obtain ⟨u, v, hu, hv, huv⟩ := chord a b ha hb hco x hxa hxb
  obtain ⟨w1, w2, c1, c2, h12⟩ := onBd_between_vertices a b ha hb hco u hu
  obtain ⟨w3, w4, c3, c4, h34⟩ := onBd_between_vertices a b ha hb hco v hv
  refine ⟨w1, w2, w3, w4, c1, c2, c3, c4, ?_⟩
  have hu' : InHull [w1, w2, w3, w4] u := between_in_hull (by simp) (by simp) h12
  have hv' : InHull [w1, w2, w3, w4] v := between_in_hull (by simp) (by simp) h34
  exact InHull.between hu' hv' huv

#print axioms coplanar_hull_of_vertices

/-- **the result built from a duplicate-free list in strictly convex position in a plane denotes its hull**: the
    constructor succeeds on three or more such points (K6) and keeps them all -/
theorem ofHits_exact (n : V3) (hn : n ≠ zero) : ∀ (ps : List V3), ps.Nodup → StrictConvexPos ps →
    (∀ p ∈ ps, ∀ q ∈ ps, dot n (sub q p) = 0) →
    ∃ o, ofHits ps = .ok o ∧ ResSegWF o ∧ ∀ x, denOptB o x ↔ InHull ps x
  | [], _, _, _ => ⟨none, rfl, trivial, fun x => by simp only [denOptB, false_iff]; exact InHull_nil x⟩
  | [p], _, _, _ => ⟨_, rfl, trivial, fun x => by rw [InHull_single]; rfl⟩
  | [p, q], hnd, _, _ => by
    have hpq : p ≠ q := by
      intro h; rw [List.nodup_cons] at hnd; exact hnd.1 (by simp [h])
    refine ⟨some (.flat (.seg (Seg.mk' p q))), ?_, Seg.mk'_WF hpq, fun x => by rw [InHull_pair]; rfl⟩
    simp only [ofHits, if_neg hpq, liftC]; rfl
  | p0 :: p1 :: p2 :: rest, hnd, hsc, hpl => by
    have hded : dedupV (p0 :: p1 :: p2 :: rest) = p0 :: p1 :: p2 :: rest := dedupV_of_nodup _ hnd
    obtain ⟨P, hP, _, hperm⟩ := Polygon.mk?_ok_of_strictConvex (p0 :: p1 :: p2 :: rest) false p0 p1 p2 rest hded
      (by rw [hded]; exact hsc)
      (by rw [hded]; exact fun p hp => K3.trip_zero_of_perp n _ _ _ hn (hpl p0 (by simp) p1 (by simp))
            (hpl p0 (by simp) p2 (by simp)) (hpl p0 (by simp) p hp))
    rw [hded] at hperm
    refine ⟨some (.polygon P), ?_, trivial, fun x => ?_⟩
    · simp only [ofHits, hP, liftC]; rfl
    · exact ⟨fun h => InHull.mono h (fun p hp => hperm.subset hp),
        fun h => InHull.mono h (fun p hp => hperm.symm.subset hp)⟩

end G3D
