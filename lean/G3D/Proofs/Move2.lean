import G3D.Model.Move2
import G3D.Proofs.Move
import G3D.Proofs.Measure
import G3D.Proofs.Volume
import G3D.Proofs.Construct
import Mathlib.Tactic.Ring
import Mathlib.Tactic.Linarith
import Mathlib.Tactic.LinearCombination
import Mathlib.Tactic.FieldSimp

/-! C07 continued: `move` on Point / Line / Plane / HalfLine (WF, denotation, round trip, histories)
    and on ConvexPolygon (vertex list, validity w.r.t. the RECOMPUTED normal, hull, measures; the constructor under a
    map of the points, `Polygon.mk?_map`); `ConvexPolyhedron.move`: structure of a successful call. -/
namespace G3D
open V3

theorem orient_translate (n a b c v : V3) :
    orient n (add a v) (add b v) (add c v) = orient n a b c := by
  simp only [orient, sub_add_add]

theorem orient_eq_dot_cross (n a b c : V3) : orient n a b c = dot n (cross (sub b a) (sub c a)) := rfl

theorem comb_translate (v : V3) : ∀ (ws : List Rat) (ps : List V3), ws.length = ps.length →
    comb ws (ps.map (fun p => add p v)) = add (comb ws ps) (smul ws.sum v) := by
  intro ws
  induction ws with
  | nil =>
    intro ps h; cases ps
    · apply V3.ext' <;> simp [comb, add, smul, zero]
    · simp at h
  | cons w ws ih =>
    intro ps h
    cases ps with
    | nil => simp at h
    | cons p ps =>
      simp only [List.map_cons, comb, List.sum_cons, ih ps (by simpa using h)]
      apply V3.ext' <;> simp only [add, smul] <;> ring

/-- affine combinations commute with translations -/
theorem comb_translate_one (v : V3) (ws : List Rat) (ps : List V3) (hl : ws.length = ps.length)
    (hs : ws.sum = 1) : comb ws (ps.map (fun p => add p v)) = add (comb ws ps) v := by
  rw [comb_translate v ws ps hl, hs]
  congr 1
  apply V3.ext' <;> simp [smul]

theorem InHull_map {f : V3 → V3} (hf : Function.Injective f)
    (hcomb : ∀ ws ps, ws.length = ps.length → ws.sum = 1 → comb ws (ps.map f) = f (comb ws ps)) (ps : List V3) (x : V3) :
    InHull (ps.map f) (f x) ↔ InHull ps x := by
  unfold InHull
  refine exists_congr fun ws => ?_
  rw [List.length_map]
  refine and_congr_right fun hl => and_congr_right fun _ => and_congr_right fun hs => ?_
  rw [hcomb ws ps hl hs]
  exact hf.eq_iff

theorem InHull_translate (ps : List V3) (v x : V3) :
    InHull (ps.map (fun p => add p v)) (add x v) ↔ InHull ps x :=
  InHull_map (add_injective v) (comb_translate_one v) ps x

theorem consec_map (f : V3 → V3) : ∀ l : List V3,
    consec (l.map f) = (consec l).map (fun e => (f e.1, f e.2)) := by
  intro l
  induction l with
  | nil => simp [consec]
  | cons a l ih =>
    cases l with
    | nil => simp [consec]
    | cons b l =>
      simp only [List.map_cons, consec] at ih ⊢
      rw [ih]

theorem closedPairs_map (f : V3 → V3) (l : List V3) :
    closedPairs (l.map f) = (closedPairs l).map (fun e => (f e.1, f e.2)) := by
  cases l with
  | nil => simp [closedPairs]
  | cons p ps =>
    simp only [List.map_cons, closedPairs]
    rw [← consec_map f (p :: ps ++ [p])]
    simp

/-- positivity of all ordered triples is transported along any map that preserves positive orientation -/
theorem triplesPos_map (f : V3 → V3) (n n' : V3)
    (h : ∀ a b c, 0 < orient n a b c → 0 < orient n' (f a) (f b) (f c)) :
    ∀ l : List V3, triplesPos n l → triplesPos n' (l.map f) := by
  intro l
  induction l with
  | nil => intro _; trivial
  | cons a l ih =>
    intro htp
    refine ⟨?_, ih htp.2⟩
    intro b' c' hs
    obtain ⟨l', hl', hm⟩ := List.sublist_map_iff.mp hs
    obtain ⟨b, l1, rfl, rfl, h1⟩ := List.map_eq_cons_iff.mp hm.symm
    obtain ⟨c, l2, rfl, rfl, h2⟩ := List.map_eq_cons_iff.mp h1
    rw [List.map_eq_nil_iff.mp h2] at hl'
    exact h a b c (htp.1 b c hl')

theorem vsum_map_add (v : V3) (l : List V3) :
    vsum (l.map (fun p => add p v)) = add (vsum l) (smul (l.length : Rat) v) := by
  induction l with
  | nil => simp only [List.map_nil, vsum_nil, List.length_nil]; apply V3.ext' <;> simp [add, smul, zero]
  | cons a l ih =>
    rw [List.map_cons, vsum_cons, ih, vsum_cons]
    apply V3.ext' <;> simp only [add, smul, List.length_cons] <;> push_cast <;> ring

/-- the vertex mean commutes with translations (`_get_center_point`) -/
theorem meanV_translate (v : V3) (l : List V3) (hl : l ≠ []) :
    meanV (l.map (fun p => add p v)) = add (meanV l) v := by
  have h1 : 1 / (l.length : Rat) * l.length = 1 :=
    one_div_mul_cancel (Nat.cast_ne_zero.mpr (List.length_pos_of_ne_nil hl).ne')
  unfold meanV
  rw [sumV_eq_vsum, sumV_eq_vsum, vsum_map_add, List.length_map]
  apply V3.ext' <;> simp only [add, smul]
  · linear_combination v.x * h1
  · linear_combination v.y * h1
  · linear_combination v.z * h1

theorem Point.move_returned_eq_receiver (p v : V3) : (Point.move p v).2 = (Point.move p v).1 := rfl
/-- a point denotes the singleton `{p}` -/
theorem Point.move_den (p v x : V3) : add x v = (Point.move p v).1 ↔ x = p := by
  simp only [Point.move]; exact add_right_inj'
theorem Point.move_move (p v w : V3) : (Point.move (Point.move p v).1 w).1 = (Point.move p (add v w)).1 :=
  add_assoc' p v w
theorem Point.move_zero (p : V3) : (Point.move p zero).1 = p := add_zero' p
theorem Point.move_back (p v : V3) : (Point.move (Point.move p v).1 (neg v)).1 = p :=
  add_neg_cancel_right' p v
theorem Point.moves_fold (p : V3) (vs : List V3) :
    vs.foldl (fun r v => (Point.move r v).1) p = (Point.move p (vs.foldl add zero)).1 :=
  fold_moves' (fun r v => (Point.move r v).1) p (Point.move_move p) (Point.move_zero p) vs

theorem Line.move_returned_eq_receiver (l : Line) (v : V3) : (l.move v).2 = (l.move v).1 := rfl
theorem Line.move_WF (l : Line) (hl : l.WF) (v : V3) : (l.move v).1.WF ∧ (l.move v).2 = (l.move v).1 :=
  ⟨hl, rfl⟩
theorem Line.move_den (l : Line) (v x : V3) : (l.move v).1.den (add x v) ↔ l.den x := by
  simp only [Line.move, Line.den, add_eq_add_add_iff]
theorem Line.move_move (l : Line) (v w : V3) : ((l.move v).1.move w).1 = (l.move (add v w)).1 := by
  simp only [Line.move, add_assoc']
theorem Line.move_zero (l : Line) : (l.move zero).1 = l := by
  simp only [Line.move, add_zero']
theorem Line.move_back (l : Line) (v : V3) : ((l.move v).1.move (neg v)).1 = l := by
  simp only [Line.move, add_neg_cancel_right']
theorem Line.moves_fold (l : Line) (vs : List V3) :
    vs.foldl (fun r v => (r.move v).1) l = (l.move (vs.foldl add zero)).1 :=
  fold_moves' (fun r v => (Line.move r v).1) l l.move_move l.move_zero vs

theorem Plane.move_returned_eq_receiver (p : Plane) (v : V3) : (p.move v).2 = (p.move v).1 := rfl
theorem Plane.move_WF (p : Plane) (hp : p.WF) (v : V3) : (p.move v).1.WF ∧ (p.move v).2 = (p.move v).1 :=
  ⟨hp, rfl⟩
theorem Plane.move_den (p : Plane) (v x : V3) : (p.move v).1.den (add x v) ↔ p.den x := by
  simp only [Plane.move, Plane.den, sub_add_add]
theorem Plane.move_move (p : Plane) (v w : V3) : ((p.move v).1.move w).1 = (p.move (add v w)).1 := by
  simp only [Plane.move, add_assoc']
theorem Plane.move_zero (p : Plane) : (p.move zero).1 = p := by
  simp only [Plane.move, add_zero']
theorem Plane.move_back (p : Plane) (v : V3) : ((p.move v).1.move (neg v)).1 = p := by
  simp only [Plane.move, add_neg_cancel_right']
theorem Plane.moves_fold (p : Plane) (vs : List V3) :
    vs.foldl (fun r v => (r.move v).1) p = (p.move (vs.foldl add zero)).1 :=
  fold_moves' (fun r v => (Plane.move r v).1) p p.move_move p.move_zero vs

/-! ### HalfLine (cached carrier line rebuilt, as for Segment) -/
theorem HalfLine.move_returned_eq_receiver (h : HalfLine) (v : V3) : (h.move v).2 = (h.move v).1 := rfl
theorem HalfLine.move_WF (h : HalfLine) (hh : h.WF) (v : V3) :
    (h.move v).1.WF ∧ (h.move v).2 = (h.move v).1 :=
  ⟨⟨hh.1, rfl⟩, rfl⟩
theorem HalfLine.move_den (h : HalfLine) (v x : V3) : (h.move v).1.den (add x v) ↔ h.den x := by
  simp only [HalfLine.move, HalfLine.mk', HalfLine.den, add_eq_add_add_iff]
/-- the carrier line moves with the half-line (this is what the pinned `Segment.move` got wrong) -/
theorem HalfLine.move_line (h : HalfLine) (hh : h.WF) (v : V3) : (h.move v).1.line = (h.line.move v).1 := by
  simp only [HalfLine.move, HalfLine.mk', Line.move, hh.2]
theorem HalfLine.move_move (h : HalfLine) (v w : V3) : ((h.move v).1.move w).1 = (h.move (add v w)).1 := by
  simp only [HalfLine.move, HalfLine.mk', add_assoc']
theorem HalfLine.move_zero (h : HalfLine) (hh : h.WF) : (h.move zero).1 = h := by
  obtain ⟨p, d, l⟩ := h
  have hl : l = ⟨p, d⟩ := hh.2
  simp only [HalfLine.move, HalfLine.mk', add_zero', hl]
theorem HalfLine.move_back (h : HalfLine) (hh : h.WF) (v : V3) : ((h.move v).1.move (neg v)).1 = h := by
  rw [HalfLine.move_move, add_neg_self', HalfLine.move_zero h hh]
theorem HalfLine.moves_fold (h : HalfLine) (hh : h.WF) (vs : List V3) :
    vs.foldl (fun r v => (r.move v).1) h = (h.move (vs.foldl add zero)).1 :=
  fold_moves' (fun r v => (HalfLine.move r v).1) h h.move_move (h.move_zero hh) vs

theorem Seg.move_returned_eq_receiver (s : Seg) (v : V3) : (s.move v).2 = (s.move v).1 := rfl
theorem Seg.move_line (s : Seg) (hs : s.WF) (v : V3) : (s.move v).1.line = (s.line.move v).1 := by
  simp only [Seg.move, Seg.mk', Line.move, hs.2, sub_add_add]
theorem Seg.moves_fold_eq (s : Seg) (hs : s.WF) (vs : List V3) :
    vs.foldl (fun r v => (r.move v).1) s = (s.move (vs.foldl add zero)).1 :=
  fold_moves' (fun r v => (Seg.move r v).1) s s.move_move (s.move_zero hs) vs
theorem Seg.move_lenSq (s : Seg) (v : V3) : (s.move v).1.lenSq = s.lenSq := by
  simp only [Seg.move, Seg.mk', Seg.lenSq, sub_add_add]

/-- the vertex tuple is the translated tuple, in the same order (every branch) -/
theorem Polygon.move_pts (P : Polygon) (v : V3) : (P.move v).1.pts = P.pts.map (fun p => add p v) := by
  unfold Polygon.move
  simp only [Point.move]
  split
  · split <;> rfl
  · rfl

/-- hull denotation: `move` translates the polygon -/
theorem Polygon.move_den (P : Polygon) (v x : V3) : InHull (P.move v).1.pts (add x v) ↔ InHull P.pts x := by
  rw [Polygon.move_pts]; exact InHull_translate P.pts v x

/-- what `move` needs in order not to raise: three leading vertices, not collinear -/
def Polygon.Good (P : Polygon) : Prop :=
  ∃ p0 p1 p2 rest, P.pts = p0 :: p1 :: p2 :: rest ∧ cross (sub p1 p0) (sub p2 p0) ≠ zero

/-- every cached field is the one `move` recomputes from the vertex cycle -/
def Polygon.Canon (P : Polygon) : Prop :=
  ∃ p0 p1 p2 rest, P.pts = p0 :: p1 :: p2 :: rest ∧ cross (sub p1 p0) (sub p2 p0) ≠ zero ∧
    P.plane = planeOf3 p0 p1 p2 ∧ P.center = meanV P.pts

theorem Polygon.Canon.good {P : Polygon} (h : P.Canon) : P.Good := by
  obtain ⟨p0, p1, p2, rest, hp, hn, _, _⟩ := h; exact ⟨p0, p1, p2, rest, hp, hn⟩

theorem Polygon.Valid.good {P : Polygon} (hv : P.Valid) : P.Good := by
  obtain ⟨p0, p1, p2, rest, hp, _, htp⟩ := hv
  refine ⟨p0, p1, p2, rest, hp, ?_⟩
  intro h0
  rw [hp] at htp
  have := htp.1 p1 p2 (by simp)
  rw [orient_eq_dot_cross, h0] at this
  simp [dot, zero] at this

/-- the explicit receiver and returned object on the non-raising path -/
theorem Polygon.move_eq (P : Polygon) (p0 p1 p2 : V3) (rest : List V3) (hp : P.pts = p0 :: p1 :: p2 :: rest)
    (hn : cross (sub p1 p0) (sub p2 p0) ≠ zero) (v : V3) :
    P.move v = (⟨P.pts.map (fun p => add p v), ⟨add p0 v, cross (sub p1 p0) (sub p2 p0)⟩, add (meanV P.pts) v⟩,
      Polygon.mk? (P.pts.map (fun p => add p v))) := by
  have hm := meanV_translate v P.pts (by rw [hp]; simp)
  unfold Polygon.move
  simp only [Point.move, hp, List.map_cons, sub_add_add, if_neg hn, planeOf3] at hm ⊢
  rw [hm]

theorem Polygon.move_canon (P : Polygon) (hg : P.Good) (v : V3) : (P.move v).1.Canon := by
  obtain ⟨p0, p1, p2, rest, hp, hn⟩ := hg
  rw [Polygon.move_eq P p0 p1 p2 rest hp hn v]
  refine ⟨add p0 v, add p1 v, add p2 v, rest.map (fun p => add p v), by simp [hp], ?_, ?_, ?_⟩
  · simpa only [sub_add_add] using hn
  · simp only [planeOf3, sub_add_add]
  · simp only; exact (meanV_translate v P.pts (by rw [hp]; simp)).symm

theorem Polygon.move_good (P : Polygon) (hg : P.Good) (v : V3) : (P.move v).1.Good :=
  (Polygon.move_canon P hg v).good

theorem Polygon.move_move (P : Polygon) (hg : P.Good) (v w : V3) :
    ((P.move v).1.move w).1 = (P.move (add v w)).1 := by
  obtain ⟨p0, p1, p2, rest, hp, hn⟩ := hg
  have h1 := Polygon.move_eq P p0 p1 p2 rest hp hn v
  have hn' : cross (sub (add p1 v) (add p0 v)) (sub (add p2 v) (add p0 v)) ≠ zero := by
    simpa only [sub_add_add] using hn
  have hp' : (P.move v).1.pts = add p0 v :: add p1 v :: add p2 v :: rest.map (fun p => add p v) := by
    rw [h1]; simp [hp]
  rw [Polygon.move_eq _ _ _ _ _ hp' hn' w, Polygon.move_eq P p0 p1 p2 rest hp hn (add v w)]
  have hc := meanV_translate v P.pts (by rw [hp]; simp)
  simp only [Polygon.move_pts, List.map_map, Function.comp_def, add_assoc', sub_add_add, hc]

theorem Polygon.move_zero (P : Polygon) (hc : P.Canon) : (P.move zero).1 = P := by
  obtain ⟨p0, p1, p2, rest, hp, hn, hpl, hce⟩ := hc
  rw [Polygon.move_eq P p0 p1 p2 rest hp hn zero]
  simp only [add_zero', List.map_id']
  cases P
  simp only [planeOf3] at hpl hce ⊢
  rw [hpl, hce]

/-- the vertex tuple always makes the round trip -/
theorem Polygon.move_back_pts (P : Polygon) (v : V3) : ((P.move v).1.move (neg v)).1.pts = P.pts := by
  simp only [Polygon.move_pts, List.map_map, Function.comp_def, add_neg_cancel_right', List.map_id']

/-- exact round trip for a polygon whose cached plane and centre are the ones `move` rebuilds -/
theorem Polygon.move_back (P : Polygon) (hc : P.Canon) (v : V3) : ((P.move v).1.move (neg v)).1 = P := by
  rw [Polygon.move_move P hc.good, add_neg_self', Polygon.move_zero P hc]

/-- after one move every later round trip is exact -/
theorem Polygon.move_move_back (P : Polygon) (hg : P.Good) (v w : V3) :
    (((P.move v).1.move w).1.move (neg w)).1 = (P.move v).1 :=
  Polygon.move_back _ (Polygon.move_canon P hg v) w

/-- histories: a non-empty list of moves equals one move by the total -/
theorem Polygon.moves_fold (P : Polygon) (hg : P.Good) (v : V3) (vs : List V3) :
    (v :: vs).foldl (fun r v => (r.move v).1) P = (P.move ((v :: vs).foldl add zero)).1 := by
  rw [List.foldl_cons, List.foldl_cons, zero_add']
  exact fold_moves (fun r v => (Polygon.move r v).1) P (Polygon.move_move P hg) vs v

theorem Polygon.moves_fold_canon (P : Polygon) (hc : P.Canon) (vs : List V3) :
    vs.foldl (fun r v => (r.move v).1) P = (P.move (vs.foldl add zero)).1 := by
  cases vs with
  | nil => simp only [List.foldl_nil]; exact (Polygon.move_zero P hc).symm
  | cons v vs => exact Polygon.moves_fold P hc.good v vs

/-- two vectors orthogonal to `n` have their cross product on the axis of `n` -/
theorem cross_eq_smul_of_orthogonal (n u w : V3) (hn : n ≠ zero) (hu : dot n u = 0) (hw : dot n w = 0) :
    cross u w = smul (dot n (cross u w) / normSq n) n := by
  have hnn : normSq n ≠ 0 := ne_of_gt (normSq_pos hn)
  simp only [dot] at hu hw
  apply V3.ext' <;> simp only [smul] <;> rw [div_mul_eq_mul_div, eq_div_iff hnn] <;>
    simp only [dot, cross, normSq]
  · linear_combination (-(n.y * u.z - n.z * u.y)) * hw + (n.y * w.z - n.z * w.y) * hu
  · linear_combination (-(n.z * u.x - n.x * u.z)) * hw + (n.z * w.x - n.x * w.z) * hu
  · linear_combination (-(n.x * u.y - n.y * u.x)) * hw + (n.x * w.y - n.y * w.x) * hu

/-- for a valid polygon the normal that `move` recomputes from the first three vertices of the cycle is a
    POSITIVE multiple of the stored normal -/
theorem Polygon.Valid.recomputed_normal {P : Polygon} (hv : P.Valid) {p0 p1 p2 : V3} {rest : List V3}
    (hp : P.pts = p0 :: p1 :: p2 :: rest) :
    ∃ k : Rat, 0 < k ∧ cross (sub p1 p0) (sub p2 p0) = smul k P.plane.n := by
  have hn : P.plane.n ≠ zero := Polygon.plane_WF P hv
  have h0 := hv.pts_inPlane p0 (by rw [hp]; simp)
  have hpos : 0 < orient P.plane.n p0 p1 p2 := by
    have htp := hv.pos
    rw [hp] at htp; exact htp.1 p1 p2 (by simp)
  exact ⟨_, div_pos hpos (normSq_pos hn), cross_eq_smul_of_orthogonal _ _ _ hn
    (inPlane_diff h0 (hv.pts_inPlane p1 (by rw [hp]; simp))) (inPlane_diff h0 (hv.pts_inPlane p2 (by rw [hp]; simp)))⟩

theorem Polygon.Valid.move_eq {P : Polygon} (hv : P.Valid) (v : V3) :
    ∃ p0 ∈ P.pts, ∃ k : Rat, 0 < k ∧
      P.move v = (⟨P.pts.map (fun p => add p v), ⟨add p0 v, smul k P.plane.n⟩, add (meanV P.pts) v⟩,
        Polygon.mk? (P.pts.map (fun p => add p v))) := by
  obtain ⟨p0, p1, p2, rest, hp, hn⟩ := hv.good
  obtain ⟨k, hk, hk'⟩ := hv.recomputed_normal hp
  exact ⟨p0, by rw [hp]; simp, k, hk, by rw [Polygon.move_eq P p0 p1 p2 rest hp hn v, hk']⟩

theorem Polygon.move_normal (P : Polygon) (hv : P.Valid) (v : V3) :
    ∃ k : Rat, 0 < k ∧ (P.move v).1.plane.n = smul k P.plane.n := by
  obtain ⟨_, _, k, hk, h⟩ := hv.move_eq v
  exact ⟨k, hk, by rw [h]⟩

theorem Polygon.Valid.map {P : Polygon} (hv : P.Valid) (f : V3 → V3) {q n : V3} (c : V3)
    (hpl : ∀ p, G3D.inPlane P.plane.n P.plane.p p = true → G3D.inPlane n q (f p) = true)
    (hor : ∀ a b c, 0 < orient P.plane.n a b c → 0 < orient n (f a) (f b) (f c)) :
    (⟨P.pts.map f, ⟨q, n⟩, c⟩ : Polygon).Valid := by
  obtain ⟨p0, p1, p2, rest, hp, hpl', htp⟩ := hv
  refine ⟨f p0, f p1, f p2, rest.map f, congrArg (List.map f) hp, fun y hy => ?_, triplesPos_map f _ _ hor P.pts htp⟩
  obtain ⟨p, hpm, rfl⟩ := List.mem_map.mp hy
  exact hpl p (hpl' p hpm)

theorem Polygon.translate_valid (Q : Polygon) (hv : Q.Valid) (v : V3) : (Q.translate v).Valid :=
  hv.map (fun p => add p v) _ (fun p hp => by simpa only [G3D.inPlane, sub_add_add] using hp)
    (fun a b c h => by rwa [orient_translate])

theorem Polygon.move_valid (P : Polygon) (hv : P.Valid) (v : V3) : (P.move v).1.Valid := by
  obtain ⟨p0, hp0, k, hk, h⟩ := hv.move_eq v
  rw [h]
  refine hv.map (fun p => add p v) _ (fun p hp => ?_)
    (fun a b c h => by rw [orient_translate, orient_smul]; exact mul_pos hk h)
  -- `p0` and `p` lie in the old plane, so `p - p0` is orthogonal to the normal
  have hd := inPlane_diff (hv.pts_inPlane p0 hp0) hp
  simp only [G3D.inPlane, beq_iff_eq, sub_add_add]
  simp only [dot, smul] at hd ⊢
  linear_combination k * hd

/-- the `X.move_WF` shape for polygons: validity is kept and every cached field is the rebuilt one -/
theorem Polygon.move_WF (P : Polygon) (hv : P.Valid) (v : V3) : (P.move v).1.Valid ∧ (P.move v).1.Canon :=
  ⟨Polygon.move_valid P hv v, Polygon.move_canon P hv.good v⟩

theorem Polygon.move_plane_den (P : Polygon) (hv : P.Valid) (v x : V3) :
    (P.move v).1.plane.den (add x v) ↔ P.plane.den x := by
  obtain ⟨p0, hp0, k, hk, h⟩ := hv.move_eq v
  have h0 := hv.pts_inPlane p0 hp0
  simp only [G3D.inPlane, beq_iff_eq] at h0
  have e : dot (smul k P.plane.n) (sub x p0) = k * dot P.plane.n (sub x P.plane.p) := by
    simp only [dot, sub, smul] at h0 ⊢; linear_combination (-k) * h0
  simp only [h, Plane.den, sub_add_add, e, mul_eq_zero, or_iff_right (ne_of_gt hk)]

/-- the membership test of the moved receiver is the translated membership test -/
theorem Polygon.move_contains (P : Polygon) (hv : P.Valid) (v x : V3) :
    (P.move v).1.contains (add x v) = P.contains x := by
  rw [Bool.eq_iff_iff, Polygon.contains_iff _ (Polygon.move_valid P hv v), Polygon.contains_iff P hv]
  exact Polygon.move_den P v x

theorem Polygon.move_edgeLenSqs (P : Polygon) (v : V3) : (P.move v).1.edgeLenSqs = P.edgeLenSqs := by
  simp only [Polygon.edgeLenSqs, Polygon.move_pts, closedPairs_map, List.map_map, Function.comp_def,
    sub_add_add]

theorem list_sum_map_mul_left {α : Type} (k : Rat) (f : α → Rat) (l : List α) :
    (l.map (fun e => k * f e)).sum = k * (l.map f).sum := by
  induction l with
  | nil => simp
  | cons a l ih => simp only [List.map_cons, List.sum_cons, ih]; ring

theorem triNum_translate_smul (k : Rat) (hk : 0 ≤ k) (n c a b v : V3) :
    triNum (smul k n) (add c v) (add a v) (add b v) = k * triNum n c a b := by
  unfold triNum
  rw [sub_add_add, sub_add_add, mul_comm, absQ_mul_nonneg _ k hk]
  congr 1
  simp only [dot, smul]; ring

theorem Polygon.move_center (P : Polygon) (hg : P.Good) (v : V3) :
    (P.move v).1.center = add (meanV P.pts) v := by
  obtain ⟨p0, p1, p2, rest, hp, hn⟩ := hg
  rw [Polygon.move_eq P p0 p1 p2 rest hp hn v]

theorem Polygon.areaNum_eq_mean_fan {P : Polygon} (hv : P.Valid)
    (hc : ∀ e ∈ closedPairs P.pts, 0 ≤ orient P.plane.n e.1 e.2 P.center) :
    P.areaNum = ((closedPairs P.pts).map (fun e => triNum P.plane.n (meanV P.pts) e.1 e.2)).sum := by
  obtain ⟨p0, p1, p2, rest, hp, hpl, htp⟩ := hv
  unfold Polygon.areaNum
  rw [fan_abs_eq_shoelace P.plane.n P.center P.pts hc]
  rw [hp] at hpl htp ⊢
  exact (polygon_area_shoelace P.plane.n P.plane.p p0 p1 p2 rest hpl htp).symm

theorem Polygon.areaNum_translate_smul {P Q : Polygon} (hv : P.Valid)
    (hc : ∀ e ∈ closedPairs P.pts, 0 ≤ orient P.plane.n e.1 e.2 P.center) (v : V3) (k : Rat) (hk : 0 ≤ k)
    (hpts : Q.pts = P.pts.map (fun p => add p v)) (hn : Q.plane.n = smul k P.plane.n)
    (hcen : Q.center = add (meanV P.pts) v) : Q.areaNum = k * P.areaNum := by
  rw [Polygon.areaNum_eq_mean_fan hv hc, ← list_sum_map_mul_left]
  unfold Polygon.areaNum
  rw [hn, hcen, hpts, closedPairs_map, List.map_map]
  congr 2
  funext e
  exact triNum_translate_smul k hk _ _ _ _ _

/-- area: `area = areaNum / (2·√(n·n))`.  With the recomputed normal `n' = k·n` (k > 0) the numerator
    scales by `k` and `n'·n'` by `k²`, so the area is unchanged.  `hc`: the stored centre passes the
    edge tests (true when it is the vertex mean, see `Polygon.move_areaNum_mean`). -/
theorem Polygon.move_areaNum (P : Polygon) (hv : P.Valid)
    (hc : ∀ e ∈ closedPairs P.pts, 0 ≤ orient P.plane.n e.1 e.2 P.center) (v : V3) :
    ∃ k : Rat, 0 < k ∧ (P.move v).1.plane.n = smul k P.plane.n ∧
      (P.move v).1.areaNum = k * P.areaNum ∧
      normSq (P.move v).1.plane.n = k ^ 2 * normSq P.plane.n := by
  obtain ⟨k, hk, hn'⟩ := Polygon.move_normal P hv v
  refine ⟨k, hk, hn', ?_, ?_⟩
  · exact Polygon.areaNum_translate_smul hv hc v k hk.le (Polygon.move_pts P v) hn'
      (Polygon.move_center P hv.good v)
  · rw [hn']; simp only [normSq, dot, smul]; ring

theorem Polygon.move_areaNum_mean (P : Polygon) (hv : P.Valid) (hc : P.center = meanV P.pts) (v : V3) :
    ∃ k : Rat, 0 < k ∧ (P.move v).1.plane.n = smul k P.plane.n ∧
      (P.move v).1.areaNum = k * P.areaNum ∧
      normSq (P.move v).1.plane.n = k ^ 2 * normSq P.plane.n := by
  apply Polygon.move_areaNum P hv _ v
  obtain ⟨p0, p1, p2, rest, hp, hpl, htp⟩ := hv
  rw [hc, hp]; rw [hp] at hpl htp
  exact centroid_passes_tests P.plane.n P.plane.p p0 p1 p2 rest hpl htp

/-- division-free form of "the area is unchanged": `(areaNum')² / (n'·n') = areaNum² / (n·n)` -/
theorem Polygon.move_area_sq (P : Polygon) (hv : P.Valid)
    (hc : ∀ e ∈ closedPairs P.pts, 0 ≤ orient P.plane.n e.1 e.2 P.center) (v : V3) :
    (P.move v).1.areaNum ^ 2 * normSq P.plane.n = P.areaNum ^ 2 * normSq (P.move v).1.plane.n := by
  obtain ⟨k, _, _, ha, hn⟩ := Polygon.move_areaNum P hv hc v
  rw [ha, hn]; ring

/-! #### why the exact round trip needs `Canon`: a constructed polygon whose normal is rescaled -/
/-- what `ConvexPolygon(((0,0,0),(3,3,0),(1,0,0),(0,2,0)))` stores: the plane comes from the first three
    INPUT points, the cycle is re-sorted afterwards, so the first three vertices of the cycle span a
    different triangle.  (In Python the normal is normalised, so this rescaling is invisible there; it is
    an artefact of keeping the normal unnormalised in the exact model.) -/
def rescaleWitness : Polygon :=
  ⟨[⟨0,0,0⟩, ⟨0,2,0⟩, ⟨3,3,0⟩, ⟨1,0,0⟩], ⟨⟨0,0,0⟩, ⟨0,0,-3⟩⟩, ⟨1,5/4,0⟩⟩

theorem rescaleWitness_constructed :
    Polygon.mk? [⟨0,0,0⟩, ⟨3,3,0⟩, ⟨1,0,0⟩, ⟨0,2,0⟩] = .ok rescaleWitness := by
  decide +kernel

/-- move / move back on that polygon restores the vertices but doubles the stored normal -/
theorem Polygon.move_back_rescales :
    rescaleWitness.Good ∧ ∀ v, ((rescaleWitness.move v).1.move (neg v)).1.plane.n = ⟨0,0,-6⟩ ∧
      ((rescaleWitness.move v).1.move (neg v)).1 ≠ rescaleWitness := by
  have hc : cross (sub (⟨0,2,0⟩ : V3) ⟨0,0,0⟩) (sub ⟨3,3,0⟩ ⟨0,0,0⟩) = ⟨0,0,-6⟩ := by decide +kernel
  have hne : (⟨0,0,-6⟩ : V3) ≠ zero := by decide +kernel
  have hg : rescaleWitness.Good := ⟨_, _, _, _, rfl, by rw [hc]; exact hne⟩
  refine ⟨hg, fun v => ?_⟩
  have hn : ((rescaleWitness.move v).1.move (neg v)).1.plane.n = ⟨0,0,-6⟩ := by
    rw [Polygon.move_move _ hg,
      Polygon.move_eq rescaleWitness _ _ _ _ rfl (by rw [hc]; exact hne) (add v (neg v))]
    exact hc
  refine ⟨hn, fun h => ?_⟩
  rw [h] at hn
  exact absurd hn (by decide +kernel)

/-! #### the returned object: `ConvexPolygon(self.points)` is the translate of a fresh reconstruction -/
theorem dedupV_map {f : V3 → V3} (hf : Function.Injective f) : ∀ l : List V3, dedupV (l.map f) = (dedupV l).map f
  | [] => rfl
  | a :: l => by
    simp only [List.map_cons, dedupV, dedupV_map hf l, List.filter_map, Function.comp_def, bne, hf.beq_eq]

/-- the angular insertion only compares keys by `angEq` / `angLt` -/
theorem angInsert_map {κ : Rat × Rat → Rat × Rat} (hlt : ∀ k1 k2, angLt (κ k1) (κ k2) = angLt k1 k2)
    (heq : ∀ k1 k2, angEq (κ k1) (κ k2) = angEq k1 k2) (f : V3 → V3) (k : Rat × Rat) (p : V3) :
    ∀ acc : List ((Rat × Rat) × V3),
      angInsert (κ k) (f p) (acc.map (fun e => (κ e.1, f e.2))) = (angInsert k p acc).map (fun e => (κ e.1, f e.2))
  | [] => rfl
  | (k', p') :: acc => by
    simp only [List.map_cons, angInsert, hlt, heq]
    split_ifs <;> simp only [List.map_cons, angInsert_map hlt heq f k p acc]

theorem sort_map {κ : Rat × Rat → Rat × Rat} (hlt : ∀ k1 k2, angLt (κ k1) (κ k2) = angLt k1 k2)
    (heq : ∀ k1 k2, angEq (κ k1) (κ k2) = angEq k1 k2) (f : V3 → V3) (key key' : V3 → Rat × Rat)
    (hkey : ∀ p, key' (f p) = κ (key p)) (ded : List V3) :
    ((ded.map f).foldl (fun acc p => angInsert (key' p) p acc) []).map (·.2) =
      ((ded.foldl (fun acc p => angInsert (key p) p acc) []).map (·.2)).map f := by
  rw [List.foldl_map]
  refine (congrArg (List.map (·.2))
    (List.foldl_hom (List.map fun e : (Rat × Rat) × V3 => (κ e.1, f e.2)) (init := [])
      (g₁ := fun acc p => angInsert (key p) p acc) (g₂ := fun acc p => angInsert (key' (f p)) (f p) acc)
      fun acc p => by rw [hkey, angInsert_map hlt heq])).trans ?_
  rw [List.map_map, List.map_map]
  rfl

theorem Plane.contains_translate (p0 n x v : V3) :
    (⟨add p0 v, n⟩ : Plane).contains (add x v) = (⟨p0, n⟩ : Plane).contains x := by
  simp only [Plane.contains]
  congr 1
  simp only [dot, add]; ring

/-- **the polygon constructor commutes with every map `f` of the points under which its tests are invariant**: `f` has
    an injective "linear part" `d` (differences), `g` is what `f` does to normals (cross products of differences), the
    centroid and the plane test commute, and the two components of the sort key change by a map `κ` that the angular
    order does not see.  Same rejections; on success the image record `img P`, with the vertex cycle in the same order. -/
theorem Polygon.mk?_map {f d g : V3 → V3} {κ : Rat × Rat → Rat × Rat} {img : Polygon → Polygon}
    (himg : ∀ P, img P = ⟨P.pts.map f, ⟨f P.plane.p, g P.plane.n⟩, f P.center⟩)
    (hsub : ∀ x y, sub (f x) (f y) = d (sub x y)) (hd0 : ∀ u, d u = zero ↔ u = zero)
    (hmean : ∀ l, l ≠ [] → meanV (l.map f) = f (meanV l))
    (hcross : ∀ u v, cross (d u) (d v) = g (cross u v)) (hgneg : ∀ n, g (neg n) = neg (g n))
    (hg0 : ∀ n, g n = zero ↔ n = zero)
    (hcont : ∀ p n x, (⟨f p, g n⟩ : Plane).contains (f x) = (⟨p, n⟩ : Plane).contains x)
    (hlt : ∀ k1 k2, angLt (κ k1) (κ k2) = angLt k1 k2) (heq : ∀ k1 k2, angEq (κ k1) (κ k2) = angEq k1 k2)
    (hkey : ∀ u v n, (dot (d u) (d v), dot (d u) (cross (g n) (d v))) = κ (dot u v, dot u (cross n v)))
    (l : List V3) (rev : Bool) : Polygon.mk? (l.map f) rev = (Polygon.mk? l rev).map img := by
  have hf : Function.Injective f := fun x y h =>
    sub_eq_zero_iff.mp ((hd0 _).mp (by rw [← hsub, h]; exact sub_eq_zero_iff.mpr rfl))
  unfold Polygon.mk?
  simp only [dedupV_map hf, List.length_map]
  rw [apply_ite (Except.map img)]
  refine if_congr Iff.rfl rfl ?_
  rcases dedupV l with _ | ⟨p0, _ | ⟨p1, _ | ⟨p2, rest⟩⟩⟩
  · rfl
  · rfl
  · rfl
  · -- every test of the constructor on the image data is rewritten to the test on the original data
    have hm := hmean (p0 :: p1 :: p2 :: rest) (List.cons_ne_nil _ _)
    have hall : ∀ n, ((p0 :: p1 :: p2 :: rest).map f).all (⟨f p0, g n⟩ : Plane).contains =
        (p0 :: p1 :: p2 :: rest).all (⟨p0, n⟩ : Plane).contains := fun n => by
      rw [List.all_map]; exact congrArg _ (funext (hcont p0 n))
    have hsort := fun c v0 n => sort_map hlt heq f
      (fun p => (dot (sub p c) v0, dot (sub p c) (cross n v0)))
      (fun p => (dot (sub p (f c)) (d v0), dot (sub p (f c)) (cross (g n) (d v0))))
      (fun p => by rw [hsub]; exact hkey _ _ _) (p0 :: p1 :: p2 :: rest)
    simp only [List.map_cons] at hm hall hsort
    simp only [List.map_cons, hm, hall, hsort, hsub, hcross, hg0, hd0, ← hgneg, ← apply_ite g,
      apply_ite (Except.map img)]
    simp only [Except.map, himg]

/-- a translation changes neither differences nor normals nor sort keys -/
theorem Polygon.mk?_translate (l : List V3) (rev : Bool) (v : V3) :
    Polygon.mk? (l.map (fun p => add p v)) rev = (Polygon.mk? l rev).map (fun P => P.translate v) :=
  Polygon.mk?_map (f := fun p => add p v) (d := id) (g := id) (κ := id) (fun _ => rfl) (fun x y => sub_add_add x y v)
    (fun _ => Iff.rfl) (meanV_translate v) (fun _ _ => rfl) (fun _ => rfl) (fun _ => Iff.rfl)
    (fun p n x => Plane.contains_translate p n x v) (fun _ _ => rfl) (fun _ _ => rfl) (fun _ _ _ => rfl) l rev

/-- on the non-raising path `move` returns `ConvexPolygon(self.points)` built from the moved vertex cycle -/
theorem Polygon.move_snd (P : Polygon) (hg : P.Good) (v : V3) : (P.move v).2 = Polygon.mk? (P.move v).1.pts := by
  obtain ⟨p0, p1, p2, rest, hp, hn⟩ := hg
  rw [Polygon.move_eq P p0 p1 p2 rest hp hn v]

theorem Polygon.move_returned (P : Polygon) (hg : P.Good) (v : V3) :
    (P.move v).2 = (Polygon.mk? P.pts).map (fun Q => Q.translate v) := by
  rw [Polygon.move_snd P hg v, Polygon.move_pts]
  exact Polygon.mk?_translate P.pts false v

/-- the translate of a record is what `move` produces, up to the recomputed plane (`Canon` receivers:
    exactly) -/
theorem Polygon.move_eq_translate (P : Polygon) (hc : P.Canon) (v : V3) : (P.move v).1 = P.translate v := by
  obtain ⟨p0, p1, p2, rest, hp, hn, hpl, hce⟩ := hc
  rw [Polygon.move_eq P p0 p1 p2 rest hp hn v]
  simp only [Polygon.translate, hpl, planeOf3, hce]

/-- PARTIAL `move_returned_eq_receiver` for polygons: when the vertex cycle has no repeated vertex
    (`dedupV P.pts = P.pts`) the returned polygon has the receiver's plane and centre and its vertices are
    among the receiver's.  Missing for full equality: that re-sorting an already sorted cycle returns the
    same list (`Q.pts = (P.move v).1.pts`), i.e. a theory of `angInsert` as a sort. -/
theorem Polygon.move_returned_partial (P : Polygon) (hg : P.Good) (hnd : dedupV P.pts = P.pts) (v : V3)
    (Q : Polygon) (h : (P.move v).2 = .ok Q) :
    Q.plane = (P.move v).1.plane ∧ Q.center = (P.move v).1.center ∧ ∀ q ∈ Q.pts, q ∈ (P.move v).1.pts := by
  rw [Polygon.move_snd P hg v] at h
  have hd : dedupV (P.move v).1.pts = (P.move v).1.pts := by rw [Polygon.move_pts, dedupV_map (add_injective v), hnd]
  have hsub := (Polygon.mk?_ok _ false Q h).2.2.1
  -- the constructor and `move` compute plane and centre from the same duplicate-free cycle
  obtain ⟨m0, m1, m2, r, hm, _, hpl, hce⟩ := Polygon.move_canon P hg v
  obtain ⟨_, q0, q1, q2, r', hq, _, _, n, hn, _, rfl⟩ := (Polygon.mk?_ok_iff _ false Q).mp h
  rw [hd, hm] at hq
  cases hq
  exact ⟨by rw [hpl, hn]; rfl, by rw [hce, hd], hsub⟩

theorem liftC2_ok_iff {α : Type} (x : Except CErr α) (a : α) : liftC2 x = .ok a ↔ x = .ok a := by
  cases x with
  | error e => exact ⟨fun h => (nomatch h), fun h => (nomatch h)⟩
  | ok b => exact ⟨fun h => by cases h; rfl, fun h => by cases h; rfl⟩

theorem moveFace_ok_iff (c : V3) (f : Polygon) (r : Polygon × V3) :
    moveFace c f = .ok r ↔ ¬ dot (sub f.plane.p c) f.plane.n < 0 ∧ ¬ f.plane.contains c = true ∧ (f, c) = r := by
  unfold moveFace
  by_cases h : dot (sub f.plane.p c) f.plane.n < 0
  · rw [if_pos h]
    exact ⟨fun h' => (by split at h' <;> cases h'), fun h' => absurd h h'.1⟩
  · rw [if_neg h, ite_error_ok_iff, Except.ok.injEq]
    exact ⟨fun h' => ⟨h, h'⟩, fun h' => h'.2⟩

/-- a face that passes the loop of `move` is left alone by the loop of the constructor -/
theorem orientFace_of_not_flip (c : V3) (f : Polygon) (h1 : ¬ dot (sub f.plane.p c) f.plane.n < 0)
    (h2 : ¬ f.plane.contains c = true) : orientFace c f = .ok (f, (f, c)) := by
  unfold orientFace
  simp only [if_neg h1, if_neg h2, bind, Except.bind, pure, Except.pure]

/-- the fresh `ConvexPolyhedron(self.convex_polygons)` at the end of `move`: on faces that passed the loop of `move`
    it runs the same checks again and stores exactly what `move` stored -/
theorem Polyhedron.mk?_of_passed (faces : List Polygon) (edges : List Seg) (he : collectEdges faces [] = .ok edges)
    (hv : collectVerts faces ≠ [])
    (hpass : ∀ f ∈ faces, ¬ dot (sub f.plane.p (meanV (collectVerts faces))) f.plane.n < 0 ∧
      ¬ f.plane.contains (meanV (collectVerts faces)) = true)
    (heul : ((collectVerts faces).length : Int) - edges.length + faces.length = 2) :
    Polyhedron.mk? faces = .ok ⟨faces, collectVerts faces, edges,
      faces.map (fun f => (f, meanV (collectVerts faces))), meanV (collectVerts faces)⟩ := by
  have horient := mapM_ok_of_forall _ (fun f => (f, (f, meanV (collectVerts faces)))) faces
    (fun f hf => orientFace_of_not_flip _ f (hpass f hf).1 (hpass f hf).2)
  unfold Polyhedron.mk?
  simp only [bind_ok_iff, ite_error_ok_iff, he, horient, pure, Except.pure, Except.ok.injEq, exists_eq_left',
    List.map_map, Function.comp_def, List.map_id', List.length_eq_zero_iff, Bool.not_eq_true', Bool.not_eq_false,
    List.all_eq_true, decide_eq_true_eq, bne_iff_ne, ne_eq, not_not]
  exact ⟨hv, fun f hf => not_lt.mp (hpass f hf).1, heul, trivial⟩

/-- a non-raising `ConvexPolyhedron.move`, read backwards and forwards: the stored faces are the polygons RETURNED by
    the face moves, no face needed flipping, every cached field is rebuilt from them, Euler's formula holds in the
    constructor's counting, and the returned polyhedron equals the receiver -/
theorem Polyhedron.move_ok_iff (B : Polyhedron) (v : V3) (B' R : Polyhedron) :
    B.move v = .ok (B', R) ↔ ∃ faces edges,
      List.Forall₂ (fun f f' => (f.move v).2 = .ok f') B.faces faces ∧
      collectEdges faces [] = .ok edges ∧ collectVerts faces ≠ [] ∧
      (∀ f ∈ faces, ¬ dot (sub f.plane.p (meanV (collectVerts faces))) f.plane.n < 0 ∧
        ¬ f.plane.contains (meanV (collectVerts faces)) = true) ∧
      ((collectVerts faces).length : Int) - edges.length + faces.length = 2 ∧
      B' = ⟨faces, collectVerts faces, edges, faces.map (fun f => (f, meanV (collectVerts faces))),
        meanV (collectVerts faces)⟩ ∧ R = B' := by
  unfold Polyhedron.move
  simp only [bind_ok_iff, ite_error_ok_iff, liftC2_ok_iff, pure, Except.pure, Except.ok.injEq, Prod.mk.injEq,
    mapM_ok_iff_forall₂, moveFace_ok_iff, List.forall₂_and_left, forall₂_eq_map_iff, List.length_eq_zero_iff,
    Bool.not_eq_true', Bool.not_eq_false, List.all_eq_true, decide_eq_true_eq, bne_iff_ne, ne_eq, not_not]
  constructor
  · rintro ⟨faces, hf, edges, he, hv, _, ⟨hnf, hnc, rfl⟩, _, heul, R', hmk, rfl, rfl⟩
    have hpass := fun f hf => And.intro (hnf f hf) (hnc f hf)
    rw [Polyhedron.mk?_of_passed faces edges he hv hpass heul] at hmk
    exact ⟨faces, edges, hf, he, hv, hpass, heul, rfl, (Except.ok.inj hmk).symm⟩
  · rintro ⟨faces, edges, hf, he, hv, hpass, heul, rfl, rfl⟩
    exact ⟨faces, hf, edges, he, hv, _, ⟨fun f hf => (hpass f hf).1, fun f hf => (hpass f hf).2, rfl⟩,
      fun f hf => not_lt.mp (hpass f hf).1, heul, _, Polyhedron.mk?_of_passed faces edges he hv hpass heul, rfl, rfl⟩

/-- `move` returns an object equal to the receiver (as for every other type) -/
theorem Polyhedron.move_returned_eq_receiver (B : Polyhedron) (v : V3) (B' R : Polyhedron)
    (h : B.move v = .ok (B', R)) : R = B' := by
  obtain ⟨_, _, _, _, _, _, _, _, hR⟩ := (Polyhedron.move_ok_iff B v B' R).mp h
  exact hR

/-- each stored face after the move is the translate of the face rebuilt from its own vertex cycle -/
theorem Polyhedron.move_faces (B : Polyhedron) (hg : ∀ f ∈ B.faces, f.Good) (v : V3) (B' R : Polyhedron)
    (h : B.move v = .ok (B', R)) :
    List.Forall₂ (fun f f' => (Polygon.mk? f.pts).map (fun Q => Q.translate v) = .ok f') B.faces B'.faces := by
  obtain ⟨faces, _, hf, _, _, _, _, rfl, _⟩ := (Polyhedron.move_ok_iff B v B' R).mp h
  exact ((List.forall₂_and_left _ _).mpr ⟨hg, hf⟩).imp
    fun f f' ⟨hgf, hf⟩ => by rw [← Polygon.move_returned f hgf v]; exact hf

#print axioms Line.moves_fold
#print axioms Plane.moves_fold
#print axioms HalfLine.moves_fold
#print axioms HalfLine.move_back
#print axioms Seg.moves_fold_eq
#print axioms InHull_translate
#print axioms Polygon.move_valid
#print axioms Polygon.move_den
#print axioms Polygon.move_back
#print axioms Polygon.moves_fold
#print axioms Polygon.move_contains
#print axioms Polygon.move_areaNum
#print axioms Polygon.move_edgeLenSqs
#print axioms Polygon.mk?_translate
#print axioms Polygon.move_returned
#print axioms Polygon.move_back_rescales
#print axioms rescaleWitness_constructed
#print axioms Polygon.move_returned_partial
#print axioms Polyhedron.move_ok_iff
#print axioms Polyhedron.move_faces
end G3D
