import G3D.Proofs.CtorQueries
import Mathlib.Tactic.Ring
import Mathlib.Tactic.Linarith
import Mathlib.Tactic.FieldSimp

/-! # C06, polygon: area, edge lengths and centre do not depend on the order of the input points nor on the
    orientation of the normal

    `Polygon.areaSq P = areaNum² / (4 n·n)` is the square of the area the library returns (`area = areaNum / (2|n|)`).
    * `Polygon.areaSq_eq_vecArea`: for a `Valid` polygon whose stored centre passes the edge tests (true for the vertex
      mean) `areaSq = |½ Σ pᵢ × pᵢ₊₁|²` — the squared true area, a function of the vertex cycle only.
    * `Polygon.measures_of_same_verts`: two `Valid` polygons on the same vertex SET have the same `areaSq` and the
      same multiset of squared edge lengths.
    * `Polygon.mk?_measures_input_order`: the constructor on two inputs with the same point set (any order, any
      multiplicities, either value of `reverse`).
    * `Polygon.neg?_measures`: `-P`. -/
namespace G3D
open V3

/-- the square of `ConvexPolygon.area()` : `(areaNum / (2·√(n·n)))²` -/
def Polygon.areaSq (P : Polygon) : Rat := P.areaNum ^ 2 / (4 * normSq P.plane.n)

/-- the stored centre passes the edge tests of the stored cycle (so every fan triangle is counted positively) -/
def Polygon.CentreInside (P : Polygon) : Prop :=
  ∀ e ∈ closedPairs P.pts, 0 ≤ orient P.plane.n e.1 e.2 P.center

theorem Polygon.CentreInside.of_mean {P : Polygon} (hv : P.Valid) (hc : P.center = meanV P.pts) :
    P.CentreInside := by
  obtain ⟨p0, p1, p2, rest, hp, hpl, htp⟩ := hv
  unfold Polygon.CentreInside
  rw [hc, hp]; rw [hp] at hpl htp
  exact centroid_passes_tests P.plane.n P.plane.p p0 p1 p2 rest hpl htp

/-- the area numerator is the shoelace value -/
theorem Polygon.areaNum_shoelace (P : Polygon) (hc : P.CentreInside) :
    P.areaNum = dot P.plane.n (vecArea2 P.pts) :=
  fan_abs_eq_shoelace P.plane.n P.center P.pts hc

theorem Meas.normSq_smul (k : Rat) (n : V3) : normSq (smul k n) = k ^ 2 * normSq n := by
  simp only [normSq, dot, smul]; ring

theorem Meas.normSq_neg (n : V3) : normSq (neg n) = normSq n := by
  simp only [normSq, dot, neg]; ring

/-- **the squared area is the squared length of half the vector area** `½ Σ pᵢ × pᵢ₊₁` of the vertex cycle -/
theorem Polygon.areaSq_eq_vecArea (P : Polygon) (hv : P.Valid) (hc : P.CentreInside) :
    P.areaSq = normSq (vecArea2 P.pts) / 4 := by
  have hn : P.plane.n ≠ zero := Polygon.plane_WF P hv
  have hN := (normSq_pos hn).ne'
  unfold Polygon.areaSq
  rw [P.areaNum_shoelace hc]
  -- `A = (n·A / n·n) n`, hence `|A|² = (n·A)² / n·n`
  have h2 : normSq (vecArea2 P.pts) = dot P.plane.n (vecArea2 P.pts) ^ 2 / normSq P.plane.n := by
    conv_lhs => rw [vecArea2_parallel P.plane.n P.plane.p hn P.pts hv.pts_inPlane, Meas.normSq_smul]
    rw [div_pow, sq (normSq P.plane.n), ← div_div, div_mul_cancel₀ _ hN]
  rw [h2, div_div, mul_comm]

/-! ### two valid polygons on the same vertex set -/

/-- two `Valid` polygons on the same vertex set whose normals point the same way: the cycle of the second is a
    rotation of the cycle of the first -/
theorem Meas.cycle_rotation (f g : Polygon) (hf : f.Valid) (hg : g.Valid) (hmem : ∀ p, p ∈ g.pts ↔ p ∈ f.pts)
    {k : Rat} (hk : 0 < k) (hn : g.plane.n = smul k f.plane.n) :
    List.Perm (closedPairs g.pts) (closedPairs f.pts) := by
  obtain ⟨p0, p1, p2, rest, hp, _, htp⟩ := hf
  obtain ⟨q0, q1, q2, qrest, hq, _, htpg⟩ := hg
  rw [hn, triplesPos_smul_pos k hk] at htpg
  obtain ⟨l1, l2, e1, e2⟩ := cycle_unique f.plane.n f.pts g.pts (by rw [hp]; exact Nat.le_add_left 3 _)
    (by rw [hq]; exact Nat.le_add_left 3 _) htp htpg hmem
  rw [e1, e2]; exact closedPairs_rotate l2 l1

/-- two `Valid` polygons on the same vertex set: the normals are parallel, and the cycle of the second is a rotation
    of the cycle of the first (normals pointing the same way) or of its reverse (opposite normals) -/
theorem Meas.cycle_cases (f g : Polygon) (hf : f.Valid) (hg : g.Valid) (hmem : ∀ p, p ∈ g.pts ↔ p ∈ f.pts) :
    ∃ k : Rat, k ≠ 0 ∧ g.plane.n = smul k f.plane.n ∧
      ((0 < k ∧ List.Perm (closedPairs g.pts) (closedPairs f.pts)) ∨
       (k < 0 ∧ List.Perm (closedPairs g.pts) ((closedPairs f.pts).map Prod.swap))) := by
  obtain ⟨k, hk0, hn⟩ := normal_parallel f g hf hg (fun p hp => (hmem p).mpr hp)
  refine ⟨k, hk0, hn, ?_⟩
  rcases lt_or_gt_of_ne hk0 with hneg | hpos
  · -- `-g` carries the reversed cycle of `g`, and its normal points the way of that of `f`
    obtain ⟨Q, a, r, hgp, _, hvQ, hQp, _, _, t, ht, hQn⟩ := Polygon.neg?_of_valid g hg
    have h1 := Meas.cycle_rotation f Q hf hvQ (fun p => by rw [← hmem p, hQp, hgp, List.mem_cons, List.mem_cons, List.mem_reverse])
      (neg_pos.mpr (mul_neg_of_pos_of_neg ht hneg))
      (by rw [hQn, hn]; apply V3.ext' <;> simp only [smul, neg] <;> ring)
    have h2 : List.Perm (closedPairs Q.pts) ((closedPairs g.pts).map Prod.swap) := by
      rw [hQp, hgp]; exact closedPairs_cons_reverse a r
    have h3 := (h2.symm.trans h1).map Prod.swap
    rw [List.map_map, Prod.swap_swap_eq, List.map_id] at h3
    exact Or.inr ⟨hneg, h3⟩
  · exact Or.inl ⟨hpos, Meas.cycle_rotation f g hf hg hmem hpos hn⟩

/-- the vector area of the second is `±` that of the first -/
theorem Meas.vecArea2_cases (f g : Polygon) (hf : f.Valid) (hg : g.Valid) (hmem : ∀ p, p ∈ g.pts ↔ p ∈ f.pts) :
    ∃ k : Rat, k ≠ 0 ∧ g.plane.n = smul k f.plane.n ∧
      ((0 < k ∧ vecArea2 g.pts = vecArea2 f.pts) ∨ (k < 0 ∧ vecArea2 g.pts = neg (vecArea2 f.pts))) := by
  obtain ⟨k, hk0, hn, h⟩ := Meas.cycle_cases f g hf hg hmem
  refine ⟨k, hk0, hn, ?_⟩
  rcases h with ⟨hk, hp⟩ | ⟨hk, hp⟩
  · exact Or.inl ⟨hk, vecArea2_of_perm hp⟩
  · exact Or.inr ⟨hk, vecArea2_of_perm_swap hp⟩

/-- **C06, polygon: the measures depend on the vertex set only.**  Two `Valid` polygons on the same vertex set
    (whatever the starting vertex, the sense of rotation, the length and the sign of the stored normals), each with a
    stored centre inside: same squared area, same multiset of squared edge lengths. -/
theorem Polygon.measures_of_same_verts (f g : Polygon) (hf : f.Valid) (hg : g.Valid)
    (hcf : f.CentreInside) (hcg : g.CentreInside) (hmem : ∀ p, p ∈ g.pts ↔ p ∈ f.pts) :
    g.areaSq = f.areaSq ∧ List.Perm g.edgeLenSqs f.edgeLenSqs := by
  rw [g.areaSq_eq_vecArea hg hcg, f.areaSq_eq_vecArea hf hcf]
  unfold Polygon.edgeLenSqs
  obtain ⟨k, _, _, ⟨_, h⟩ | ⟨_, h⟩⟩ := Meas.cycle_cases f g hf hg hmem
  · exact ⟨by rw [vecArea2_of_perm h], h.map _⟩
  · refine ⟨by rw [vecArea2_of_perm_swap h, Meas.normSq_neg], (h.map _).trans ?_⟩
    rw [List.map_map]
    exact List.Perm.of_eq (List.map_congr_left fun e _ => normSq_sub_comm _ _)

/-- the same without the squares: the area numerator scales with the length of the normal,
    `areaNum g = |k| · areaNum f` and `n_g·n_g = k² · n_f·n_f` for `n_g = k·n_f` -/
theorem Polygon.areaNum_of_same_verts (f g : Polygon) (hf : f.Valid) (hg : g.Valid)
    (hcf : f.CentreInside) (hcg : g.CentreInside) (hmem : ∀ p, p ∈ g.pts ↔ p ∈ f.pts) :
    ∃ k : Rat, k ≠ 0 ∧ g.plane.n = smul k f.plane.n ∧ g.areaNum = absQ k * f.areaNum ∧
      normSq g.plane.n = k ^ 2 * normSq f.plane.n := by
  obtain ⟨k, hk0, hn, h⟩ := Meas.vecArea2_cases f g hf hg hmem
  refine ⟨k, hk0, hn, ?_, by rw [hn, Meas.normSq_smul]⟩
  rw [g.areaNum_shoelace hcg, f.areaNum_shoelace hcf, hn]
  rcases h with ⟨hk, h⟩ | ⟨hk, h⟩
  · rw [h, Meas.absQ_of_nonneg hk.le, dot_comm, Meas.dot_smul_right]
  · rw [h, Meas.absQ_eq_abs, abs_of_neg hk, dot_comm, Meas.dot_smul_right]; simp only [dot, neg]; ring

/-! ### the constructor: order and multiplicity of the input points, `reverse` -/

theorem Meas.dedupV_perm_of_same_set (i1 i2 : List V3) (hset : ∀ p, p ∈ i1 ↔ p ∈ i2) :
    List.Perm (dedupV i1) (dedupV i2) := by
  rw [List.perm_ext_iff_of_nodup (dedupV_nodup i1) (dedupV_nodup i2)]
  intro p
  rw [dedupV_mem_iff, dedupV_mem_iff]; exact hset p

/-- what the constructor returns on points in strictly convex position, as far as the measures are concerned -/
theorem Polygon.mk?_measure_facts (input : List V3) (rev : Bool) (P : Polygon)
    (h : Polygon.mk? input rev = .ok P) (hx : StrictConvexPos (dedupV input)) :
    P.Valid ∧ P.CentreInside ∧ List.Perm P.pts (dedupV input) ∧ P.center = meanV (dedupV input) ∧
      P.center = meanV P.pts := by
  obtain ⟨hv, hperm, _⟩ := Polygon.mk?_valid_of_strictConvex input rev P h hx
  obtain ⟨_, _, _, _, hc⟩ := Polygon.mk?_ok input rev P h
  have hc' : P.center = meanV P.pts := by rw [hc]; exact (meanV_perm hperm).symm
  exact ⟨hv, Polygon.CentreInside.of_mean hv hc', hperm, hc, hc'⟩

/-- **C06, polygon, order of the vertices.**  `i1`, `i2`: two point lists with the same point SET (any order, any
    multiplicities) whose distinct points are in strictly convex position (coplanarity is checked by the
    constructor); `rev1`, `rev2`: any values of `reverse`.  Whenever both constructor calls succeed, the two
    polygons have the same squared area, the same multiset of squared edge lengths and the same centre. -/
theorem Polygon.mk?_measures_input_order (i1 i2 : List V3) (rev1 rev2 : Bool) (P1 P2 : Polygon)
    (hset : ∀ p, p ∈ i1 ↔ p ∈ i2) (hx : StrictConvexPos (dedupV i1))
    (h1 : Polygon.mk? i1 rev1 = .ok P1) (h2 : Polygon.mk? i2 rev2 = .ok P2) :
    P1.areaSq = P2.areaSq ∧ List.Perm P1.edgeLenSqs P2.edgeLenSqs ∧ P1.center = P2.center ∧
      (∀ p, p ∈ P1.pts ↔ p ∈ P2.pts) := by
  have hdp := Meas.dedupV_perm_of_same_set i1 i2 hset
  have hx2 : StrictConvexPos (dedupV i2) := hx.perm hdp.symm
  obtain ⟨hv1, hci1, hp1, hc1, _⟩ := Polygon.mk?_measure_facts i1 rev1 P1 h1 hx
  obtain ⟨hv2, hci2, hp2, hc2, _⟩ := Polygon.mk?_measure_facts i2 rev2 P2 h2 hx2
  have hmem : ∀ p, p ∈ P1.pts ↔ p ∈ P2.pts := by
    intro p; rw [hp1.mem_iff, hp2.mem_iff, hdp.mem_iff]
  obtain ⟨ha, he⟩ := Polygon.measures_of_same_verts P2 P1 hv2 hv1 hci2 hci1 hmem
  exact ⟨ha, he, by rw [hc1, hc2]; exact meanV_perm hdp, hmem⟩
#print axioms Polygon.mk?_measures_input_order

/-- the area of a constructed polygon is the true one: `areaSq = |½ Σ pᵢ × pᵢ₊₁|²` over the stored cycle -/
theorem Polygon.mk?_areaSq (input : List V3) (rev : Bool) (P : Polygon)
    (h : Polygon.mk? input rev = .ok P) (hx : StrictConvexPos (dedupV input)) :
    P.areaSq = normSq (vecArea2 P.pts) / 4 := by
  obtain ⟨hv, hci, _⟩ := Polygon.mk?_measure_facts input rev P h hx
  exact P.areaSq_eq_vecArea hv hci

/-! ### `-P` -/
/-- **`-polygon`** has the area, the edge lengths and (for a polygon storing its vertex mean) the centre of `P` -/
theorem Polygon.neg?_measures (P : Polygon) (hv : P.Valid) (hc : P.CentreInside) (Q : Polygon)
    (h : P.neg? = .ok Q) :
    Q.Valid ∧ Q.CentreInside ∧ Q.areaSq = P.areaSq ∧ List.Perm Q.edgeLenSqs P.edgeLenSqs ∧
      Q.center = meanV P.pts ∧ (∀ p, p ∈ Q.pts ↔ p ∈ P.pts) := by
  obtain ⟨Q', q0, rest, hp, hQ, hvQ, hQp, _, hQc, _⟩ := Polygon.neg?_of_valid P hv
  rw [h] at hQ; cases hQ
  have hperm : List.Perm Q.pts P.pts := by
    rw [hQp, hp]; exact List.Perm.cons _ (List.reverse_perm _)
  have hmem : ∀ p, p ∈ Q.pts ↔ p ∈ P.pts := fun _ => hperm.mem_iff
  have hcQ : Q.CentreInside := Polygon.CentreInside.of_mean hvQ (by rw [hQc]; exact (meanV_perm hperm).symm)
  obtain ⟨ha, he⟩ := Polygon.measures_of_same_verts P Q hv hvQ hc hcQ hmem
  exact ⟨hvQ, hcQ, ha, he, hQc, hmem⟩
#print axioms Polygon.neg?_measures

#print axioms Polygon.areaSq_eq_vecArea
#print axioms Polygon.measures_of_same_verts
#print axioms Polygon.areaNum_of_same_verts
end G3D
