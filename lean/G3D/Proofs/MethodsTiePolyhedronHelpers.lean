import G3D.Extracted.Mpolyhedron
import G3D.Proofs.MethodsTiePolyhedronShared
/-! # Tie, group `mpolyhedron`: `_get_center_point`, `_check_normal`, `_euler_check` (C09).  Own module because BOTH `__init__` (`MethodsTiePolyhedronCtor`) and `move` (`MethodsTiePolyhedronMove`) call these three methods: that coupling is real. -/
set_option linter.style.nameCheck false
namespace G3D.Tie
open V3 PyRt Extracted

theorem m_ConvexPolyhedron__get_center_point_eq (self : Self) (vs : List V3) (h : self.f_point_set = some (Val.ptSet vs)) :
    m_ConvexPolyhedron__get_center_point self =
      if vs = [] then .error (.ctor .zeroDiv) else .ok (.obj (ptObj (meanV vs))) := by
  unfold m_ConvexPolyhedron__get_center_point
  simp only [h, pyrt, Val.ptSet, List.map_map, List.length_map]
  rw [centerLoop_eq vs _ (fun p o => by cases o <;> simp [pyrt, ctrRepr, ctrAdd, add])]
  cases vs with
  | nil => simp [pyrt, ctrRepr]
  | cons p ps =>
    have hn : ((ps.length : Rat) + 1) ≠ 0 := by positivity
    simp [pyrt, ctrRepr, hn, meanV, sumV, zero_add', smul]
    refine ⟨?_, ?_, ?_⟩ <;> ring

theorem m_ConvexPolyhedron__check_normal_eq (self : Self) (fs : List Polygon) (c : V3)
    (h1 : self.f_convex_polygons = some (.seq (fs.map Obj.polygon))) (h2 : self.f_center_point = some (.obj (ptObj c))) :
    m_ConvexPolyhedron__check_normal self = .ok (.bool (fs.all (outward c))) := by
  unfold m_ConvexPolyhedron__check_normal
  simp only [h1, h2, pyrt, List.map_map]
  rw [forIn_repr (Val.obj ∘ Obj.polygon) (fun s : Option Val × Unit => s) fs _
    (fun f _ => if outward c f = true then .ok (.yield (none, ())) else .ok (.done (some (Val.bool false), ())))]
  · rw [forIn_return fs (fun f => outward c f = true)]
    simp only [Bool.decide_eq_true]
    cases fs.all (outward c) <;> rfl
  · intro f _ s
    simp [pyrt, outward, ForInStep.map', ← not_lt]

theorem m_ConvexPolyhedron__euler_check_eq (self : Self) (fs vs es : List Obj)
    (h1 : self.f_convex_polygons = some (.seq fs)) (h2 : self.f_point_set = some (.set vs)) (h3 : self.f_segment_set = some (.set es)) :
    m_ConvexPolyhedron__euler_check self = .ok (.bool ((vs.length : Int) - es.length + fs.length == 2)) := by
  unfold m_ConvexPolyhedron__euler_check
  simp [h1, h2, h3, pyrt]

/-- `_get_center_point()`, `_check_normal()`, `_euler_check()` on a polyhedron object -/
theorem m_ConvexPolyhedron__get_center_point_eq' (B : Polyhedron) :
    m_ConvexPolyhedron__get_center_point (Self.ofPolyhedron B) =
      if B.verts = [] then .error (.ctor .zeroDiv) else .ok (.obj (ptObj (meanV B.verts))) :=
  m_ConvexPolyhedron__get_center_point_eq _ B.verts rfl

theorem m_ConvexPolyhedron__check_normal_eq' (B : Polyhedron) :
    m_ConvexPolyhedron__check_normal (Self.ofPolyhedron B) = .ok (.bool (B.faces.all (outward B.center))) :=
  m_ConvexPolyhedron__check_normal_eq _ B.faces B.center rfl rfl

theorem m_ConvexPolyhedron__euler_check_eq' (B : Polyhedron) :
    m_ConvexPolyhedron__euler_check (Self.ofPolyhedron B) =
      .ok (.bool ((B.verts.length : Int) - B.edges.length + B.faces.length == 2)) := by
  have := m_ConvexPolyhedron__euler_check_eq (Self.ofPolyhedron B) (B.faces.map Obj.polygon) (B.verts.map ptObj) (B.edges.map sgObj)
    rfl rfl rfl
  simpa using this

end G3D.Tie
