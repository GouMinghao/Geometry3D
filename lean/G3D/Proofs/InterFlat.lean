import G3D.Model.InterFlat
import G3D.Proofs.Flat
import G3D.Proofs.Solver2

namespace G3D
open V3

/-! ### denotation of results -/
def Geo.den : Geo → V3 → Prop
  | .point p => fun x => x = p
  | .line l => l.den
  | .plane pl => pl.den
  | .seg s => s.den
  | .halfline h => h.den

def Geo.WF : Geo → Prop
  | .point _ => True
  | .line l => l.WF
  | .plane pl => pl.WF
  | .seg s => s.WF
  | .halfline h => h.WF

def denOpt : Option Geo → V3 → Prop
  | none => fun _ => False
  | some g => g.den

/-- `r` is a well-formed object denoting exactly `A ∩ B` (or `None` when that is empty) -/
def Exact (r : Res) (A B : V3 → Prop) : Prop :=
  ∃ o, r = .ok o ∧ (∀ g, o = some g → g.WF) ∧ ∀ x, denOpt o x ↔ (A x ∧ B x)

theorem Exact.mk_none {A B : V3 → Prop} (h : ∀ x, ¬ (A x ∧ B x)) : Exact (.ok none) A B :=
  ⟨none, rfl, (fun g hg => by cases hg), fun x => by simp only [denOpt, false_iff]; exact h x⟩

theorem Exact.mk_some {A B : V3 → Prop} (g : Geo) (hw : g.WF) (h : ∀ x, g.den x ↔ (A x ∧ B x)) :
    Exact (.ok (some g)) A B :=
  ⟨some g, rfl, (fun g' hg => by cases hg; exact hw), fun x => by simpa only [denOpt] using h x⟩

/-! ### vector facts -/
theorem parallel_smul (k : Rat) (v : V3) : V3.parallel (smul k v) v = true := by
  rw [parallel_iff_cross]; apply V3.ext' <;> simp [cross, smul, zero] <;> ring

theorem smul_ne_zero_left {k : Rat} {v : V3} (h : smul k v ≠ zero) : k ≠ 0 := by
  rintro rfl; apply h; apply V3.ext' <;> simp [smul, zero]

theorem eq_smul_of_smul_eq {c c' : Rat} {u v : V3} (hc : c ≠ 0) (h : smul c u = smul c' v) :
    u = smul (c' / c) v := by
  have hx := congrArg V3.x h; have hy := congrArg V3.y h; have hz := congrArg V3.z h
  simp only [smul] at hx hy hz
  apply V3.ext' <;> simp only [smul] <;> rw [div_mul_eq_mul_div, eq_div_iff hc] <;> linarith

theorem smul_zero_left (v : V3) : smul 0 v = zero := by apply V3.ext' <;> simp [smul, zero]

theorem smul_eq_zero_of_ne {k : Rat} {v : V3} (hk : k ≠ 0) (h : smul k v = zero) : v = zero := by
  rw [eq_smul_of_smul_eq hk (h.trans (smul_zero_left v).symm), zero_div, smul_zero_left]

def pt (o d : V3) (t : Rat) : V3 := add o (smul t d)

theorem pt_at_zero (o d : V3) : pt o d 0 = o := by apply V3.ext' <;> simp [pt, add, smul]
theorem pt_at_one (o d : V3) : pt o d 1 = add o d := by apply V3.ext' <;> simp [pt, add, smul]

theorem pt_sub_pt (o d : V3) (s t : Rat) : sub (pt o d s) (pt o d t) = smul (s - t) d := by
  apply V3.ext' <;> simp only [pt, sub, add, smul] <;> ring

theorem pt_pt (o d : V3) (s k t : Rat) : pt (pt o d s) (smul k d) t = pt o d (s + t * k) := by
  apply V3.ext' <;> simp only [pt, add, smul] <;> ring

theorem pt_inj {o d : V3} (hd : d ≠ zero) {t t' : Rat} (h : pt o d t = pt o d t') : t = t' := by
  by_contra hne
  have := pt_sub_pt o d t t'
  rw [h, sub_eq_zero_iff.mpr rfl] at this
  exact hd (smul_eq_zero_of_ne (sub_ne_zero.mpr hne) this.symm)

theorem den_pt_smul (l : Line) {s k : Rat} (hk : k ≠ 0) (x : V3) :
    (⟨pt l.sv l.dv s, smul k l.dv⟩ : Line).den x ↔ l.den x := by
  show (∃ t, x = pt (pt l.sv l.dv s) (smul k l.dv) t) ↔ ∃ t, x = pt l.sv l.dv t
  simp only [pt_pt]
  constructor
  · rintro ⟨t, rfl⟩; exact ⟨_, rfl⟩
  · rintro ⟨t, rfl⟩; exact ⟨(t - s) / k, by rw [div_mul_cancel₀ _ hk, add_sub_cancel]⟩

/-- the two tests of `Line.__eq__`, in parameter form -/
theorem eqv_params (l m : Line) (hl : l.WF) (h : l.eqv m = true) :
    ∃ s k : Rat, m.sv = pt l.sv l.dv s ∧ m.dv = smul k l.dv := by
  rw [Line.eqv, Bool.and_eq_true, Line.contains_iff l hl, parallel_iff_cross] at h
  obtain ⟨⟨s, hs⟩, hc⟩ := h
  exact ⟨s, _, hs, eq_smul_of_cross_eq_zero hl hc⟩

/-- `Line.__eq__` decides equality of the denoted lines -/
theorem Line.eqv_iff (l o : Line) (hl : l.WF) (ho : o.WF) :
    l.eqv o = true ↔ ∀ x, l.den x ↔ o.den x := by
  constructor
  · intro h x
    obtain ⟨s, k, hs, hk⟩ := eqv_params l o hl h
    have hk0 : k ≠ 0 := smul_ne_zero_left (by rw [← hk]; exact ho)
    obtain ⟨sv, dv⟩ := o
    subst hs hk
    exact (den_pt_smul l hk0 x).symm
  · intro h
    obtain ⟨t0, ht0⟩ := (h o.sv).mpr ⟨0, (pt_at_zero ..).symm⟩
    obtain ⟨t1, ht1⟩ := (h (add o.sv o.dv)).mpr ⟨1, (pt_at_one ..).symm⟩
    rw [Line.eqv, Bool.and_eq_true, Line.contains_iff l hl]
    refine ⟨⟨t0, ht0⟩, ?_⟩
    have : o.dv = smul (t1 - t0) l.dv := by
      rw [← pt_sub_pt l.sv, pt, pt, ← ht1, ← ht0]
      apply V3.ext' <;> simp [sub, add]
    rw [this]; exact parallel_smul _ _

/-! ### point × X -/
theorem interPointPoint_exact (p q : V3) : Exact (interPointPoint p q) (· = p) (· = q) := by
  unfold interPointPoint
  by_cases h : p = q
  · subst h
    rw [if_pos rfl]
    exact Exact.mk_some _ trivial (fun x => by simp [Geo.den])
  · rw [if_neg h]
    exact Exact.mk_none (fun x ⟨h1, h2⟩ => h (h1.symm.trans h2))

theorem interPoint_exact_of_mem (p : V3) (c : Bool) (B : V3 → Prop) (hc : c = true ↔ B p) :
    Exact (.ok (if c then some (.point p) else none)) (· = p) B := by
  by_cases h : c = true
  · rw [if_pos h]
    refine Exact.mk_some _ trivial (fun x => ?_)
    simp only [Geo.den]
    constructor
    · rintro rfl; exact ⟨rfl, hc.mp h⟩
    · exact fun hx => hx.1
  · rw [if_neg h]
    refine Exact.mk_none (fun x => ?_)
    rintro ⟨rfl, h2⟩; exact h (hc.mpr h2)

theorem interPointLine_exact (p : V3) (l : Line) (hl : l.WF) : Exact (interPointLine p l) (· = p) l.den :=
  interPoint_exact_of_mem p _ _ (Line.contains_iff l hl p)
theorem interPointPlane_exact (p : V3) (pl : Plane) : Exact (interPointPlane p pl) (· = p) pl.den :=
  interPoint_exact_of_mem p _ _ (Plane.contains_iff pl p)
theorem interPointSeg_exact (p : V3) (s : Seg) (hs : s.WF) : Exact (interPointSeg p s) (· = p) s.den :=
  interPoint_exact_of_mem p _ _ (Seg.contains_iff s hs p)
theorem interPointHalfLine_exact (p : V3) (h : HalfLine) (hh : h.WF) :
    Exact (interPointHalfLine p h) (· = p) h.den :=
  interPoint_exact_of_mem p _ _ (HalfLine.contains_iff h hh p)

/-! ### line × plane -/
theorem orthogonal_iff_dot (u v : V3) : V3.orthogonal u v = true ↔ dot v u = 0 := by
  rw [V3.orthogonal, beq_iff_eq, show dot u v = dot v u by simp only [dot]; ring]

theorem Plane.den_pt_iff (pl : Plane) (q v : V3) (t : Rat) :
    pl.den (pt q v t) ↔ dot pl.n (sub q pl.p) + t * dot pl.n v = 0 := by
  rw [Plane.den, show dot pl.n (sub (pt q v t) pl.p) = dot pl.n (sub q pl.p) + t * dot pl.n v by
    simp only [pt, dot, sub, add, smul]; ring]

theorem Plane.den_pt (pl : Plane) {q v : V3} (hq : pl.den q) (hv : dot pl.n v = 0) (t : Rat) : pl.den (pt q v t) := by
  rw [pl.den_pt_iff, show dot pl.n (sub q pl.p) = 0 from hq, hv, mul_zero, add_zero]

theorem Plane.containsLine_iff (pl : Plane) (l : Line) :
    pl.containsLine l = true ↔ ∀ x, l.den x → pl.den x := by
  rw [Plane.containsLine, Bool.and_eq_true, Plane.contains_iff, orthogonal_iff_dot]
  constructor
  · rintro ⟨h1, h2⟩ x ⟨t, rfl⟩; exact pl.den_pt h1 h2 t
  · intro h
    have h0 := (pl.den_pt_iff l.sv l.dv 0).mp (h _ ⟨0, rfl⟩)
    have h1 := (pl.den_pt_iff l.sv l.dv 1).mp (h _ ⟨1, rfl⟩)
    exact ⟨show dot pl.n (sub l.sv pl.p) = 0 by linarith, by linarith⟩

theorem interLinePlane_exact (l : Line) (p : Plane) (hl : l.WF) :
    Exact (interLinePlane l p) l.den p.den := by
  unfold interLinePlane
  by_cases hc : p.containsLine l = true
  · rw [if_pos hc]
    exact Exact.mk_some (.line l) hl fun x => ⟨fun hx => ⟨hx, (Plane.containsLine_iff p l).mp hc x hx⟩, fun hx => hx.1⟩
  · rw [if_neg hc]
    have hmeet : ∀ x, l.den x ∧ p.den x ↔
        ∃ t, x = pt l.sv l.dv t ∧ dot p.n (sub l.sv p.p) + t * dot p.n l.dv = 0 := fun x => by
      constructor
      · rintro ⟨⟨t, rfl⟩, hx⟩; exact ⟨t, rfl, (p.den_pt_iff ..).mp hx⟩
      · rintro ⟨t, rfl, h⟩; exact ⟨⟨t, rfl⟩, (p.den_pt_iff ..).mpr h⟩
    by_cases ho : V3.orthogonal l.dv p.n = true
    · rw [if_pos ho]
      refine Exact.mk_none fun x hx => ?_
      obtain ⟨t, -, h⟩ := (hmeet x).mp hx
      rw [orthogonal_iff_dot] at ho
      rw [ho, mul_zero, add_zero] at h
      exact hc (by rw [Plane.containsLine, Bool.and_eq_true, Plane.contains_iff, orthogonal_iff_dot]; exact ⟨h, ho⟩)
    · rw [if_neg ho]
      have hd : dot p.n l.dv ≠ 0 := fun h => ho ((orthogonal_iff_dot ..).mpr h)
      -- the equation has the one solution that the handler computes
      have key : ∀ t, dot p.n (sub l.sv p.p) + t * dot p.n l.dv = 0 ↔
          t = (dot p.n p.p - dot p.n l.sv) / dot p.n l.dv := fun t => by
        rw [eq_div_iff hd, show dot p.n (sub l.sv p.p) = dot p.n l.sv - dot p.n p.p by simp only [dot, sub]; ring]
        constructor <;> intro h <;> linarith
      refine Exact.mk_some (.point _) trivial fun x => ?_
      simp only [hmeet, key]
      exact ⟨fun h => ⟨_, h, rfl⟩, fun ⟨t, h, ht⟩ => ht ▸ h⟩
#print axioms interLinePlane_exact
#print axioms Line.eqv_iff

theorem interLinePlane_transversal (l : Line) (p : Plane) (hl : l.WF) (ho : ¬ V3.orthogonal l.dv p.n = true) :
    ∃ f, interLinePlane l p = .ok (some (.point f)) ∧ l.den f ∧ p.den f := by
  obtain ⟨o, ho', -, hden⟩ := interLinePlane_exact l p hl
  have hnc : ¬ p.containsLine l = true := fun h => ho (Bool.and_eq_true _ _ ▸ h).2
  unfold interLinePlane at ho' ⊢
  rw [if_neg hnc, if_neg ho] at ho' ⊢
  cases ho'
  exact ⟨_, rfl, (hden _).mp rfl⟩

/-! ### line × line (through the linear solver) -/
open Solver2 in
theorem lineLine_sat_iff (l1 l2 : Line) (lam mu : Rat) :
    Sat (lineLineMatrix l1 l2) [lam, mu] ↔ add l1.sv (smul lam l1.dv) = add l2.sv (smul mu l2.dv) := by
  simp only [Sat, lineLineMatrix, List.mem_cons, List.not_mem_nil, or_false, forall_eq_or_imp, forall_eq,
    rowSat, rowDot, List.cons_append, List.nil_append, List.zipWith_cons_cons, List.zipWith_nil_right,
    List.sum_cons, List.sum_nil]
  constructor
  · rintro ⟨hx, hy, hz⟩
    apply V3.ext' <;> simp only [add, smul]
    exacts [by linear_combination hx, by linear_combination hy, by linear_combination hz]
  · intro h
    have hx := congrArg V3.x h; have hy := congrArg V3.y h; have hz := congrArg V3.z h
    simp only [add, smul] at hx hy hz
    exact ⟨by linear_combination hx, by linear_combination hy, by linear_combination hz⟩

/-- two different parameter pairs of common points force the lines to coincide -/
theorem eqv_of_two_solutions (l1 l2 : Line) (h1 : l1.WF) (a b a' b' : Rat)
    (e : pt l1.sv l1.dv a = pt l2.sv l2.dv b) (e' : pt l1.sv l1.dv a' = pt l2.sv l2.dv b')
    (hne : a ≠ a' ∨ b ≠ b') : l1.eqv l2 = true := by
  -- the difference of the two common points, along either line
  have hD : smul (b - b') l2.dv = smul (a - a') l1.dv := by
    rw [← pt_sub_pt l2.sv l2.dv, ← pt_sub_pt l1.sv l1.dv, e, e']
  have hb : b - b' ≠ 0 := by
    intro hbb
    rw [hbb, smul_zero_left] at hD
    exact h1 (smul_eq_zero_of_ne
      (sub_ne_zero.mpr (hne.resolve_right (not_not.mpr (sub_eq_zero.mp hbb)))) hD.symm)
  have hd2 := eq_smul_of_smul_eq hb hD
  rw [Line.eqv, Bool.and_eq_true, Line.contains_iff l1 h1, hd2]
  refine ⟨⟨a - b * ((a - a') / (b - b')), ?_⟩, parallel_smul _ _⟩
  rw [hd2] at e
  have ex := congrArg V3.x e; have ey := congrArg V3.y e; have ez := congrArg V3.z e
  simp only [pt, add, smul] at ex ey ez
  apply V3.ext' <;> simp only [add, smul]
  exacts [by linear_combination -ex, by linear_combination -ey, by linear_combination -ez]

open Solver2 in
theorem interLineLine_exact (l1 l2 : Line) (h1 : l1.WF) (h2 : l2.WF) :
    Exact (interLineLine l1 l2) l1.den l2.den := by
  unfold interLineLine
  by_cases heq : l1.eqv l2 = true
  · rw [if_pos heq]
    refine Exact.mk_some (.line l1) h1 (fun x => ?_)
    have := (Line.eqv_iff l1 l2 h1 h2).mp heq x
    simp only [Geo.den]; tauto
  · rw [if_neg heq]
    have hu : Uniform (2+1) (lineLineMatrix l1 l2) := by
      intro r hr; simp only [lineLineMatrix, List.mem_cons, List.not_mem_nil, or_false] at hr
      rcases hr with rfl | rfl | rfl <;> rfl
    have hne : lineLineMatrix l1 l2 ≠ [] := by simp [lineLineMatrix]
    simp only
    by_cases hs : solvable (solve (lineLineMatrix l1 l2)) = true
    · rw [hs]; simp only [Bool.not_true, Bool.false_eq_true, if_false]
      -- no free parameter: the values 0 and 1 for the first one would give two different common points
      have hk : varargs 2 (solve (lineLineMatrix l1 l2)) = 0 := by
        by_contra hk
        have hkpos := Nat.pos_of_ne_zero hk
        obtain ⟨xa, hla, -, hsata, ra⟩ := call_values 2 _ hu hne hs (List.replicate _ 0) List.length_replicate
        obtain ⟨xb, hlb, -, hsatb, rb⟩ := call_values 2 _ hu hne hs
          (1 :: List.replicate (varargs 2 (solve (lineLineMatrix l1 l2)) - 1) 0) (by simp; omega)
        have ra0 := ra 0 (by simpa using hkpos)
        have rb0 := rb 0 (by simp)
        obtain ⟨a, b, rfl⟩ := List.length_eq_two.mp hla
        obtain ⟨a', b', rfl⟩ := List.length_eq_two.mp hlb
        refine heq (eqv_of_two_solutions l1 l2 h1 a b a' b' ((lineLine_sat_iff l1 l2 a b).mp hsata)
          ((lineLine_sat_iff l1 l2 a' b').mp hsatb) ?_)
        by_contra hcon
        rw [not_or, not_not, not_not] at hcon
        rw [hcon.1, hcon.2, rb0] at ra0
        simp [List.getD_eq_getElem?_getD, hkpos] at ra0
      obtain ⟨x, hlen, hcall, hsat, -⟩ := call_values 2 _ hu hne hs [] (by simp [hk])
      obtain ⟨lam, mu, rfl⟩ := List.length_eq_two.mp hlen
      rw [hcall]
      have e := (lineLine_sat_iff l1 l2 lam mu).mp hsat
      refine Exact.mk_some (.point _) trivial (fun x => ?_)
      simp only [Geo.den]
      constructor
      · rintro rfl; exact ⟨⟨lam, rfl⟩, ⟨mu, e⟩⟩
      · rintro ⟨⟨a, rfl⟩, ⟨b, hb⟩⟩
        by_contra hx
        exact heq (eqv_of_two_solutions l1 l2 h1 lam mu a b e hb (Or.inl fun hla => hx (hla ▸ rfl)))
    · have hs' : solvable (solve (lineLineMatrix l1 l2)) = false := by simpa using hs
      rw [hs']; simp only [Bool.not_false, if_true]
      refine Exact.mk_none (fun x => ?_)
      rintro ⟨⟨a, rfl⟩, ⟨b, hb⟩⟩
      apply hs
      exact (solvable_iff_consistent 2 _ hu hne).mpr ⟨[a, b], rfl, (lineLine_sat_iff l1 l2 a b).mpr hb⟩
#print axioms interLineLine_exact

/-! ### result shapes (by unfolding the handlers) -/
theorem interLineLine_shape (l1 l2 : Line) (o : Option Geo) (h : interLineLine l1 l2 = .ok o) :
    o = none ∨ (∃ q, o = some (.point q)) ∨ (o = some (.line l1) ∧ l1.eqv l2 = true) := by
  unfold interLineLine at h
  by_cases heq : l1.eqv l2 = true
  · rw [if_pos heq] at h; cases h; exact Or.inr (Or.inr ⟨rfl, heq⟩)
  · rw [if_neg heq] at h
    simp only at h
    split at h
    · cases h; exact Or.inl rfl
    · split at h
      · cases h; exact Or.inr (Or.inl ⟨_, rfl⟩)
      · cases h

theorem interLinePlane_shape (l : Line) (p : Plane) (o : Option Geo) (h : interLinePlane l p = .ok o) :
    o = none ∨ (∃ q, o = some (.point q)) ∨ (o = some (.line l) ∧ p.containsLine l = true) := by
  unfold interLinePlane at h
  by_cases hc : p.containsLine l = true
  · rw [if_pos hc] at h; cases h; exact Or.inr (Or.inr ⟨rfl, hc⟩)
  · rw [if_neg hc] at h
    by_cases ho : V3.orthogonal l.dv p.n = true
    · rw [if_pos ho] at h; cases h; exact Or.inl rfl
    · rw [if_neg ho] at h; cases h; exact Or.inr (Or.inl ⟨_, rfl⟩)

theorem Seg.den_sub_line (s : Seg) (hs : s.WF) (x : V3) (hx : s.den x) : s.line.den x := by
  obtain ⟨t, _, _, rfl⟩ := hx
  rw [hs.2]; exact ⟨t, rfl⟩

theorem HalfLine.den_sub_line (h : HalfLine) (hh : h.WF) (x : V3) (hx : h.den x) : h.line.den x := by
  obtain ⟨t, _, rfl⟩ := hx
  rw [hh.2]; exact ⟨t, rfl⟩

theorem Seg.line_WF (s : Seg) (hs : s.WF) : s.line.WF := by
  rw [hs.2]; exact fun h => hs.1 (sub_eq_zero_iff.mp h).symm

theorem HalfLine.line_WF (h : HalfLine) (hh : h.WF) : h.line.WF := by
  rw [hh.2]; exact hh.1

theorem Exact.symm {r : Res} {A B : V3 → Prop} (h : Exact r A B) : Exact r B A := by
  obtain ⟨o, ho, hw, hd⟩ := h
  exact ⟨o, ho, hw, fun x => by rw [hd x]; tauto⟩

/-- how the handlers for a segment or half-line `S` use the intersection `r` of the other operand (or its carrier
    line) with the carrier line of `S`: nothing stays nothing, a point is tested for membership, the whole carrier
    line gives the whole of `S` -/
def restrictCarrier (r : Res) (c : V3 → Bool) (whole : Geo) : Res :=
  match r with
  | .ok none => .ok none
  | .ok (some (.point q)) => .ok (if c q then some (.point q) else none)
  | .ok (some (.line _)) => .ok (some whole)
  | .ok _ => .error .bug
  | .error e => .error e

/-- `SA`, `S` are parts of the sets `A`, `C` whose intersection `r` is -/
theorem restrictCarrier_exact {A C SA S : V3 → Prop} {r : Res} (hr : Exact r A C)
    (hSA : ∀ x, SA x → A x) (hSC : ∀ x, S x → C x)
    {c : V3 → Bool} (hc : ∀ q, A q → (c q = true ↔ SA q ∧ S q)) {whole : Geo} (hwWF : whole.WF)
    (hshape : ∀ o, r = .ok o → o = none ∨ (∃ q, o = some (.point q)) ∨
      ((∃ l, o = some (.line l)) ∧ ∀ x, whole.den x ↔ SA x ∧ S x)) :
    Exact (restrictCarrier r c whole) SA S := by
  obtain ⟨o, rfl, _, hden⟩ := hr
  have hsub : ∀ x, SA x ∧ S x → denOpt o x := fun x h => (hden x).mpr ⟨hSA x h.1, hSC x h.2⟩
  rcases hshape o rfl with rfl | ⟨q, rfl⟩ | ⟨⟨l, rfl⟩, hwden⟩
  · exact Exact.mk_none hsub
  · have hq : A q ∧ C q := (hden q).mp rfl
    by_cases hcc : c q = true
    · simp only [restrictCarrier, if_pos hcc]
      refine Exact.mk_some (.point q) trivial (fun x => ⟨?_, hsub x⟩)
      rintro rfl; exact (hc _ hq.1).mp hcc
    · simp only [restrictCarrier, if_neg hcc]
      refine Exact.mk_none (fun x h => ?_)
      cases hsub x h; exact hcc ((hc _ hq.1).mpr h)
  · exact Exact.mk_some whole hwWF hwden

theorem interLineLine_shape_den (l m : Line) (hl : l.WF) (hm : m.WF) {S : V3 → Prop} (hS : ∀ x, S x → m.den x)
    (o : Option Geo) (h : interLineLine l m = .ok o) :
    o = none ∨ (∃ q, o = some (.point q)) ∨ ((∃ l', o = some (.line l')) ∧ ∀ x, S x ↔ l.den x ∧ S x) :=
  (interLineLine_shape l m o h).imp_right (Or.imp_right fun ⟨ho, heq⟩ =>
    ⟨⟨l, ho⟩, fun x => ⟨fun hx => ⟨((Line.eqv_iff l m hl hm).mp heq x).mpr (hS x hx), hx⟩, And.right⟩⟩)

theorem interLinePlane_shape_den (l : Line) (p : Plane) {S : V3 → Prop} (hS : ∀ x, S x → l.den x)
    (o : Option Geo) (h : interLinePlane l p = .ok o) :
    o = none ∨ (∃ q, o = some (.point q)) ∨ ((∃ l', o = some (.line l')) ∧ ∀ x, S x ↔ p.den x ∧ S x) :=
  (interLinePlane_shape l p o h).imp_right (Or.imp_right fun ⟨ho, hc⟩ =>
    ⟨⟨l, ho⟩, fun x => ⟨fun hx => ⟨(Plane.containsLine_iff p l).mp hc x (hS x hx), hx⟩, And.right⟩⟩)

theorem interLineSeg_exact (l : Line) (s : Seg) (hl : l.WF) (hs : s.WF) :
    Exact (interLineSeg l s) l.den s.den := by
  have : interLineSeg l s = restrictCarrier (interLineLine l s.line) s.contains (.seg s) := by
    unfold interLineSeg restrictCarrier; generalize interLineLine l s.line = r
    rcases r with _ | _ | _ | _ | _ | _ | _ <;> rfl
  rw [this]
  exact restrictCarrier_exact (interLineLine_exact l s.line hl (s.line_WF hs)) (fun _ h => h) (s.den_sub_line hs)
    (fun q hq => (Seg.contains_iff s hs q).trans (and_iff_right hq).symm) hs
    (interLineLine_shape_den l s.line hl (s.line_WF hs) (s.den_sub_line hs))

theorem interLineHalfLine_exact (l : Line) (h : HalfLine) (hl : l.WF) (hh : h.WF) :
    Exact (interLineHalfLine l h) l.den h.den := by
  have : interLineHalfLine l h = restrictCarrier (interLineLine l h.line) h.contains (.halfline h) := by
    unfold interLineHalfLine restrictCarrier; generalize interLineLine l h.line = r
    rcases r with _ | _ | _ | _ | _ | _ | _ <;> rfl
  rw [this]
  exact restrictCarrier_exact (interLineLine_exact l h.line hl (h.line_WF hh)) (fun _ h => h) (h.den_sub_line hh)
    (fun q hq => (HalfLine.contains_iff h hh q).trans (and_iff_right hq).symm) hh
    (interLineLine_shape_den l h.line hl (h.line_WF hh) (h.den_sub_line hh))

theorem interPlaneSeg_exact (a : Plane) (s : Seg) (hs : s.WF) :
    Exact (interPlaneSeg a s) a.den s.den := by
  have : interPlaneSeg a s = restrictCarrier (interLinePlane s.line a) s.contains (.seg s) := by
    unfold interPlaneSeg restrictCarrier; generalize interLinePlane s.line a = r
    rcases r with _ | _ | _ | _ | _ | _ | _ <;> rfl
  rw [this]
  exact restrictCarrier_exact (interLinePlane_exact s.line a (s.line_WF hs)).symm (fun _ h => h) (s.den_sub_line hs)
    (fun q hq => (Seg.contains_iff s hs q).trans (and_iff_right hq).symm) hs
    (interLinePlane_shape_den s.line a (s.den_sub_line hs))

theorem interPlaneHalfLine_exact (a : Plane) (h : HalfLine) (hh : h.WF) :
    Exact (interPlaneHalfLine a h) a.den h.den := by
  have : interPlaneHalfLine a h = restrictCarrier (interLinePlane h.line a) h.contains (.halfline h) := by
    unfold interPlaneHalfLine restrictCarrier; generalize interLinePlane h.line a = r
    rcases r with _ | _ | _ | _ | _ | _ | _ <;> rfl
  rw [this]
  exact restrictCarrier_exact (interLinePlane_exact h.line a (h.line_WF hh)).symm (fun _ h => h) (h.den_sub_line hh)
    (fun q hq => (HalfLine.contains_iff h hh q).trans (and_iff_right hq).symm) hh
    (interLinePlane_shape_den h.line a (h.den_sub_line hh))
#print axioms interLineSeg_exact
#print axioms interPlaneHalfLine_exact

/-! ### plane × plane -/
theorem cross_ne_zero_of_not_parallel {u v : V3} (h : ¬ V3.parallel u v = true) : cross u v ≠ zero := by
  intro hc; exact h ((parallel_iff_cross u v).mpr hc)

theorem Plane.eqn_of_parallel (a b : Plane) (ha : a.WF) (hb : b.WF) (hpar : V3.parallel a.n b.n = true) :
    ∃ k : Rat, k ≠ 0 ∧ ∀ x, dot a.n (sub x a.p) = k * (dot b.n (sub x b.p) - dot b.n (sub a.p b.p)) := by
  obtain ⟨k, hk⟩ : ∃ k, a.n = smul k b.n := ⟨_, eq_smul_of_cross_eq_zero hb ((parallel_iff_cross ..).mp hpar)⟩
  refine ⟨k, smul_ne_zero_left (by rw [← hk]; exact ha), fun x => ?_⟩
  rw [hk]; simp only [dot, sub, smul]; ring

/-- `Plane.__eq__` true ⇒ same point set -/
theorem Plane.eqv_den (a b : Plane) (ha : a.WF) (hb : b.WF) (h : a.eqv b = true) :
    ∀ x, a.den x ↔ b.den x := by
  rw [Plane.eqv, Bool.and_eq_true, Plane.contains_iff] at h
  obtain ⟨k, hk0, e⟩ := a.eqn_of_parallel b ha hb h.2
  intro x
  show dot a.n (sub x a.p) = 0 ↔ dot b.n (sub x b.p) = 0
  rw [e, show dot b.n (sub a.p b.p) = 0 from h.1, sub_zero, mul_eq_zero, or_iff_right hk0]

/-- parallel normals and a common point ⇒ `Plane.__eq__` is true -/
theorem Plane.eqv_of_parallel_common (a b : Plane) (ha : a.WF) (hb : b.WF)
    (hpar : V3.parallel a.n b.n = true) (x : V3) (hxa : a.den x) (hxb : b.den x) : a.eqv b = true := by
  rw [Plane.eqv, Bool.and_eq_true, Plane.contains_iff]
  obtain ⟨k, hk0, e⟩ := a.eqn_of_parallel b ha hb hpar
  have := e x
  rw [show dot a.n (sub x a.p) = 0 from hxa, show dot b.n (sub x b.p) = 0 from hxb, zero_sub, eq_comm, mul_eq_zero,
    or_iff_right hk0, neg_eq_zero] at this
  exact ⟨this, hpar⟩

theorem dot_cross_right (a b : V3) : dot b (cross a b) = 0 := by simp only [dot, cross]; ring

theorem Plane.dot_sub_eq_zero (pl : Plane) {x q : V3} (hx : pl.den x) (hq : pl.den q) : dot pl.n (sub x q) = 0 := by
  simp only [Plane.den] at hx hq
  rw [show dot pl.n (sub x q) = dot pl.n (sub x pl.p) - dot pl.n (sub q pl.p) by simp only [dot, sub]; ring,
    hx, hq, sub_self]

theorem interPlanePlane_exact (a b : Plane) (ha : a.WF) (hb : b.WF) :
    Exact (interPlanePlane a b) a.den b.den := by
  unfold interPlanePlane
  by_cases heq : a.eqv b = true
  · rw [if_pos heq]
    refine Exact.mk_some (.plane a) ha (fun x => ?_)
    have := Plane.eqv_den a b ha hb heq x
    simp only [Geo.den]; tauto
  · rw [if_neg heq]
    by_cases hpar : V3.parallel a.n b.n = true
    · rw [if_pos hpar]
      exact Exact.mk_none (fun x ⟨hxa, hxb⟩ => heq (Plane.eqv_of_parallel_common a b ha hb hpar x hxa hxb))
    · rw [if_neg hpar]
      have hV : cross a.n b.n ≠ zero := cross_ne_zero_of_not_parallel hpar
      have hVV := normSq_pos hV
      -- the auxiliary line lies in `a` and is transversal to `b`
      have hdot : dot (cross (cross a.n b.n) a.n) b.n = normSq (cross a.n b.n) := by
        simp only [dot, cross, normSq]; ring
      have hno : ¬ V3.orthogonal (cross (cross a.n b.n) a.n) b.n = true := by
        simp only [V3.orthogonal, beq_iff_eq, hdot]; exact ne_of_gt hVV
      obtain ⟨q, hq, ⟨mu, hqmu⟩, hqb⟩ := interLinePlane_transversal ⟨a.p, cross (cross a.n b.n) a.n⟩ b
        (fun h0 => hno (by rw [show cross (cross a.n b.n) a.n = zero from h0]; simp [V3.orthogonal, dot, zero])) hno
      have hqa : a.den q :=
        hqmu ▸ a.den_pt (by simp [Plane.den, dot, sub]) (dot_cross_right _ _) mu
      simp only [hq]
      refine Exact.mk_some (.line ⟨q, cross a.n b.n⟩) hV (fun x => ?_)
      simp only [Geo.den]
      constructor
      · rintro ⟨t, rfl⟩
        exact ⟨a.den_pt hqa (dot_cross_self _ _) t, b.den_pt hqb (dot_cross_right _ _) t⟩
      · rintro ⟨hxa, hxb⟩
        -- `x - q` is orthogonal to both normals, hence parallel to their cross product
        have hcr : cross (sub x q) (cross a.n b.n) = zero := by
          rw [show cross (sub x q) (cross a.n b.n)
              = sub (smul (dot b.n (sub x q)) a.n) (smul (dot a.n (sub x q)) b.n) by
            apply V3.ext' <;> simp only [cross, sub, smul, dot] <;> ring,
            a.dot_sub_eq_zero hxa hqa, b.dot_sub_eq_zero hxb hqb]
          apply V3.ext' <;> simp [sub, smul, zero]
        obtain ⟨k, hk⟩ : ∃ k, sub x q = smul k (cross a.n b.n) := ⟨_, eq_smul_of_cross_eq_zero hV hcr⟩
        refine ⟨k, ?_⟩
        have hx := congrArg V3.x hk; have hy := congrArg V3.y hk; have hz := congrArg V3.z hk
        simp only [sub, smul] at hx hy hz
        apply V3.ext' <;> simp only [add, smul] <;> linarith
#print axioms interPlanePlane_exact
end G3D
