import G3D.Proofs.K4e

/-! # Kernel K4: ConvexPolyhedron × ConvexPolyhedron is exact whenever it returns, and fails only in the constructor

    `K = A ∩ B` (`K4.InK`: both membership tests; `= InHull A.verts ∩ InHull B.verts` under `ExactHyp`).
    * no interior point of `K` (`K4.exact_of_no_interior`, K4c.lean): the result is `None` / Point / Segment /
      ConvexPolygon and denotes exactly `K`; the two "Bug detected" branches are not taken
    * interior point: at least two different polygons are collected (`K4.two_gons`), so the handler calls
      `ConvexPolyhedron(polygons)`; every point of `K` is a convex combination of the vertices of the collected
      polygons (`K4.inK_sub_hull`), hence a returned polyhedron is exactly `K` (`K4.exact_of_mk`)
    * summary: `interPolyhedronPolyhedron_exact_of_ok`, `interPolyhedronPolyhedron_total` -/
namespace G3D
open V3

/-- a point on a polygon clip lies on one of the collected polygons -/
theorem K4.OnGon.in_parts {A B : Polyhedron} {p : Parts} (hp : K4.Parts2 A B p) {y : V3} (h : K4.OnGon A B y) :
    ∃ g ∈ p.gons, InHull g.pts y := by
  obtain ⟨f, Q, hQ, hin⟩ := h
  obtain ⟨g, hg, hs⟩ := hp.gons_rep f Q hQ
  rcases hs with rfl | hs
  · exact ⟨g, hg, hin⟩
  · exact ⟨g, hg, hin.mono ((Polygon.same_iff g Q).mp hs).2.1⟩

/-- what is known about a collected polygon -/
theorem K4.Parts2.gon_spec {A B : Polyhedron} (hA : A.ExactHyp) (hB : B.ExactHyp) {p : Parts}
    (hp : K4.Parts2 A B p) (g : Polygon) (hg : g ∈ p.gons) :
    g.Valid ∧ ∃ f, K4.IsPiece A B f (some (.polygon g)) ∧
      ∀ x, InHull g.pts x ↔ (K4.InK A B x ∧ f.side x = 0) := by
  obtain ⟨f, hf⟩ := hp.gons_sub g hg
  obtain ⟨hsh, hd⟩ := hf.spec hA hB
  cases hsh with
  | gon _ hv => exact ⟨hv, f, hf, hd⟩

/-- with an interior point at least two different polygons are collected -/
theorem K4.two_gons {A B : Polyhedron} (hA : A.ExactHyp) (hB : B.ExactHyp) {p : Parts} (hp : K4.Parts2 A B p)
    (o : V3) (ho : ∀ f ∈ A.faces ++ B.faces, f.side o < 0) : ∃ Q1 Q2 t, p.gons = Q1 :: Q2 :: t := by
  obtain ⟨y1, y2, h1, h2, t, _, _, hb⟩ := K4.chord_interior hA hB o ho
  obtain ⟨g1, hg1, hy1⟩ := h1.in_parts hp
  obtain ⟨g2, hg2, hy2⟩ := h2.in_parts hp
  match hpg : p.gons with
  | [] => rw [hpg] at hg1; cases hg1
  | [g] =>
    exfalso
    rw [hpg] at hg1 hg2
    simp only [List.mem_singleton] at hg1 hg2
    subst hg1; subst hg2
    obtain ⟨_, f, hf, hd⟩ := hp.gon_spec hA hB g2 (by rw [hpg]; simp)
    have s1 := ((hd y1).mp hy1).2
    have s2 := ((hd y2).mp hy2).2
    have := ho f hf.mem
    rw [hb, K4.side_between, s1, s2] at this
    simp at this
  | Q1 :: Q2 :: t => exact ⟨Q1, Q2, t, rfl⟩

/-- with an interior point, every point of the common part is a convex combination of the vertices of the collected
    polygons -/
theorem K4.inK_sub_hull {A B : Polyhedron} (hA : A.ExactHyp) (hB : B.ExactHyp) {p : Parts} (hp : K4.Parts2 A B p)
    (o : V3) (ho : ∀ f ∈ A.faces ++ B.faces, f.side o < 0) (x : V3) (hx : K4.InK A B x) :
    InHull (collectVerts p.gons) x := by
  have lift : ∀ y, K4.OnGon A B y → InHull (collectVerts p.gons) y := by
    intro y hy
    obtain ⟨g, hg, hin⟩ := hy.in_parts hp
    exact hin.mono (fun v hv => BS.collectVerts_mem p.gons g hg v hv)
  by_cases hint : ∀ f ∈ A.faces ++ B.faces, f.side x < 0
  · obtain ⟨y1, y2, h1, h2, hb⟩ := K4.chord_interior hA hB x hint
    exact InHull.between (lift y1 h1) (lift y2 h2) hb
  · push Not at hint
    obtain ⟨f, hf, hge⟩ := hint
    have hle := (K4.InK_iff_side A B x).mp hx f hf
    exact lift x (K4.onGon_of_boundary hA hB o ho x hx f hf (le_antisymm hle hge))

/-- conversely the vertices of the collected polygons span a subset of the common part (soundness) -/
theorem K4.hull_sub_inK {A B : Polyhedron} (hA : A.ExactHyp) (hB : B.ExactHyp) {p : Parts} (hp : K4.Parts2 A B p)
    (x : V3) (hx : InHull (collectVerts p.gons) x) : K4.InK A B x := by
  refine InHull.sub_of_conv (fun _ _ _ hu hv hb => K4.InK_between hu hv hb) _ ?_ x hx
  intro v hv
  obtain ⟨g, hg, hvg⟩ := BS.mem_collectVerts _ v hv
  obtain ⟨_, f, _, hd⟩ := hp.gon_spec hA hB g hg
  exact ((hd v).mp (vertex_in_hull _ _ hvg)).1

/-- two or more collected polygons: the common part has an interior point -/
theorem K4.interior_of_two {A B : Polyhedron} (hA : A.ExactHyp) (hB : B.ExactHyp) {p : Parts}
    (hp : K4.Parts2 A B p) (h2 : 2 ≤ p.gons.length) : ∃ o, ∀ f ∈ A.faces ++ B.faces, f.side o < 0 := by
  by_contra hno
  obtain ⟨f0, hf0, hflat⟩ := K4.flat_of_no_interior A B hA.proper.core.nonempty hno
  obtain ⟨o, ho, hsh, _⟩ := K4.finish_of_flat A B hA hB p hp f0 hf0 hflat
  match hpg : p.gons with
  | [] => rw [hpg] at h2; simp at h2
  | [g] => rw [hpg] at h2; simp at h2
  | Q1 :: Q2 :: t =>
    rw [K4.finish_many p Q1 Q2 t hpg] at ho
    obtain ⟨R, _, rfl⟩ := K4.mk_bind_ok ho
    cases hsh

/-- **item 4**: whenever two or more polygons are collected and `ConvexPolyhedron(polygons)` succeeds, the
    polyhedron it returns is exactly `A ∩ B` -/
theorem K4.exact_of_mk {A B : Polyhedron} (hA : A.ExactHyp) (hB : B.ExactHyp) {p : Parts} (hp : K4.Parts2 A B p)
    (h2 : 2 ≤ p.gons.length) (R : Polyhedron) (hR : Polyhedron.mk? p.gons = .ok R) (x : V3) :
    InHull R.verts x ↔ (InHull A.verts x ∧ InHull B.verts x) := by
  obtain ⟨o, ho⟩ := K4.interior_of_two hA hB hp h2
  obtain ⟨_, _, ⟨_, hverts, _⟩, _⟩ := Polyhedron.mk?_ok p.gons R hR
  rw [hverts, ← K4.InK_iff_hull hA hB]
  exact ⟨K4.hull_sub_inK hA hB hp x, K4.inK_sub_hull hA hB hp o ho x⟩
#print axioms K4.exact_of_mk

/-- **K4, structure of the computation**: under `ExactHyp` for both bodies the two clipping loops succeed with parts
    `p` that are exactly the clips (`K4.Parts2`), and
    * either fewer than two polygons were collected; then the handler returns `None`, a Point, a well-formed Segment
      or a Valid ConvexPolygon denoting exactly `A ∩ B` (the "Bug detected" branches are not taken),
    * or two or more (Valid) polygons were collected; then the handler returns what `ConvexPolyhedron(polygons)`
      returns, and a returned polyhedron is exactly `A ∩ B`. -/
theorem interPolyhedronPolyhedron_total (A B : Polyhedron) (hA : A.ExactHyp) (hB : B.ExactHyp) :
    ∃ p, K4.Parts2 A B p ∧
      ((p.gons.length < 2 ∧ ∃ o, interPolyhedronPolyhedron A B = .ok o ∧ K4.Shape o ∧
          ∀ x, denOptB o x ↔ (InHull A.verts x ∧ InHull B.verts x)) ∨
       (2 ≤ p.gons.length ∧ (∀ g ∈ p.gons, g.Valid) ∧
          interPolyhedronPolyhedron A B =
            (do let R ← liftC (Polyhedron.mk? p.gons); pure (some (.polyhedron R))) ∧
          ∀ R, Polyhedron.mk? p.gons = .ok R → ∀ x, InHull R.verts x ↔ (InHull A.verts x ∧ InHull B.verts x))) := by
  obtain ⟨p, hp, heq⟩ := K4.handler_eq A B hA hB
  refine ⟨p, hp, ?_⟩
  by_cases hint : ∃ o, ∀ f ∈ A.faces ++ B.faces, f.side o < 0
  · obtain ⟨o, ho⟩ := hint
    obtain ⟨Q1, Q2, t, hpg⟩ := K4.two_gons hA hB hp o ho
    have h2 : 2 ≤ p.gons.length := by rw [hpg]; simp
    right
    refine ⟨h2, fun g hg => (hp.gon_spec hA hB g hg).1, ?_, fun R hR x => K4.exact_of_mk hA hB hp h2 R hR x⟩
    rw [heq, K4.finish_many p Q1 Q2 t hpg]
  · left
    constructor
    · by_contra h2
      exact hint (K4.interior_of_two hA hB hp (not_lt.mp h2))
    · obtain ⟨o, ho, hsh, hd⟩ := K4.exact_of_no_interior A B hA hB hint
      exact ⟨o, ho, hsh, fun x => by rw [hd x, K4.InK_iff_hull hA hB]⟩
#print axioms interPolyhedronPolyhedron_total

/-- **K4, summary**: for bodies satisfying `ExactHyp`
    * whatever `intersection(A, B)` returns denotes exactly `A ∩ B` (hulls of the vertex lists; equivalently both
      membership tests), and a returned Segment is well formed;
    * if it raises, the exception comes from `ConvexPolyhedron(polygons)` applied to the two or more Valid polygons
      collected from the faces (in particular it is not "Bug detected"). -/
theorem interPolyhedronPolyhedron_exact_of_ok (A B : Polyhedron) (hA : A.ExactHyp) (hB : B.ExactHyp) :
    (∀ o, interPolyhedronPolyhedron A B = .ok o →
      ResSegWF o ∧ ∀ x, denOptB o x ↔ (InHull A.verts x ∧ InHull B.verts x)) ∧
    (∀ e, interPolyhedronPolyhedron A B = .error e →
      ∃ p, K4.Parts2 A B p ∧ 2 ≤ p.gons.length ∧ (∀ g ∈ p.gons, g.Valid) ∧
        ∃ ce, Polyhedron.mk? p.gons = .error ce ∧ e = .ctor ce) := by
  obtain ⟨p, hp, h⟩ := interPolyhedronPolyhedron_total A B hA hB
  rcases h with ⟨_, o', ho', hsh, hd⟩ | ⟨h2, hval, heq, hex⟩
  · constructor
    · intro o ho
      rw [ho'] at ho; cases ho
      refine ⟨?_, hd⟩
      cases hsh with
      | none => trivial
      | point q => trivial
      | seg s hw => exact hw
      | gon Q hv => trivial
    · intro e he
      rw [ho'] at he; cases he
  · rw [heq]
    constructor
    · intro o ho
      obtain ⟨R, hm, rfl⟩ := K4.mk_bind_ok ho
      exact ⟨trivial, hex R hm⟩
    · intro e he
      obtain ⟨ce, hm, rfl⟩ := K4.mk_bind_error he
      exact ⟨p, hp, h2, hval, ce, hm, rfl⟩
#print axioms interPolyhedronPolyhedron_exact_of_ok

/-- the two "Bug detected" branches (two or more Segments / Points and no polygon) are never taken -/
theorem interPolyhedronPolyhedron_no_bug (A B : Polyhedron) (hA : A.ExactHyp) (hB : B.ExactHyp) :
    interPolyhedronPolyhedron A B ≠ .error .bug := by
  intro h
  obtain ⟨_, _, _, _, ce, _, he⟩ := (interPolyhedronPolyhedron_exact_of_ok A B hA hB).2 _ h
  cases he

/-- the same with the membership tests as denotations of the operands -/
theorem interPolyhedronPolyhedron_exact_contains (A B : Polyhedron) (hA : A.ExactHyp) (hB : B.ExactHyp)
    (o : Option Obj) (ho : interPolyhedronPolyhedron A B = .ok o) (x : V3) :
    denOptB o x ↔ (A.contains x = true ∧ B.contains x = true) := by
  rw [((interPolyhedronPolyhedron_exact_of_ok A B hA hB).1 o ho).2 x]
  exact (K4.InK_iff_hull hA hB x).symm

/-- `None` is returned exactly when the bodies are disjoint -/
theorem interPolyhedronPolyhedron_none_iff (A B : Polyhedron) (hA : A.ExactHyp) (hB : B.ExactHyp) :
    interPolyhedronPolyhedron A B = .ok none ↔ ∀ x, ¬ (InHull A.verts x ∧ InHull B.verts x) := by
  constructor
  · intro h x hx
    exact (((interPolyhedronPolyhedron_exact_of_ok A B hA hB).1 none h).2 x).mpr hx
  · intro hdis
    obtain ⟨p, hp, h⟩ := interPolyhedronPolyhedron_total A B hA hB
    rcases h with ⟨_, o', ho', hsh, hd⟩ | ⟨h2, _, _, _⟩
    · rw [ho']
      cases hsh with
      | none => rfl
      | point q => exact absurd ((hd q).mp rfl) (hdis q)
      | seg s hw => exact absurd ((hd s.a).mp s.a_mem_den) (hdis s.a)
      | gon Q hv =>
        obtain ⟨p0, _, _, _, hpts, _, _⟩ := hv
        exact absurd ((hd p0).mp (vertex_in_hull _ _ (by rw [hpts]; simp))) (hdis p0)
    · exfalso
      obtain ⟨o, ho⟩ := K4.interior_of_two hA hB hp h2
      have hin : K4.InK A B o := (K4.InK_iff_side A B o).mpr (fun f hf => le_of_lt (ho f hf))
      exact hdis o ((K4.InK_iff_hull hA hB o).mp hin)
#print axioms interPolyhedronPolyhedron_none_iff

end G3D
