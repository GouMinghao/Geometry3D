import G3D.Proofs.K2Collect
import G3D.Proofs.BodySoundSets
/-! Kernel K2: **exactness of the coplanar branch of ConvexPolygon × ConvexPolygon.**
    For two `Valid` polygons in one plane `interPolygonPolygon a b` never raises and denotes exactly
    `hull a ∩ hull b` (`interPolygonPolygon_coplanar_exact`); with the non-coplanar cases already proved,
    `interPolygonPolygon_exact` for every relative position of the planes.
    Route: (c) completeness `hull a ∩ hull b ⊆ hull (collected)` from the chord / edge-clip argument of K2Geom and
    Claim 1 of K2Collect; soundness of the collection; every collected point is a strictly exposed point of the
    intersection (`Collected.exposed`), so the collected list is in strictly convex position and K6 applies
    (`ofHits_exact`, K2Geom): the constructor succeeds, keeps all points, and the hull of its cycle is the hull of the
    collected list. -/
namespace G3D
open V3

/-! ### (c) completeness / exactness of the collected list -/
theorem InHull.of_hull {l l' : List V3} (h : ∀ p ∈ l, InHull l' p) {x : V3} (hx : InHull l x) : InHull l' x :=
  InHull.sub_of_conv (D := InHull l') (fun _ _ _ hu hv hb => InHull.between hu hv hb) l h x hx

/-- **(c)** every common point of the two hulls is a convex combination of collected points -/
theorem collected_complete (a b : Polygon) (ha : a.Valid) (hb : b.Valid) (hco : a.plane.eqv b.plane = true)
    (out : List V3) (hout : ∀ p, Collected a b p → p ∈ out)
    (x : V3) (hxa : InHull a.pts x) (hxb : InHull b.pts x) : InHull out x := by
  obtain ⟨w1, w2, w3, w4, c1, c2, c3, c4, hx⟩ := coplanar_hull_of_vertices a b ha hb hco x hxa hxb
  refine InHull.mono hx ?_
  intro p hp
  simp only [List.mem_cons, List.not_mem_nil, or_false] at hp
  rcases hp with rfl | rfl | rfl | rfl
  · exact hout _ (c1.collected ha hb)
  · exact hout _ (c2.collected ha hb)
  · exact hout _ (c3.collected ha hb)
  · exact hout _ (c4.collected ha hb)

/-- the hull of the collected list is exactly the intersection of the hulls -/
theorem collected_hull_iff (a b : Polygon) (ha : a.Valid) (hb : b.Valid) (hco : a.plane.eqv b.plane = true)
    (out : List V3) (hout : ∀ p, p ∈ out ↔ Collected a b p) (x : V3) :
    InHull out x ↔ (InHull a.pts x ∧ InHull b.pts x) := by
  constructor
  · intro hx
    exact ⟨InHull.of_hull (fun p hp => (((hout p).mp hp).inBoth ha hb).1) hx,
      InHull.of_hull (fun p hp => (((hout p).mp hp).inBoth ha hb).2) hx⟩
  · rintro ⟨h1, h2⟩
    exact collected_complete a b ha hb hco out (fun p hp => (hout p).mpr hp) x h1 h2

/-- **(c), handler form**: whatever list the handler's collection returns, every point of `hull a ∩ hull b` is a
    convex combination of it -/
theorem interPolygonPolygon_coplanar_complete (a b : Polygon) (ha : a.Valid) (hb : b.Valid)
    (hco : a.plane.eqv b.plane = true) (out : List V3) (h : coplanarCollect a b = .ok out) (x : V3) :
    InHull out x ↔ (InHull a.pts x ∧ InHull b.pts x) := by
  obtain ⟨out', h', _, hm⟩ := coplanarCollect_spec a b ha hb
  rw [h] at h'; cases h'
  exact collected_hull_iff a b ha hb hco out hm x

theorem Polygon.edge_tight (P : Polygon) (hv : P.Valid) (y : V3) (hy : InHull P.pts y) (e : V3 × V3)
    (he : e ∈ closedPairs P.pts) (h0 : orient P.plane.n e.1 e.2 y = 0) : Between e.1 e.2 y := by
  obtain ⟨_, _, _, _, _, _, htp⟩ := hv
  exact on_edge_of_tight P.plane.n P.pts htp e he y hy h0

theorem orient_diff (n a b y p : V3) :
    orient n a b y - orient n a b p = dot (cross n (sub b a)) (sub y p) := by
  simp only [orient, dot, cross, sub]; ring

/-- **every collected point is a strictly exposed point of `hull a ∩ hull b`** -/
theorem Collected.exposed {a b : Polygon} (ha : a.Valid) (hb : b.Valid) {p : V3} (h : Collected a b p) :
    ∃ d : V3, ∀ y, InHull a.pts y → InHull b.pts y → y ≠ p → dot d y < dot d p := by
  rcases h with ⟨hp, _⟩ | ⟨hp, _⟩ | ⟨e, he, f, hf, hq⟩
  · obtain ⟨d, hd⟩ := ha.strictConvexPos p hp
    exact ⟨d, fun y hya _ hne => (hull_exposed hya hd).resolve_left hne⟩
  · obtain ⟨d, hd⟩ := hb.strictConvexPos p hp
    exact ⟨d, fun y _ hyb hne => (hull_exposed hyb hd).resolve_left hne⟩
  · obtain ⟨o, ho, _, hden⟩ := interSegSeg_exact _ _ (Seg.mk'_WF (hb.edge_ne f hf)) (Seg.mk'_WF (ha.edge_ne e he))
    rw [hq] at ho; cases ho
    have hpp := (hden p).mp rfl
    have hpf : Between f.1 f.2 p := hpp.1
    have hpe : Between e.1 e.2 p := hpp.2
    have za := orient_between_zero a.plane.n e.1 e.2 p hpe
    have zb := orient_between_zero b.plane.n f.1 f.2 p hpf
    refine ⟨neg (add (cross a.plane.n (sub e.2 e.1)) (cross b.plane.n (sub f.2 f.1))), fun y hya hyb hne => ?_⟩
    have ga := Polygon.edge_nonneg a ha y hya e he
    have gb := Polygon.edge_nonneg b hb y hyb f hf
    have hid : dot (neg (add (cross a.plane.n (sub e.2 e.1)) (cross b.plane.n (sub f.2 f.1)))) y -
        dot (neg (add (cross a.plane.n (sub e.2 e.1)) (cross b.plane.n (sub f.2 f.1)))) p =
        - (orient a.plane.n e.1 e.2 y - orient a.plane.n e.1 e.2 p) -
          (orient b.plane.n f.1 f.2 y - orient b.plane.n f.1 f.2 p) := by
      rw [orient_diff, orient_diff]
      simp only [dot, add, neg, sub]; ring
    rw [za, zb] at hid
    by_contra hcon
    have h1 : orient a.plane.n e.1 e.2 y = 0 := by linarith
    have h2 : orient b.plane.n f.1 f.2 y = 0 := by linarith
    have b1 := Polygon.edge_tight a ha y hya e he h1
    have b2 := Polygon.edge_tight b hb y hyb f hf h2
    have : denOpt (some (Geo.point p)) y := (hden y).mpr ⟨b2, b1⟩
    exact hne this

/-- the collected list is in strictly convex position -/
theorem collected_strictConvex (a b : Polygon) (ha : a.Valid) (hb : b.Valid) (out : List V3)
    (hout : ∀ p ∈ out, Collected a b p) : StrictConvexPos out := by
  intro p hp
  obtain ⟨d, hd⟩ := (hout p hp).exposed ha hb
  refine ⟨d, fun q hq hne => ?_⟩
  obtain ⟨h1, h2⟩ := (hout q hq).inBoth ha hb
  exact hd q h1 h2 hne

/-! ### the result built from the collected list -/
theorem pointsInALine_of_strictConvex (p0 p1 p2 : V3) (rest : List V3) (hnd : (p0 :: p1 :: p2 :: rest).Nodup)
    (hsc : StrictConvexPos (p0 :: p1 :: p2 :: rest)) : pointsInALine (p0 :: p1 :: p2 :: rest) = .ok false := by
  obtain ⟨h01, h02, h12⟩ : p0 ≠ p1 ∧ p0 ≠ p2 ∧ p1 ≠ p2 := by
    simp only [List.nodup_cons, List.mem_cons, not_or] at hnd
    exact ⟨hnd.1.1, hnd.1.2.1, hnd.2.1.1⟩
  have m0 : p0 ∈ p0 :: p1 :: p2 :: rest := by simp
  have m1 : p1 ∈ p0 :: p1 :: p2 :: rest := by simp
  have m2 : p2 ∈ p0 :: p1 :: p2 :: rest := by simp
  have hn0 : cross (sub p1 p0) (sub p2 p0) ≠ zero := by
    obtain ⟨d0, h0⟩ := hsc p0 m0
    obtain ⟨d1, h1⟩ := hsc p1 m1
    obtain ⟨d2, h2⟩ := hsc p2 m2
    exact exposed_not_collinear p0 p1 p2 ⟨d0, h0 p1 m1 h01.symm, h0 p2 m2 h02.symm⟩
      ⟨d1, h1 p0 m0 h01, h1 p2 m2 h12.symm⟩ ⟨d2, h2 p0 m0 h02, h2 p1 m1 h12⟩
  have hd10 : sub p1 p0 ≠ zero := fun h => h01 (sub_eq_zero_iff.mp h).symm
  have hc2 : (⟨p0, sub p1 p0⟩ : Line).contains p2 = false := by
    rw [Bool.eq_false_iff]
    intro hc
    rw [Line.contains_iff _ hd10] at hc
    obtain ⟨t, ht⟩ := hc
    apply hn0
    have hx := congrArg V3.x ht; have hy := congrArg V3.y ht; have hz := congrArg V3.z ht
    simp only [add, smul, sub] at hx hy hz
    apply V3.ext' <;> simp only [cross, sub, zero, hx, hy, hz] <;> ring
  simp only [pointsInALine, reduceCtorEq, if_false, if_neg (Ne.symm h01), List.all_cons, hc2, Bool.false_and]

/-- **(d)** the handler's construction from a collected list that is duplicate-free and whose hull is the
    intersection, all of whose points are strictly exposed there -/
theorem coplanarFinish_exact (a b : Polygon) (ha : a.Valid) (hb : b.Valid) (hco : a.plane.eqv b.plane = true)
    (out : List V3) (hnd : out.Nodup) (hout : ∀ p, p ∈ out ↔ Collected a b p) :
    ExactW (coplanarFinish out) (InHull a.pts) (InHull b.pts) := by
  have hsc := collected_strictConvex a b ha hb out (fun p hp => (hout p).mp hp)
  have hinp : ∀ p ∈ out, G3D.inPlane a.plane.n a.plane.p p = true :=
    fun p hp => hull_inPlane a ha p (((hout p).mp hp).inBoth ha hb).1
  obtain ⟨o, ho, hw, hd⟩ := ofHits_exact a.plane.n (Polygon.plane_WF a ha) out hnd hsc
    (fun p hp q hq => inPlane_diff (hinp p hp) (hinp q hq))
  refine ⟨o, ?_, hw, fun x => by rw [hd x, collected_hull_iff a b ha hb hco out hout x]⟩
  rcases out with _ | ⟨p0, _ | ⟨p1, _ | ⟨p2, rest⟩⟩⟩
  · exact ho
  · exact ho
  · exact ho
  · simp only [coplanarFinish, pointsInALine_of_strictConvex p0 p1 p2 rest hnd hsc]
    exact ho

/-- **K2.** Two `Valid` convex polygons in one plane: the handler never raises, and its result — `None`, a Point,
    a well-formed Segment or a ConvexPolygon — denotes exactly `hull a ∩ hull b`. -/
theorem interPolygonPolygon_coplanar_exact (a b : Polygon) (ha : a.Valid) (hb : b.Valid)
    (hco : a.plane.eqv b.plane = true) :
    ExactW (interPolygonPolygon a b) (InHull a.pts) (InHull b.pts) := by
  rw [interPolygonPolygon_coplanar_eq a b hco]
  obtain ⟨out, hout, hnd, hm⟩ := coplanarCollect_spec a b ha hb
  rw [hout]
  exact coplanarFinish_exact a b ha hb hco out hnd hm

/-- moreover a returned polygon is `Valid`, and its vertex cycle is a permutation of the collected list -/
theorem interPolygonPolygon_coplanar_polygon_valid (a b : Polygon) (ha : a.Valid) (hb : b.Valid)
    (hco : a.plane.eqv b.plane = true) (P : Polygon) (h : interPolygonPolygon a b = .ok (some (.polygon P))) :
    P.Valid ∧ ∃ out, coplanarCollect a b = .ok out ∧ List.Perm P.pts out := by
  rw [interPolygonPolygon_coplanar_eq a b hco] at h
  obtain ⟨out, hout, hnd, hm⟩ := coplanarCollect_spec a b ha hb
  rw [hout] at h
  have hsc : StrictConvexPos out := collected_strictConvex a b ha hb _ (fun p hp => (hm p).mp hp)
  have hded : dedupV out = out := dedupV_of_nodup _ hnd
  have hmk : Polygon.mk? out false = .ok P := coplanarFinish_polygon out P h
  obtain ⟨hv, hp, _⟩ := Polygon.mk?_valid_of_strictConvex out false P hmk (by rw [hded]; exact hsc)
  rw [hded] at hp
  exact ⟨hv, out, hout, hp⟩

/-- **ConvexPolygon × ConvexPolygon is exact**, every relative position of the carrier planes -/
theorem interPolygonPolygon_exact (a b : Polygon) (ha : a.Valid) (hb : b.Valid) :
    ExactW (interPolygonPolygon a b) (InHull a.pts) (InHull b.pts) := by
  cases hco : a.plane.eqv b.plane with
  | true => exact interPolygonPolygon_coplanar_exact a b ha hb hco
  | false => exact interPolygonPolygon_noncoplanar_exactW a b ha hb hco

#print axioms interPolygonPolygon_coplanar_complete
#print axioms collected_strictConvex
#print axioms interPolygonPolygon_coplanar_exact
#print axioms interPolygonPolygon_coplanar_polygon_valid
#print axioms interPolygonPolygon_exact
end G3D
