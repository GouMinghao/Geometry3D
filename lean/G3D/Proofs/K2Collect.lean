import G3D.Proofs.K2Geom
/-! Kernel K2, handler side: what the coplanar branch of `inter_convexpolygon_convexpolygon` collects.
    * `interSegSeg_point_of_cross`: two well-formed segments on non-parallel carriers with a common point `w`:
      the handler returns `Point w`.
    * `crossHits_spec`: the hit-collecting loop never raises on well-formed segments and collects exactly the Point
      results (plus what was there), keeping the list duplicate-free.
    (The branch as "collect, then build" — `coplanarCollect`, `coplanarFinish`, `interPolygonPolygon_coplanar_eq` — is in
    BodySound.lean.)
    * `coplanarCollect_spec`: for `Valid` operands the collection succeeds, is duplicate-free, and its members
      are exactly: vertices of `a` in `hull b`, vertices of `b` in `hull a`, Point results of edge × edge.
    * `CVertex.collected` (Claim 1): every vertex of the intersection is collected. -/
namespace G3D
open V3

/-! ### segment × segment -/
theorem cross_unique {a1 d1 a2 d2 : V3} (hcr : cross d1 d2 ≠ zero) {t1 t2 r1 r2 : Rat}
    (h1 : add a1 (smul t1 d1) = add a2 (smul r1 d2)) (h2 : add a1 (smul t2 d1) = add a2 (smul r2 d2)) :
    t1 = t2 := by
  by_contra hne
  apply hcr
  have hx1 := congrArg V3.x h1; have hy1 := congrArg V3.y h1; have hz1 := congrArg V3.z h1
  have hx2 := congrArg V3.x h2; have hy2 := congrArg V3.y h2; have hz2 := congrArg V3.z h2
  simp only [add, smul] at hx1 hy1 hz1 hx2 hy2 hz2
  have k : t1 - t2 ≠ 0 := sub_ne_zero.mpr hne
  apply smul_eq_zero_of_ne k
  apply V3.ext' <;> simp only [smul, cross, zero]
  · linear_combination d2.z * (hy1 - hy2) - d2.y * (hz1 - hz2)
  · linear_combination d2.x * (hz1 - hz2) - d2.z * (hx1 - hx2)
  · linear_combination d2.y * (hx1 - hx2) - d2.x * (hy1 - hy2)

/-- two points common to two segments on non-parallel carriers coincide -/
theorem seg_cross_unique (s1 s2 : Seg) (hcr : cross (sub s1.b s1.a) (sub s2.b s2.a) ≠ zero) (y z : V3)
    (hy1 : s1.den y) (hy2 : s2.den y) (hz1 : s1.den z) (hz2 : s2.den z) : y = z := by
  obtain ⟨t1, _, _, e1⟩ := hy1
  obtain ⟨r1, _, _, e2⟩ := hy2
  obtain ⟨t2, _, _, e3⟩ := hz1
  obtain ⟨r2, _, _, e4⟩ := hz2
  have := cross_unique hcr (e1.symm.trans e2) (e3.symm.trans e4)
  rw [e1, e3, this]

/-- a transversal crossing is returned as a Point -/
theorem interSegSeg_point_of_cross (s1 s2 : Seg) (h1 : s1.WF) (h2 : s2.WF) (w : V3) (hw1 : s1.den w) (hw2 : s2.den w)
    (hcr : cross (sub s1.b s1.a) (sub s2.b s2.a) ≠ zero) : interSegSeg s1 s2 = .ok (some (.point w)) := by
  obtain ⟨o, ho, hwf, hd⟩ := interSegSeg_exact s1 s2 h1 h2
  have hden : denOpt o w := (hd w).mpr ⟨hw1, hw2⟩
  rw [ho]
  rcases IsPS_cases o (interSegSeg_IsPS s1 s2 o ho) with rfl | ⟨q, rfl⟩ | ⟨s, rfl⟩
  · exact absurd hden (by simp [denOpt])
  · simp only [denOpt, Geo.den] at hden; rw [hden]
  · exfalso
    have ha := (hd s.a).mp (Seg.a_mem_den s)
    have hb := (hd s.b).mp (Seg.b_mem_den s)
    exact (hwf _ rfl).1 (seg_cross_unique s1 s2 hcr s.a s.b ha.1 ha.2 hb.1 hb.2)

/-! ### the collecting loops -/
theorem crossHits_total (sb : List Seg) (hsb : ∀ t ∈ sb, t.WF) : ∀ (sa : List Seg) (acc : List V3),
    (∀ s ∈ sa, s.WF) → ∃ out, crossHits sb sa acc = .ok out
  | [], acc, _ => ⟨acc, rfl⟩
  | s :: ss, acc, hsa => by
    obtain ⟨acc', e1⟩ := edgeHits_total (fun t => interSegSeg t s) sb acc (fun t ht => by
      obtain ⟨o, ho, _, _⟩ := interSegSeg_exact t s (hsb t ht) (hsa s (by simp))
      exact ⟨o, ho, interSegSeg_IsPS t s o ho⟩)
    obtain ⟨out, e2⟩ := crossHits_total sb hsb ss acc' (fun s' h => hsa s' (by simp [h]))
    exact ⟨out, by rw [crossHits, crossHitsOne, e1]; exact e2⟩

theorem crossHits_spec (sb : List Seg) (hsb : ∀ t ∈ sb, t.WF) (sa : List Seg) (acc : List V3)
    (hsa : ∀ s ∈ sa, s.WF) :
    ∃ out, crossHits sb sa acc = .ok out ∧
      (∀ p, p ∈ out ↔ p ∈ acc ∨ ∃ s ∈ sa, ∃ t ∈ sb, interSegSeg t s = .ok (some (.point p))) ∧
      (acc.Nodup → out.Nodup) :=
  let ⟨out, h⟩ := crossHits_total sb hsb sa acc hsa
  ⟨out, h, crossHits_mem sb sa acc out h⟩

/-- `segments()` of a `Valid` polygon, with the edges as a list of vertex pairs -/
theorem mem_segments_iff (P : Polygon) (s : Seg) :
    s ∈ (closedPairs P.pts).map (fun e => Seg.mk' e.1 e.2) ↔ ∃ e ∈ closedPairs P.pts, s = Seg.mk' e.1 e.2 := by
  simp only [List.mem_map, eq_comm]

/-- what the handler collects, for `Valid` operands -/
def Collected (a b : Polygon) (p : V3) : Prop :=
  (p ∈ a.pts ∧ InHull b.pts p) ∨ (p ∈ b.pts ∧ InHull a.pts p) ∨
    ∃ e ∈ closedPairs a.pts, ∃ f ∈ closedPairs b.pts,
      interSegSeg (Seg.mk' f.1 f.2) (Seg.mk' e.1 e.2) = .ok (some (.point p))

theorem coplanarCollect_spec (a b : Polygon) (ha : a.Valid) (hb : b.Valid) :
    ∃ out, coplanarCollect a b = .ok out ∧ out.Nodup ∧ ∀ p, p ∈ out ↔ Collected a b p := by
  have hsaW : ∀ s ∈ (closedPairs a.pts).map (fun e => Seg.mk' e.1 e.2), s.WF := by
    intro s hs; obtain ⟨e, he, rfl⟩ := (mem_segments_iff a s).mp hs; exact Seg.mk'_WF (ha.edge_ne e he)
  have hsbW : ∀ s ∈ (closedPairs b.pts).map (fun e => Seg.mk' e.1 e.2), s.WF := by
    intro s hs; obtain ⟨e, he, rfl⟩ := (mem_segments_iff b s).mp hs; exact Seg.mk'_WF (hb.edge_ne e he)
  obtain ⟨out, e, m, n⟩ := crossHits_spec _ hsbW _
    ((b.pts.filter a.contains).foldl addNew ((a.pts.filter b.contains).foldl addNew [])) hsaW
  refine ⟨out, ?_, n (nodup_foldl_addNew _ _ (nodup_foldl_addNew _ _ List.nodup_nil)), fun p => ?_⟩
  · unfold coplanarCollect
    rw [Polygon.segments_eq a ha, Polygon.segments_eq b hb]
    exact e
  · rw [m p, mem_foldl_addNew, mem_foldl_addNew, List.mem_filter, List.mem_filter,
      Polygon.contains_iff a ha, Polygon.contains_iff b hb]
    unfold Collected
    simp only [List.not_mem_nil, false_or]
    constructor
    · rintro ((h | h) | ⟨s, hs, t, ht, hq⟩)
      · exact Or.inl h
      · exact Or.inr (Or.inl h)
      · obtain ⟨e, he, rfl⟩ := (mem_segments_iff a s).mp hs
        obtain ⟨f, hf, rfl⟩ := (mem_segments_iff b t).mp ht
        exact Or.inr (Or.inr ⟨e, he, f, hf, hq⟩)
    · rintro (h | h | ⟨e, he, f, hf, hq⟩)
      · exact Or.inl (Or.inl h)
      · exact Or.inl (Or.inr h)
      · exact Or.inr ⟨_, (mem_segments_iff a _).mpr ⟨e, he, rfl⟩, _, (mem_segments_iff b _).mpr ⟨f, hf, rfl⟩, hq⟩

/-- **Claim 1**: every vertex of `hull a ∩ hull b` is collected -/
theorem CVertex.collected {a b : Polygon} (ha : a.Valid) (hb : b.Valid) {w : V3} (h : CVertex a b w) :
    Collected a b w := by
  rcases h with h | h | ⟨e, he, f, hf, hew, hfw, hcr⟩
  · exact Or.inl h
  · exact Or.inr (Or.inl h)
  · refine Or.inr (Or.inr ⟨e, he, f, hf, ?_⟩)
    exact interSegSeg_point_of_cross _ _ (Seg.mk'_WF (hb.edge_ne f hf)) (Seg.mk'_WF (ha.edge_ne e he)) w
      ((Seg.mk'_den _ _ _).mpr hfw) ((Seg.mk'_den _ _ _).mpr hew) (cross_ne_zero_swap hcr)

/-- every collected point lies in both hulls (soundness of the collection) -/
theorem Collected.inBoth {a b : Polygon} (ha : a.Valid) (hb : b.Valid) {p : V3} (h : Collected a b p) :
    InHull a.pts p ∧ InHull b.pts p := by
  rcases h with h | h | ⟨e, he, f, hf, hq⟩
  · exact ⟨vertex_in_hull _ _ h.1, h.2⟩
  · exact ⟨h.2, vertex_in_hull _ _ h.1⟩
  · have := (interSegSeg_exact _ _ (Seg.mk'_WF (hb.edge_ne f hf)) (Seg.mk'_WF (ha.edge_ne e he))).point_mem p hq
    have hme := closedPairs_mem a.pts e he
    have hmf := closedPairs_mem b.pts f hf
    exact ⟨between_in_hull hme.1 hme.2 this.2, between_in_hull hmf.1 hmf.2 this.1⟩

#print axioms coplanarCollect_spec
#print axioms CVertex.collected
end G3D
