import G3D.Proofs.K4a
import G3D.Proofs.BodySoundSets

/-! # Kernel K4, part b: the face-clipping loop `clipFaces`

    * `interPolygonPolyhedron_polygon_valid` : a polygon returned by ConvexPolygon × ConvexPolyhedron is `Valid`
    * `K4.Piece` / `K4.piece` : the clip `f ∩ X` of a valid polygon by a body (`ExactHyp`) is `None`, a Point, a
      well-formed Segment or a `Valid` polygon, and denotes exactly `InHull f.pts ∩ InHull X.verts`
    * `K4.Ext same P acc out` : `out` extends `acc` by the `a` with `P a` up to `same`; `addPolygon`, `addSeg`, `addNew` do that
      for one item (`K4.Ext.addD`), and extensions compose (`K4.Ext.trans`)
    * `K4.Collected` / `clipFaces_spec` : `clipFaces X fs acc` never errors; its result contains exactly (up to the
      dedup relations `Polygon.same`, `Seg.same`, `=`) the clips of the faces `fs` on top of `acc`, without
      repetitions -/
namespace G3D
open V3

/-! ### a returned polygon is Valid -/

/-- polygon × polygon returns a polygon only in the coplanar branch -/
theorem K4.interPolygonPolygon_polygon_coplanar (a b Q : Polygon)
    (h : interPolygonPolygon a b = .ok (some (.polygon Q))) : a.plane.eqv b.plane = true := by
  unfold interPolygonPolygon at h
  split at h
  · cases h
  · split at h
    · cases h
    · cases h
    · rename_i x y _ _
      have : ∀ r : Res, liftFlat r ≠ .ok (some (.polygon Q)) := by
        intro r
        cases r with
        | error e => cases e <;> simp [liftFlat]
        | ok o =>
          cases o with
          | none => simp [liftFlat]
          | some g => simp [liftFlat]
      exact absurd h (this _)
    · cases h
    · cases h
    · cases h
  · by_cases hco : a.plane.eqv b.plane = true
    · exact hco
    · simp only [Bool.not_eq_true] at hco
      rw [hco] at h
      simp at h
  · cases h

/-- a polygon returned by ConvexPolygon × ConvexPolyhedron comes from the coplanar polygon × polygon call on the
    section of the body by the carrier plane -/
theorem K4.interPolygonPolyhedron_polygon_origin (B : Polyhedron) (hH : B.ExactHyp) (P : Polygon) (hv : P.Valid)
    (Q : Polygon) (h : interPolygonPolyhedron B P = .ok (some (.polygon Q))) :
    ∃ Q', Q'.Valid ∧ interPolygonPolygon Q' P = .ok (some (.polygon Q)) := by
  have hpW := Polygon.plane_WF P hv
  obtain ⟨o, ho, hw, _⟩ := interPlanePolyhedron_exact_hull P.plane hpW B hH
  unfold interPolygonPolyhedron at h
  rw [ho] at h
  cases o with
  | none => cases h
  | some ob =>
    obtain ⟨q, rfl⟩ | ⟨s, rfl⟩ | ⟨Q', rfl⟩ := interPlanePolyhedron_shape _ _ _ ho
    · simp only [interPointPolygon] at h
      split at h <;> cases h
    · obtain ⟨o', ho', hw', _⟩ := interSegPolygon_exactPS s hw P hv
      simp only at h
      rw [ho'] at h
      cases h
      exact absurd hw' (by simp [ObjFlatWF])
    · exact ⟨Q', interPlanePolyhedron_polygon_valid P.plane hpW B hH Q' ho, h⟩

theorem interPolygonPolyhedron_polygon_valid (B : Polyhedron) (hH : B.ExactHyp) (P : Polygon) (hv : P.Valid)
    (Q : Polygon) (h : interPolygonPolyhedron B P = .ok (some (.polygon Q))) : Q.Valid := by
  obtain ⟨Q', hQ', h'⟩ := K4.interPolygonPolyhedron_polygon_origin B hH P hv Q h
  exact (interPolygonPolygon_coplanar_polygon_valid Q' P hQ' hv
    (K4.interPolygonPolygon_polygon_coplanar Q' P Q h') Q h').1
#print axioms interPolygonPolyhedron_polygon_valid

/-! ### the clip of one face -/

/-- what a clip result looks like -/
inductive K4.Shape : Option Obj → Prop
  | none : K4.Shape none
  | point (q : V3) : K4.Shape (some (.flat (.point q)))
  | seg (s : Seg) (hw : s.WF) : K4.Shape (some (.flat (.seg s)))
  | gon (Q : Polygon) (hv : Q.Valid) : K4.Shape (some (.polygon Q))

/-- `o` is the clip of the polygon `f` by the body `X`: the handler returns it, it is `None`, a Point, a well-formed
    Segment or a `Valid` polygon, and it denotes exactly `f ∩ X` -/
structure K4.Piece (X : Polyhedron) (f : Polygon) (o : Option Obj) : Prop where
  eq : interPolygonPolyhedron X f = .ok o
  shape : K4.Shape o
  den : ∀ x, denOptB o x ↔ (InHull f.pts x ∧ InHull X.verts x)

theorem K4.piece (X : Polyhedron) (hH : X.ExactHyp) (f : Polygon) (hv : f.Valid) : ∃ o, K4.Piece X f o := by
  obtain ⟨o, ho, hw, hd⟩ := interPolygonPolyhedron_exact X hH f hv
  refine ⟨o, ho, ?_, hd⟩
  have hty := interPolygonPolyhedron_typed X f o ho
  cases o with
  | none => exact .none
  | some ob =>
    cases ob with
    | flat g =>
      cases g with
      | point q => exact .point q
      | seg s => exact .seg s hw
      | line _ => simp [resTyOf] at hty
      | plane _ => simp [resTyOf] at hty
      | halfline _ => simp [resTyOf] at hty
    | polygon Q => exact .gon Q (interPolygonPolyhedron_polygon_valid X hH f hv Q ho)
    | polyhedron _ => simp [resTyOf] at hty

/-! ### the dedup insertions -/
section dedup
variable {α : Type} (same : α → α → Bool)

/-- the common shape of `addPolygon` and `addSeg` -/
def K4.addD (l : List α) (a : α) : List α := if l.any (fun x => same x a) then l else l ++ [a]

/-- `out` is `acc` extended by the `a` with `P a`, each represented up to `same`; no `same`-related pair comes in -/
structure K4.Ext (P : α → Prop) (acc out : List α) : Prop where
  sub : ∀ a ∈ out, a ∈ acc ∨ P a
  keep : ∀ a ∈ acc, a ∈ out
  rep : ∀ a, P a → ∃ a' ∈ out, a' = a ∨ same a' a = true
  pw : acc.Pairwise (fun x y => same x y = false) → out.Pairwise (fun x y => same x y = false)

variable {same} {P Q : α → Prop} {l m n : List α}

theorem K4.Ext.refl (h : ∀ a, ¬ P a) : K4.Ext same P l l :=
  ⟨fun _ ha => Or.inl ha, fun _ ha => ha, fun a ha => (h a ha).elim, id⟩

theorem K4.Ext.addD (a : α) : K4.Ext same (· = a) l (K4.addD same l a) := by
  unfold K4.addD
  split
  · rename_i h
    obtain ⟨x, hx, hs⟩ := List.any_eq_true.mp h
    exact ⟨fun _ hb => Or.inl hb, fun _ hb => hb, fun b hb => ⟨x, hx, Or.inr (hb ▸ hs)⟩, id⟩
  · rename_i hn
    refine ⟨fun b hb => ?_, fun b hb => by simp [hb], fun b hb => ⟨a, by simp, Or.inl hb.symm⟩, fun h => ?_⟩
    · simpa using hb
    · refine List.pairwise_append.mpr ⟨h, List.pairwise_singleton _ _, fun x hx y hy => ?_⟩
      rw [List.mem_singleton.mp hy]
      exact Bool.eq_false_iff.mpr fun hs => hn (List.any_eq_true.mpr ⟨x, hx, hs⟩)

theorem K4.Ext.trans (h1 : K4.Ext same P l m) (h2 : K4.Ext same Q m n) : K4.Ext same (fun a => P a ∨ Q a) l n := by
  refine ⟨fun a ha => ?_, fun a ha => h2.keep a (h1.keep a ha), ?_, fun h => h2.pw (h1.pw h)⟩
  · rcases h2.sub a ha with h | h
    · exact (h1.sub a h).imp_right Or.inl
    · exact Or.inr (Or.inr h)
  · rintro a (ha | ha)
    · obtain ⟨a', ha', hs⟩ := h1.rep a ha
      exact ⟨a', h2.keep a' ha', hs⟩
    · exact h2.rep a ha

theorem K4.Ext.congr (h : K4.Ext same P l m) (hPQ : ∀ a, P a ↔ Q a) : K4.Ext same Q l m :=
  ⟨fun a ha => (h.sub a ha).imp_right (hPQ a).mp, h.keep, fun a ha => h.rep a ((hPQ a).mpr ha), h.pw⟩

theorem K4.Ext.mem_iff [DecidableEq α] (h : K4.Ext (fun a b => decide (a = b)) P l m) (a : α) :
    a ∈ m ↔ (a ∈ l ∨ P a) := by
  refine ⟨h.sub a, fun ha => ?_⟩
  rcases ha with ha | ha
  · exact h.keep a ha
  · obtain ⟨a', ha', hs⟩ := h.rep a ha
    rwa [← hs.elim id of_decide_eq_true]

theorem K4.Ext.nodup [DecidableEq α] (h : K4.Ext (fun a b => decide (a = b)) P l m) (hl : l.Nodup) : m.Nodup :=
  (h.pw (hl.imp fun hne => decide_eq_false hne)).imp of_decide_eq_false
end dedup

theorem K4.addPolygon_eq (l : List Polygon) (P : Polygon) : addPolygon l P = K4.addD Polygon.same l P := rfl
theorem K4.addSeg_eq (l : List Seg) (s : Seg) : addSeg l s = K4.addD Seg.same l s := rfl
theorem K4.addNew_eq (l : List V3) (q : V3) : addNew l q = K4.addD (fun a b => decide (a = b)) l q :=
  if_congr (by simp) rfl rfl

/-! ### `clipFaces` -/

/-- one step of the loop -/
def K4.push (acc : Parts) : Option Obj → Parts
  | some (.flat (.point q)) => { acc with pts := addNew acc.pts q }
  | some (.flat (.seg s)) => { acc with segs := addSeg acc.segs s }
  | some (.polygon Q) => { acc with gons := addPolygon acc.gons Q }
  | _ => acc

theorem K4.clipFaces_cons (X : Polyhedron) (f : Polygon) (fs : List Polygon) (acc : Parts) (o : Option Obj)
    (h : interPolygonPolyhedron X f = .ok o) : clipFaces X (f :: fs) acc = clipFaces X fs (K4.push acc o) := by
  rw [clipFaces, h]
  rcases o with _ | g | Q | P
  · rfl
  · cases g <;> rfl
  · rfl
  · rfl

theorem K4.push_ext (acc : Parts) (o : Option Obj) :
    K4.Ext Polygon.same (fun g => o = some (.polygon g)) acc.gons (K4.push acc o).gons ∧
    K4.Ext Seg.same (fun s => o = some (.flat (.seg s))) acc.segs (K4.push acc o).segs ∧
    K4.Ext (fun a b => decide (a = b)) (fun q => o = some (.flat (.point q))) acc.pts (K4.push acc o).pts := by
  have new : ∀ {α : Type} {same : α → α → Bool} {l : List α} {a : α} (emb : α → Option Obj),
      (∀ b, emb a = emb b ↔ b = a) → K4.Ext same (fun b => emb a = emb b) l (K4.addD same l a) :=
    fun emb h => (K4.Ext.addD _).congr fun b => (h b).symm
  rcases o with _ | g | Q | P
  · exact ⟨.refl (by simp), .refl (by simp), .refl (by simp)⟩
  · cases g with
    | point q =>
      refine ⟨.refl (by simp), .refl (by simp), ?_⟩
      show K4.Ext _ _ acc.pts (addNew acc.pts q)
      rw [K4.addNew_eq]
      exact new (fun q => some (.flat (.point q))) (by simp [eq_comm])
    | seg s => exact ⟨.refl (by simp), new (fun s => some (.flat (.seg s))) (by simp [eq_comm]), .refl (by simp)⟩
    | _ => exact ⟨.refl (by simp), .refl (by simp), .refl (by simp)⟩
  · exact ⟨new (fun Q => some (.polygon Q)) (by simp [eq_comm]), .refl (by simp), .refl (by simp)⟩
  · exact ⟨.refl (by simp), .refl (by simp), .refl (by simp)⟩

def K4.ClipIn (X : Polyhedron) (fs : List Polygon) (o : Option Obj) : Prop :=
  ∃ f ∈ fs, interPolygonPolyhedron X f = .ok o

theorem K4.ClipIn.cons_iff {X : Polyhedron} {f : Polygon} {o : Option Obj} (ho : interPolygonPolyhedron X f = .ok o)
    (fs : List Polygon) (o' : Option Obj) : K4.ClipIn X (f :: fs) o' ↔ (o = o' ∨ K4.ClipIn X fs o') := by
  simp only [K4.ClipIn, List.mem_cons, or_and_right, exists_or, exists_eq_left, ho, Except.ok.injEq]

structure K4.Clipped (X : Polyhedron) (fs : List Polygon) (acc out : Parts) : Prop where
  gons : K4.Ext Polygon.same (fun g => K4.ClipIn X fs (some (.polygon g))) acc.gons out.gons
  segs : K4.Ext Seg.same (fun s => K4.ClipIn X fs (some (.flat (.seg s)))) acc.segs out.segs
  pts : K4.Ext (fun a b => decide (a = b)) (fun q => K4.ClipIn X fs (some (.flat (.point q)))) acc.pts out.pts

/-- `clipFaces` never errors when every single clip succeeds, and collects the clips -/
theorem K4.clipFaces_clipped (X : Polyhedron) : ∀ (fs : List Polygon) (acc : Parts),
    (∀ f ∈ fs, ∃ o, interPolygonPolyhedron X f = .ok o) →
    ∃ out, clipFaces X fs acc = .ok out ∧ K4.Clipped X fs acc out := by
  intro fs
  induction fs with
  | nil =>
    have no : ∀ o, ¬ K4.ClipIn X [] o := fun o ⟨_, hf, _⟩ => nomatch hf
    exact fun acc _ => ⟨acc, rfl, .refl fun _ => no _, .refl fun _ => no _, .refl fun _ => no _⟩
  | cons f fs ih =>
    intro acc h
    obtain ⟨o, ho⟩ := h f (by simp)
    obtain ⟨out, hout, hc⟩ := ih (K4.push acc o) (fun f' hf' => h f' (by simp [hf']))
    obtain ⟨pg, ps, pp⟩ := K4.push_ext acc o
    exact ⟨out, by rw [K4.clipFaces_cons X f fs acc o ho]; exact hout,
      (pg.trans hc.gons).congr fun _ => (K4.ClipIn.cons_iff ho fs _).symm,
      (ps.trans hc.segs).congr fun _ => (K4.ClipIn.cons_iff ho fs _).symm,
      (pp.trans hc.pts).congr fun _ => (K4.ClipIn.cons_iff ho fs _).symm⟩

/-- what `clipFaces X fs acc = .ok out` collects: the clips of the faces `fs`, sorted by kind, on top of `acc`;
    every clip is represented (polygons and segments up to `same`), nothing else is added, no repetitions -/
structure K4.Collected (X : Polyhedron) (fs : List Polygon) (acc out : Parts) : Prop where
  gons_sub : ∀ g ∈ out.gons, g ∈ acc.gons ∨ ∃ f ∈ fs, interPolygonPolyhedron X f = .ok (some (.polygon g))
  gons_keep : ∀ g ∈ acc.gons, g ∈ out.gons
  gons_rep : ∀ f ∈ fs, ∀ g, interPolygonPolyhedron X f = .ok (some (.polygon g)) →
    ∃ g' ∈ out.gons, g' = g ∨ g'.same g = true
  gons_pw : acc.gons.Pairwise (fun a b => a.same b = false) → out.gons.Pairwise (fun a b => a.same b = false)
  segs_sub : ∀ s ∈ out.segs, s ∈ acc.segs ∨ ∃ f ∈ fs, interPolygonPolyhedron X f = .ok (some (.flat (.seg s)))
  segs_keep : ∀ s ∈ acc.segs, s ∈ out.segs
  segs_rep : ∀ f ∈ fs, ∀ s, interPolygonPolyhedron X f = .ok (some (.flat (.seg s))) →
    ∃ s' ∈ out.segs, s' = s ∨ s'.same s = true
  segs_pw : acc.segs.Pairwise (fun a b => a.same b = false) → out.segs.Pairwise (fun a b => a.same b = false)
  pts_mem : ∀ q, q ∈ out.pts ↔ (q ∈ acc.pts ∨ ∃ f ∈ fs, interPolygonPolyhedron X f = .ok (some (.flat (.point q))))
  pts_nodup : acc.pts.Nodup → out.pts.Nodup

theorem K4.Clipped.collected {X : Polyhedron} {fs : List Polygon} {acc out : Parts} (h : K4.Clipped X fs acc out) :
    K4.Collected X fs acc out :=
  ⟨h.gons.sub, h.gons.keep, fun f hf g hg => h.gons.rep g ⟨f, hf, hg⟩, h.gons.pw,
   h.segs.sub, h.segs.keep, fun f hf s hs => h.segs.rep s ⟨f, hf, hs⟩, h.segs.pw, h.pts.mem_iff, h.pts.nodup⟩

/-- **`clipFaces_spec`**: for a body `X` satisfying `ExactHyp` and `Valid` polygons `fs`, the loop never errors;
    the parts returned are (`K4.Collected`) exactly the clips of the `fs` on top of `acc`, and every clip
    (`K4.Piece`) is `None`, a Point, a well-formed Segment or a `Valid` polygon denoting exactly `f ∩ X` -/
theorem clipFaces_spec (X : Polyhedron) (hH : X.ExactHyp) (fs : List Polygon) (hfs : ∀ f ∈ fs, f.Valid)
    (acc : Parts) :
    (∀ f ∈ fs, ∃ o, K4.Piece X f o) ∧ ∃ out, clipFaces X fs acc = .ok out ∧ K4.Collected X fs acc out := by
  have hp := fun f hf => K4.piece X hH f (hfs f hf)
  obtain ⟨out, ho, hc⟩ := K4.clipFaces_clipped X fs acc fun f hf => (hp f hf).imp fun _ h => h.eq
  exact ⟨hp, out, ho, hc.collected⟩
#print axioms clipFaces_spec

end G3D
