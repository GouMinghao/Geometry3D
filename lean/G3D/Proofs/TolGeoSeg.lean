import G3D.Proofs.TolGeoPlane

/-! C19 for Segment and HalfLine. -/
namespace G3D.TolGeo
open R3

/-! ## Segment -/

/-- (a) **Segment equality**: both end points perturbed by ≤ eps/1000 per coordinate; no bound on the data. -/
theorem Segment.eqT_of_close {eps : ℝ} {S S' : Segment} (heps : 0 < eps)
    (hs : closeBy (eps / 1000) S.s S'.s) (he : closeBy (eps / 1000) S.e S'.e) :
    Segment.eqT eps S S' ∧ Segment.eqT eps S' S :=
  ⟨Or.inl ⟨(vecEq_of_close heps hs).1, (vecEq_of_close heps he).1⟩,
   Or.inl ⟨(vecEq_of_close heps hs).2, (vecEq_of_close heps he).2⟩⟩

/-- (c) **Rejection**: if the start point of `T` differs by more than 4·eps in some coordinate from BOTH end points of
    `S`, the segments are unequal (neither the direct nor the swapped match of segment.py:50-54 can hold). -/
theorem Segment.not_eqT_of_far {eps : ℝ} {S T : Segment} (heps : 0 < eps)
    (h1 : 4 * eps < |S.s.x - T.s.x| ∨ 4 * eps < |S.s.y - T.s.y| ∨ 4 * eps < |S.s.z - T.s.z|)
    (h2 : 4 * eps < |S.e.x - T.s.x| ∨ 4 * eps < |S.e.y - T.s.y| ∨ 4 * eps < |S.e.z - T.s.z|) :
    ¬ Segment.eqT eps S T := by
  rintro (⟨h, _⟩ | ⟨h, _⟩)
  · exact (not_vecEq_of_far heps h1).1 h
  · exact (not_vecEq_of_far heps h2).1 h

/-- the relative-length tests of segment.py:68-73 on perturbed data:
    `v1·v = t·|v|² + q·v` with every coordinate of `q` within `c`, so `rel = t + q·v/|v|²` with
    `|q·v| ≤ 3·c·|v| < eps·|v|²` -/
theorem rel_bounds {eps t c : ℝ} {v q : R3} (ht0 : 0 ≤ t) (ht1 : t ≤ 1) (hq : coordLe c q)
    (hL : 0 < len v) (hc : 3 * c < eps * len v) :
    (t * dot v v + dot q v) / len v / len v > -eps ∧
    (t * dot v v + dot q v) / len v / len v < 1 + eps := by
  have hV := mul_pos hL hL
  have hw := abs_le.1 (abs_dot_le_of_coord hq (coordLe_len v))
  have h1 := mul_lt_mul_of_pos_right hc hL
  have h3 := mul_nonneg ht0 hV.le
  have h4 := mul_le_mul_of_nonneg_right ht1 hV.le
  rw [div_div, ← len_mul_self, gt_iff_lt, lt_div_iff₀ hV, div_lt_iff₀ hV]
  constructor <;> linarith

/-- (b) **Segment contains the other segment's points.**  `x = S.s + t·(S.e − S.s)`, `0 ≤ t ≤ 1`, lies exactly on `S`;
    `S'` is a copy whose end points are perturbed by ≤ eps/1000 per coordinate; `|S.e − S.s| ≥ 1/10`; `t = 0` or `t² ≥ eps`
    (both end points qualify as soon as eps ≤ 1). -/
theorem Segment.containsT_of_close {eps t : ℝ} {S S' : Segment} (heps : 0 < eps) (heps1 : eps ≤ 1)
    (hs : closeBy (eps / 1000) S.s S'.s) (he : closeBy (eps / 1000) S.e S'.e)
    (hd : 1 / 100 ≤ dot (sub S.e S.s) (sub S.e S.s)) (ht0 : 0 ≤ t) (ht1 : t ≤ 1)
    (ht : t = 0 ∨ eps ≤ t ^ 2) :
    Segment.containsT eps S' (add S.s (smul t (sub S.e S.s))) := by
  have hdv := hs.sub he
  refine (em _).imp_right fun hnear => ⟨hnear,
    Line.containsT_of_close2 (l := S.line) (l' := S'.line) heps heps1 hs hdv hd ht, ?_⟩
  -- q = (s − s') + t·((e − s) − (e' − s'))
  have e : dot (sub (add S.s (smul t (sub S.e S.s))) S'.s) (sub S'.e S'.s)
      = t * dot (sub S'.e S'.s) (sub S'.e S'.s)
        + dot (add (sub S.s S'.s) (smul t (sub (sub S.e S.s) (sub S'.e S'.s)))) (sub S'.e S'.s) := by
    simp only [dot, sub, add, smul]; ring
  unfold Segment.rel
  rw [e]
  have hL : 1 / 10 ≤ len (sub S.e S.s) := le_len (by linarith)
  have hL' : 1 / 16 ≤ len (sub S'.e S'.s) := len_ge_of_close hdv (by linarith)
  refine rel_bounds ht0 ht1
    (hs.symm.sub_coord.add (hdv.symm.sub_coord.smul (abs_le.2 ⟨by linarith, ht1⟩))) (by linarith) ?_
  linarith [mul_le_mul_of_nonneg_left hL' heps.le]

/-! ## HalfLine -/

/-- `v·v' ≥ 0` for a perturbed copy `v'` of `v` with `2γ ≤ |v|`: `v·v' = |v|² + v·(v' − v) ≥ |v|·(|v| − 2γ)` -/
theorem dot_close_nonneg {v v' : R3} {γ : ℝ} (h : closeBy γ v v') (hL : 2 * γ ≤ len v) : 0 ≤ dot v v' := by
  have e : dot v v' = dot v v + dot v (sub v' v) := by simp only [dot, sub]; ring
  have := mul_le_mul_of_nonneg_left ((len_le_of_coord h.sub_coord).trans hL) (len_nonneg v)
  linarith [(abs_le.1 (abs_dot_le v (sub v' v))).1, len_mul_self v]

/-- (a) **HalfLine equality**: point and vector perturbed by ≤ eps/1000 per coordinate, `|v| ≥ 1/10`, `eps ≤ 1`. -/
theorem HalfLine.eqT_of_close {eps : ℝ} {H H' : HalfLine} (heps : 0 < eps) (heps1 : eps ≤ 1)
    (hp : closeBy (eps / 1000) H.p H'.p) (hv : closeBy (eps / 1000) H.v H'.v)
    (hvv : 1 / 100 ≤ dot H.v H.v) :
    HalfLine.eqT eps H H' ∧ HalfLine.eqT eps H' H := by
  have hL : 1 / 10 ≤ len H.v := le_len (by linarith)
  have hL' : 0 < len H'.v := (by norm_num : (0 : ℝ) < 1 / 16).trans_le (len_ge_of_close hv (by linarith))
  have hc := normalized_closeBy (by norm_num) hL hL' hv
  exact ⟨⟨(vecEq_of_close heps hp).1, (len_le_of_coord hc.symm.sub_coord).trans_lt (by linarith)⟩,
    ⟨(vecEq_of_close heps hp).2, (len_le_of_coord hc.sub_coord).trans_lt (by linarith)⟩⟩

/-- the projection test at a point `y` near the apex: `|(y − p)·v| ≤ 3·δ·M < eps` -/
theorem HalfLine.proj_near {eps δ M : ℝ} {K : HalfLine} {y : R3} (hy : closeBy δ K.p y) (hK : coordLe M K.v)
    (h : 3 * (δ * M) < eps) : dot (sub y K.p) K.v > -eps := by
  linarith [(abs_le.1 (abs_dot_le_of_coord hy.sub_coord hK)).1]

/-- (b) **HalfLine contains the other half-line's points.**  `x = H.p + t·H.v`, `t ≥ 0`, lies exactly on `H`; copy perturbed
    by ≤ eps/1000 per coordinate; `1/10 ≤ |H.v|`, coordinates of `H.v` at most 300 in absolute value; `t = 0` or `t² ≥ eps`. -/
theorem HalfLine.containsT_of_close {eps t : ℝ} {H H' : HalfLine} (heps : 0 < eps) (heps1 : eps ≤ 1)
    (hp : closeBy (eps / 1000) H.p H'.p) (hv : closeBy (eps / 1000) H.v H'.v)
    (hvv : 1 / 100 ≤ dot H.v H.v) (hM : |H.v.x| ≤ 300 ∧ |H.v.y| ≤ 300 ∧ |H.v.z| ≤ 300)
    (ht0 : 0 ≤ t) (ht : t = 0 ∨ eps ≤ t ^ 2) :
    HalfLine.containsT eps H' (add H.p (smul t H.v)) := by
  refine ⟨Line.containsT_of_close (l := H.line) (l' := H'.line) heps heps1 hp hv hvv ht, ?_⟩
  have e : dot (sub (add H.p (smul t H.v)) H'.p) H'.v = t * dot H.v H'.v + dot (sub H.p H'.p) H'.v := by
    simp only [dot, sub, add, smul]; ring
  rw [e]
  have hL : 1 / 10 ≤ len H.v := le_len (by linarith)
  linarith [mul_nonneg ht0 (dot_close_nonneg hv (by linarith)),
    HalfLine.proj_near hp.symm ((hv.coordLe hM).mono (by linarith)) (by linarith : 3 * (eps / 1000 * 301) < eps)]

/-- **HalfLine in HalfLine** (halfline.py:71-76) for perturbed copies, both orders: the apex of each half-line is
    within eps of the other apex (early exit of `parallel`, then `HalfLine.proj_near`) -/
theorem HalfLine.containsHL_of_close {eps : ℝ} {H H' : HalfLine} (heps : 0 < eps) (heps1 : eps ≤ 1)
    (hp : closeBy (eps / 1000) H.p H'.p) (hv : closeBy (eps / 1000) H.v H'.v)
    (hvv : 1 / 100 ≤ dot H.v H.v) (hM : |H.v.x| ≤ 300 ∧ |H.v.y| ≤ 300 ∧ |H.v.z| ≤ 300) :
    HalfLine.containsHL eps H' H ∧ HalfLine.containsHL eps H H' := by
  have hl := Line.eqT_of_close (l := H.line) (l' := H'.line) heps hp hv
  have hL : 1 / 10 ≤ len H.v := le_len (by linarith)
  have h1 := dot_close_nonneg hv (by linarith)
  have hcomm : dot H'.v H.v = dot H.v H'.v := by simp only [dot]; ring
  have hlt : eps / 1000 < eps := by linarith
  have h3 : 3 * (eps / 1000 * 301) < eps := by linarith
  refine ⟨⟨hl.2, ⟨Line.containsT_near _ (hp.symm.vecEq hlt),
      HalfLine.proj_near hp.symm ((hv.coordLe hM).mono (by linarith)) h3⟩, ?_⟩,
    ⟨hl.1, ⟨Line.containsT_near _ (hp.vecEq hlt), HalfLine.proj_near hp (coordLe.mono hM (by norm_num)) h3⟩, ?_⟩⟩
  · rw [hcomm]; linarith
  · linarith

end G3D.TolGeo
