import Mathlib.Analysis.SpecialFunctions.Trigonometric.Basic
import Mathlib.Tactic.Ring
import Mathlib.Tactic.Linarith
import Mathlib.Tactic.LinearCombination
import Mathlib.Tactic.FieldSimp
import Mathlib.Tactic.Positivity
import Mathlib.Algebra.BigOperators.Group.Finset.Basic
import G3D.Proofs.BuildersReal

/-! C14 over ℝ, surface AREA of the inscribed Cylinder and Cone in closed form.

    The area of a planar convex face is half the Euclidean length of the shoelace vector area of its vertex cycle
    (`vecArea2R`; this is what the model's `areaNum / (2|n|)` computes); the surface area of a solid is the sum over
    its face list.  The face lists are the ones of G3D/Model/Builders.lean (`cylinderOriented`, `coneOriented`: the
    Python `cpg_list` after the orientation repair of the constructor) placed by `cylinderPlace` / `conePlace`; the
    area does not depend on the orientation repair (`BA.surfArea_applyFlips`), so the same closed forms hold for the
    lists as coded (`cylinderFaces`, `coneFaces`). -/
namespace G3D
namespace BuildersReal
open Real Builders R3

/-- Euclidean length -/
noncomputable def BA.norm (a : R3) : ℝ := √(normSq a)

/-- area of a planar face: half the length of the shoelace vector area of its vertex cycle -/
noncomputable def BA.faceArea (l : List R3) : ℝ := BA.norm (vecArea2R l) / 2

/-- surface area of a face list -/
noncomputable def BA.surfArea (fs : List (List R3)) : ℝ := (fs.map BA.faceArea).sum

theorem BA.norm_smul (t : ℝ) (a : R3) : BA.norm (smul t a) = |t| * BA.norm a := by
  unfold BA.norm
  rw [normSq_smul, sqrt_mul (sq_nonneg t), sqrt_sq_eq_abs]

theorem BA.norm_of_sq (a : R3) (m : ℝ) (hm : 0 ≤ m) (h : normSq a = m ^ 2) : BA.norm a = m := by
  unfold BA.norm; rw [h, sqrt_sq hm]

theorem BA.norm_cross_of_orthogonal (a b : R3) (h : dot a b = 0) : BA.norm (cross a b) = BA.norm a * BA.norm b := by
  unfold BA.norm
  rw [normSq_cross, h, ← sqrt_mul (normSq_nonneg _)]; congr 1; ring

theorem BA.norm_cross_frame (nrm u v : R3) (r : ℝ) (F : Frame nrm u v r) : BA.norm (cross u v) = r ^ 2 :=
  BA.norm_of_sq _ _ (sq_nonneg r) F.normSq_cross

/-- the orientation repair does not change a face's area -/
theorem BA.faceArea_flip (l : List R3) : BA.faceArea (flipCycle l) = BA.faceArea l := by
  unfold BA.faceArea
  rw [vecArea2R_flip, BA.norm_smul]; simp

/-- … nor the surface area -/
theorem BA.surfArea_applyFlips (mask : List Bool) (fs : List (List R3)) (h : fs.length ≤ mask.length) :
    BA.surfArea (applyFlips mask fs) = BA.surfArea fs := by
  unfold BA.surfArea
  rw [map_applyFlips _ BA.faceArea_flip _ _ h]

theorem BA.sin_div_nat_nonneg (x : ℝ) (n : ℕ) (hx : 0 ≤ x) (hn : x ≤ n * π) : 0 ≤ sin (x / n) := by
  rcases Nat.eq_zero_or_pos n with rfl | h0
  · simp
  · have hn' : (0 : ℝ) < n := by exact_mod_cast h0
    exact sin_nonneg_of_nonneg_of_le_pi (by positivity) ((div_le_iff₀ hn').mpr (by linarith))

theorem BA.sin_two_pi_div_nonneg (n : ℕ) (hn : 2 ≤ n) : 0 ≤ sin (2 * π / n) :=
  BA.sin_div_nat_nonneg _ n (by positivity) (mul_le_mul_of_nonneg_right (by exact_mod_cast hn) pi_pos.le)

theorem BA.sin_pi_div_nonneg (n : ℕ) (hn : 1 ≤ n) : 0 ≤ sin (π / n) :=
  BA.sin_div_nat_nonneg _ n pi_pos.le (le_mul_of_one_le_left pi_pos.le (by exact_mod_cast hn))

/-- C14, area of an inscribed n-gon (Circle; caps of the Cylinder; base of the Cone) as the face area of the point
    list returned by `get_circle_point_list`: `n/2·r²·sin(2π/n)` -/
theorem BA.ring_faceArea (a nrm u v : R3) (r : ℝ) (n : ℕ) (hn : 2 ≤ n) (F : Frame nrm u v r) :
    BA.faceArea ((List.range n).map (fun i => circlePoint a u v (stepAngle n i))) =
      n / 2 * r ^ 2 * sin (2 * π / n) := by
  unfold BA.faceArea
  rw [ring_vecArea2 a u v n (by omega), BA.norm_smul, BA.norm_cross_frame nrm u v r F,
    abs_of_nonneg (mul_nonneg (Nat.cast_nonneg n) (BA.sin_two_pi_div_nonneg n hn))]
  ring

/-- C14, Circle area (the polygon `Circle(center, normal, radius, n)`) -/
theorem BA.circle_faceArea (c nrm u v : R3) (r : ℝ) (n : ℕ) (hn : 2 ≤ n) (F : Frame nrm u v r) :
    BA.surfArea ((circleFaces n).map (List.map (fun i => circlePoint c u v (stepAngle n i)))) =
      n / 2 * r ^ 2 * sin (2 * π / n) := by
  simp only [circleFaces, BA.surfArea, List.map_cons, List.map_nil, List.sum_cons, List.sum_nil, add_zero]
  exact BA.ring_faceArea c nrm u v r n hn F

/-! ### chord -/
/-- the chord of one angular step: `|P_{i+1} − P_i| = 2·r·sin(π/n)` -/
theorem BA.chord_len (c nrm u v : R3) (r : ℝ) (n i : ℕ) (hn : 1 ≤ n) (hr : 0 ≤ r) (F : Frame nrm u v r) :
    BA.norm (sub (circlePoint c u v (stepAngle n (i + 1))) (circlePoint c u v (stepAngle n i))) =
      2 * r * sin (π / n) := by
  apply BA.norm_of_sq _ _ (mul_nonneg (by linarith) (BA.sin_pi_div_nonneg n hn))
  rw [circle_chord c nrm u v r n i F]
  have e : 2 * π / n = 2 * (π / n) := by ring
  rw [e, cos_two_mul]
  have := cos_sq_add_sin_sq (π / n)
  linear_combination (-4 * r ^ 2) * this

/-! ### Cylinder -/
/-- the chord is orthogonal to the axis -/
theorem BA.chord_dot_axis (c h u v : R3) (r α β : ℝ) (F : Frame h u v r) :
    dot (sub (circlePoint c u v β) (circlePoint c u v α)) h = 0 := by
  obtain ⟨_, h1⟩ := circle_points c h u v r α F
  obtain ⟨_, h2⟩ := circle_points c h u v r β F
  simp only [dot, sub] at h1 h2 ⊢
  linear_combination h2 - h1

/-- per-face formula, side rectangle of the Cylinder (`top_s, top_e, bottom_e, bottom_s`, after the repair
    `top_s, bottom_s, bottom_e, top_e`): area = chord × |h| = `2·r·sin(π/n)·|h|`  (axis ⟂ frame) -/
theorem BA.cylinder_side_faceArea (c h u v : R3) (r : ℝ) (n i : ℕ) (hn : 1 ≤ n) (hr : 0 ≤ r) (F : Frame h u v r) :
    BA.faceArea [add (circlePoint c u v (stepAngle n i)) h, circlePoint c u v (stepAngle n i),
        circlePoint c u v (stepAngle n (i + 1)), add (circlePoint c u v (stepAngle n (i + 1))) h] =
      2 * r * sin (π / n) * BA.norm h := by
  unfold BA.faceArea
  rw [quad_vecArea2, BA.norm_smul]
  rw [BA.norm_cross_of_orthogonal _ _ (BA.chord_dot_axis c h u v r (stepAngle n i) (stepAngle n (i + 1)) F),
    BA.chord_len c h u v r n i hn hr F]
  simp

theorem BA.sum_map_const (n : ℕ) (K : ℝ) (G : ℕ → ℝ) (hG : ∀ i, i < n → G i = K) :
    ((List.range n).map G).sum = n * K := by
  have : (List.range n).map G = (List.range n).map (fun _ => K) :=
    List.map_congr_left (fun i hi => hG i (List.mem_range.mp hi))
  rw [this]; simp

/-- C14, Cylinder surface area, every n ≥ 2: the faces of `Cylinder(circle_center, radius, height_vector, n)`
    (`[top_circle, bottom_circle] + n side quadrilaterals`, oriented as the constructor leaves them) have total area
    `2·(n/2·r²·sin(2π/n)) + n·(2·r·sin(π/n))·|h|` — two n-gon caps and n rectangles chord × |h| -/
theorem BA.cylinder_area (c h u v : R3) (r : ℝ) (n : ℕ) (hn : 2 ≤ n) (hr : 0 ≤ r) (F : Frame h u v r) :
    BA.surfArea ((cylinderOriented n).map (List.map (cylinderPlace c h u v n))) =
      2 * (n / 2 * r ^ 2 * sin (2 * π / n)) + n * (2 * r * sin (π / n) * BA.norm h) := by
  rw [cylinder_placed c h u v n (by omega)]
  unfold BA.surfArea
  simp only [List.map_cons, List.map_append, List.sum_cons, List.sum_append, List.map_map, List.map_nil, List.sum_nil]
  rw [BA.faceArea_flip, BA.ring_faceArea _ h u v r n hn F, BA.ring_faceArea _ h u v r n hn F,
    BA.sum_map_const n (2 * r * sin (π / n) * BA.norm h)]
  · ring
  · intro i _
    exact BA.cylinder_side_faceArea c h u v r n i (by omega) hr F

/-- the same for the face list as coded (before the orientation repair) -/
theorem BA.cylinder_area_coded (c h u v : R3) (r : ℝ) (n : ℕ) (hn : 2 ≤ n) (hr : 0 ≤ r) (F : Frame h u v r) :
    BA.surfArea ((cylinderFaces n).map (List.map (cylinderPlace c h u v n))) =
      2 * (n / 2 * r ^ 2 * sin (2 * π / n)) + n * (2 * r * sin (π / n) * BA.norm h) := by
  rw [← BA.cylinder_area c h u v r n hn hr F, cylinderOriented, ← applyFlips_map, BA.surfArea_applyFlips]
  simp [cylinderFlips, cylinderFaces]

/-- closed form with the frame of `get_circle_point_list` (normal = height vector `h ≠ 0`, base vector not parallel) -/
theorem BA.cylinder_area_closed_form (c h b : R3) (r : ℝ) (n : ℕ) (hn : 2 ≤ n) (hr : 0 ≤ r)
    (hh : 0 < normSq h) (hb : 0 < normSq (cross h b)) :
    BA.surfArea ((cylinderOriented n).map (List.map (cylinderPlace c h (frameU h b r) (frameV h b r) n))) =
      2 * (n / 2 * r ^ 2 * sin (2 * π / n)) + n * (2 * r * sin (π / n) * √(normSq h)) :=
  BA.cylinder_area c h _ _ r n hn hr (frame_real h b r hh hb)

/-! ### Cone -/
theorem BA.rad_facts (h u v : R3) (r α β : ℝ) (F : Frame h u v r) :
    dot (rad u v α) (rad u v β) = r ^ 2 * cos (β - α) ∧ dot (rad u v α) h = 0 := by
  obtain ⟨hu, hv, huv, hun, hvn⟩ := F
  simp only [normSq, dot] at hu hv huv hun hvn
  constructor
  · rw [cos_sub]
    simp only [rad, dot, add, smul]
    linear_combination (cos α * cos β) * hu + (sin α * sin β) * hv + (cos α * sin β + sin α * cos β) * huv
  · simp only [rad, dot, add, smul]
    linear_combination cos α * hun + sin α * hvn

/-- squared vector area of a mantle triangle (apex, P(α), P(β)) -/
theorem BA.cone_tri_normSq (c h u v : R3) (r α β : ℝ) (F : Frame h u v r) :
    normSq (cross (sub (circlePoint c u v α) (add c h)) (sub (circlePoint c u v β) (add c h))) =
      (r ^ 2 + normSq h) ^ 2 - (r ^ 2 * cos (β - α) + normSq h) ^ 2 := by
  rw [normSq_cross, cone_slant c h u v r α F, cone_slant c h u v r β F]
  have e : dot (sub (circlePoint c u v α) (add c h)) (sub (circlePoint c u v β) (add c h)) =
      dot (rad u v α) (rad u v β) - dot (rad u v α) h - dot (rad u v β) h + normSq h := by
    simp only [circlePoint_eq, normSq, dot, sub, add]; ring
  rw [e, (BA.rad_facts h u v r α β F).1, (BA.rad_facts h u v r α β F).2, (BA.rad_facts h u v r β α F).2]
  ring

/-- per-face formula, mantle triangle of the Cone `(top_point, c_s, c_e)`: area = ½ · chord · slant height
    = `½·(2·r·sin(π/n))·√(|h|² + (r·cos(π/n))²)`  (the slant height is the distance from the apex to the chord's
    midpoint, at distance `r·cos(π/n)` from the axis) -/
theorem BA.cone_side_faceArea (c h u v : R3) (r : ℝ) (n i : ℕ) (hn : 1 ≤ n) (hr : 0 ≤ r) (F : Frame h u v r) :
    BA.faceArea [add c h, circlePoint c u v (stepAngle n i), circlePoint c u v (stepAngle n (i + 1))] =
      1 / 2 * (2 * r * sin (π / n)) * √(normSq h + (r * cos (π / n)) ^ 2) := by
  unfold BA.faceArea
  rw [tri_vecArea2]
  have hs := BA.sin_pi_div_nonneg n hn
  have hH := normSq_nonneg h
  have hpos : 0 ≤ normSq h + (r * cos (π / n)) ^ 2 := by positivity
  have : BA.norm (cross (sub (circlePoint c u v (stepAngle n i)) (add c h))
      (sub (circlePoint c u v (stepAngle n (i + 1))) (add c h))) =
      2 * r * sin (π / n) * √(normSq h + (r * cos (π / n)) ^ 2) := by
    apply BA.norm_of_sq _ _ (by positivity)
    rw [BA.cone_tri_normSq c h u v r _ _ F, stepAngle_succ, mul_pow, sq_sqrt hpos]
    have e : 2 * π / n = 2 * (π / n) := by ring
    rw [e, cos_two_mul]
    have := cos_sq_add_sin_sq (π / n)
    linear_combination (-4 * r ^ 2 * (normSq h + r ^ 2 * cos (π / n) ^ 2)) * this
  rw [this]; ring

/-- C14, Cone surface area, every n ≥ 2: the faces of `Cone(circle_center, radius, height_vector, n)`
    (`[circle] + n triangles (top_point, c_s, c_e)`, the base flipped by the constructor) have total area
    `n/2·r²·sin(2π/n) + n·½·(2·r·sin(π/n))·√(|h|² + (r·cos(π/n))²)` -/
theorem BA.cone_area (c h u v : R3) (r : ℝ) (n : ℕ) (hn : 2 ≤ n) (hr : 0 ≤ r) (F : Frame h u v r) :
    BA.surfArea ((coneOriented n).map (List.map (conePlace c h u v n))) =
      n / 2 * r ^ 2 * sin (2 * π / n) +
        n * (1 / 2 * (2 * r * sin (π / n)) * √(normSq h + (r * cos (π / n)) ^ 2)) := by
  rw [cone_placed c h u v n (by omega)]
  unfold BA.surfArea
  simp only [List.map_cons, List.sum_cons, List.map_map]
  rw [BA.faceArea_flip, BA.ring_faceArea _ h u v r n hn F,
    BA.sum_map_const n (1 / 2 * (2 * r * sin (π / n)) * √(normSq h + (r * cos (π / n)) ^ 2))]
  intro i _
  exact BA.cone_side_faceArea c h u v r n i (by omega) hr F

/-- the same for the face list as coded (before the orientation repair) -/
theorem BA.cone_area_coded (c h u v : R3) (r : ℝ) (n : ℕ) (hn : 2 ≤ n) (hr : 0 ≤ r) (F : Frame h u v r) :
    BA.surfArea ((coneFaces n).map (List.map (conePlace c h u v n))) =
      n / 2 * r ^ 2 * sin (2 * π / n) +
        n * (1 / 2 * (2 * r * sin (π / n)) * √(normSq h + (r * cos (π / n)) ^ 2)) := by
  rw [← BA.cone_area c h u v r n hn hr F, coneOriented, ← applyFlips_map, BA.surfArea_applyFlips]
  simp [coneFlips, coneFaces]

/-- closed form with the frame of `get_circle_point_list` -/
theorem BA.cone_area_closed_form (c h b : R3) (r : ℝ) (n : ℕ) (hn : 2 ≤ n) (hr : 0 ≤ r)
    (hh : 0 < normSq h) (hb : 0 < normSq (cross h b)) :
    BA.surfArea ((coneOriented n).map (List.map (conePlace c h (frameU h b r) (frameV h b r) n))) =
      n / 2 * r ^ 2 * sin (2 * π / n) +
        n * (1 / 2 * (2 * r * sin (π / n)) * √(normSq h + (r * cos (π / n)) ^ 2)) :=
  BA.cone_area c h _ _ r n hn hr (frame_real h b r hh hb)

#print axioms BA.circle_faceArea
#print axioms BA.cylinder_area
#print axioms BA.cylinder_area_coded
#print axioms BA.cylinder_area_closed_form
#print axioms BA.cone_area
#print axioms BA.cone_area_coded
#print axioms BA.cone_area_closed_form
end BuildersReal
end G3D
