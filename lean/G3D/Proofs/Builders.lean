import G3D.Model.Builders
import G3D.Proofs.Volume
import G3D.Proofs.CosSqBound
import G3D.Proofs.Judge
import Mathlib.Data.Finset.Card
import Mathlib.Algebra.BigOperators.Group.Finset.Basic

/-! C14: shape builders.
    1. combinatorial skeletons: soundness of the bit-set checkers (1a), the Parallelepiped table by kernel
       evaluation (1b), transfer to `ClosedSurface` for every placement of the ids in space (1c), structure of the
       skeletons (1d) and the Circle / Cone / Cylinder results for EVERY n ≥ 3 (1e–1g: oriented closedness, V, E, F,
       Euler; the Sphere for every n1 ≥ 3, n2 ≥ 2 is in BuildersSphereGeneral.lean);
    2. frame selection of `get_circle_point_list`;
    3. exact coordinates, validity, area and volume of Parallelogram / Parallelepiped. -/
namespace G3D
namespace Builders
open V3

/-! ## 1a. bit sets -/

@[simp] theorem force_eq {β : Type} (x : Nat) (f : Nat → β) : force x f = f x := by
  unfold force; cases x <;> rfl

theorem testBit_setBit (s k j : Nat) : (setBit s k).testBit j = (s.testBit j || decide (k = j)) := by
  unfold setBit
  rw [Nat.testBit_or, Nat.one_shiftLeft, Nat.testBit_two_pow]

theorem allDistinctGo_sound : ∀ (ks : List Nat) (s : Nat), allDistinctGo ks s = true →
    ks.Nodup ∧ ∀ k ∈ ks, s.testBit k = false := by
  intro ks
  induction ks with
  | nil => intro s _; simp
  | cons k ks ih =>
    intro s h
    unfold allDistinctGo at h
    cases hk : s.testBit k with
    | true => rw [hk] at h; simp at h
    | false =>
      rw [hk] at h
      obtain ⟨hnd, hfree⟩ := ih _ (by simpa only [force_eq] using h)
      simp only [testBit_setBit, Bool.or_eq_false_iff, decide_eq_false_iff_not] at hfree
      exact ⟨List.nodup_cons.mpr ⟨fun hmem => (hfree k hmem).2 rfl, hnd⟩,
        List.forall_mem_cons.mpr ⟨hk, fun j hj => (hfree j hj).1⟩⟩

/-! ### `dedup` -/
theorem mem_dedup {α : Type} [DecidableEq α] (l : List α) (a : α) : a ∈ dedup l ↔ a ∈ l := by
  induction l with
  | nil => simp [dedup]
  | cons b l ih => by_cases h : a = b <;> simp [dedup, ih, h]

theorem nodup_dedup {α : Type} [DecidableEq α] (l : List α) : (dedup l).Nodup := by
  induction l with
  | nil => simp [dedup]
  | cons b l ih =>
    simp only [dedup, List.nodup_cons, List.mem_filter, decide_eq_true_eq]
    exact ⟨fun h => h.2 rfl, ih.filter _⟩

theorem dedup_length_eq_card {α : Type} [DecidableEq α] (l : List α) : (dedup l).length = l.toFinset.card := by
  rw [← List.toFinset_card_of_nodup (nodup_dedup l)]
  congr 1
  ext a
  simp [mem_dedup]

theorem distinctGo_spec : ∀ (ks : List Nat) (s c : Nat) (B : Finset Nat), (∀ j, s.testBit j = true ↔ j ∈ B) →
    distinctGo ks s c + B.card = c + (B ∪ ks.toFinset).card := by
  intro ks
  induction ks with
  | nil => intro s c B _; simp [distinctGo]
  | cons k ks ih =>
    intro s c B hB
    unfold distinctGo
    rw [List.toFinset_cons, Finset.union_insert]
    cases hk : s.testBit k with
    | true =>
      rw [Finset.insert_eq_of_mem (Finset.mem_union_left _ ((hB k).mp hk))]
      exact ih s c B hB
    | false =>
      have hkB : k ∉ B := fun h => by rw [(hB k).mpr h] at hk; exact absurd hk (by decide)
      have := ih (setBit s k) (c + 1) (insert k B) (by
        intro j
        rw [testBit_setBit, Bool.or_eq_true, hB j, decide_eq_true_eq, Finset.mem_insert]
        exact ⟨fun h => h.symm.imp_left Eq.symm, fun h => h.symm.imp_right Eq.symm⟩)
      rw [Finset.card_insert_of_notMem hkB, Finset.insert_union] at this
      simp only [force_eq]
      omega

theorem distinctGo_zero (ks : List Nat) : distinctGo ks 0 0 = ks.toFinset.card := by
  simpa using distinctGo_spec ks 0 0 ∅ (by simp)

theorem vertexCountFast_eq (fs : List Face) : vertexCountFast fs = vertexCount fs := by
  unfold vertexCountFast vertexCount
  rw [distinctGo_zero, dedup_length_eq_card]

theorem consecG_eq_zip {α : Type} : ∀ l : List α, consecG l = l.zip l.tail
  | [] => rfl
  | [_] => rfl
  | a :: b :: l => by simp [consecG, consecG_eq_zip (b :: l)]

theorem cyc_cons {α : Type} (p : α) (ps : List α) : cyc (p :: ps) = (p :: ps).zip (ps ++ [p]) := by
  have := List.zip_append (l₁ := p :: ps) (r₁ := [p]) (l₂ := ps ++ [p]) (r₂ := []) (by simp)
  simpa [cyc, consecG_eq_zip] using this

theorem cyc_mem {α : Type} (l : List α) (e : α × α) (h : e ∈ cyc l) : e.1 ∈ l ∧ e.2 ∈ l := by
  cases l with
  | nil => simp [cyc] at h
  | cons p ps =>
    rw [cyc_cons] at h
    simpa [or_comm] using List.of_mem_zip (a := e.1) (b := e.2) h

theorem cyc_map {α β : Type} (g : α → β) (l : List α) : cyc (l.map g) = (cyc l).map (Prod.map g g) := by
  cases l with
  | nil => rfl
  | cons p ps => rw [List.map_cons, cyc_cons, cyc_cons, ← List.zip_map]; simp

theorem length_cyc {α : Type} (l : List α) : (cyc l).length = l.length := by
  cases l with
  | nil => rfl
  | cons a l => simp [cyc_cons]

/-- the cycle 0, 1, …, n−1 has the directed edges (i, (i+1) mod n) -/
theorem cyc_range (n : Nat) : cyc (List.range n) = (List.range n).map (fun i => (i, (i + 1) % n)) := by
  cases n with
  | zero => rfl
  | succ k =>
    have h0 : List.range (k + 1) = 0 :: List.range' 1 k := by rw [List.range_eq_range', List.range'_succ]
    have h : List.range' 1 k ++ [0] = (List.range (k + 1)).map (fun i => (i + 1) % (k + 1)) := by
      rw [List.range_succ, List.map_append, List.map_cons, List.map_nil, Nat.mod_self, List.range'_eq_map_range]
      congr 1
      apply List.map_congr_left
      intro i hi
      rw [Nat.mod_eq_of_lt (by have := List.mem_range.mp hi; omega), Nat.add_comm]
    conv_lhs => rw [h0, cyc_cons, h, ← h0]
    simpa using List.zip_map' (f := id) (g := fun i => (i + 1) % (k + 1)) (l := List.range (k + 1))

/-- `-polygon` reverses every directed edge -/
theorem cyc_flipCycle {α : Type} (l : List α) : cyc (flipCycle l) = ((cyc l).map Prod.swap).reverse := by
  cases l with
  | nil => rfl
  | cons a t =>
    rw [flipCycle, cyc_cons, cyc_cons, List.zip_swap]
    simp only [List.zip_eq_zipWith]
    rw [List.reverse_zipWith (by simp)]
    simp

/-! ### keys -/
theorem key_inj {m a b a' b' : Nat} (hb : b < m) (hb' : b' < m) (h : a * m + b = a' * m + b') :
    a = a' ∧ b = b' := by
  have hd := congrArg (· / m) h
  have hr := congrArg (· % m) h
  simp only [Nat.mul_add_mod_self_right, Nat.mod_eq_of_lt hb, Nat.mod_eq_of_lt hb'] at hr
  have hm : 0 < m := by omega
  simp only [Nat.add_comm (_ * m), Nat.add_mul_div_right _ _ hm, Nat.div_eq_of_lt hb, Nat.div_eq_of_lt hb',
    Nat.zero_add] at hd
  exact ⟨hd, hr⟩

theorem dirKey_inj {m : Nat} {e e' : Nat × Nat} (he : e.2 < m) (he' : e'.2 < m)
    (h : dirKey m e = dirKey m e') : e = e' := by
  unfold dirKey at h
  obtain ⟨h1, h2⟩ := key_inj he he' h
  exact Prod.ext h1 h2

theorem edgeKey_eq (m : Nat) (e : Nat × Nat) : edgeKey m e = dirKey m (normEdge e) := by
  unfold edgeKey normEdge dirKey
  split <;> rfl

theorem bounded_spec {m : Nat} {fs : List Face} (h : boundedB m fs = true) :
    ∀ f ∈ fs, ∀ v ∈ f, v < m := by
  unfold boundedB at h
  simp only [List.all_eq_true, Nat.blt_eq] at h
  exact h

theorem dirEdges_bounded {m : Nat} {fs : List Face} (h : boundedB m fs = true) :
    ∀ e ∈ dirEdges fs, e.1 < m ∧ e.2 < m := by
  intro e he
  unfold dirEdges at he
  obtain ⟨f, hf, hef⟩ := List.mem_flatMap.mp he
  have := cyc_mem f e hef
  exact ⟨bounded_spec h f hf _ this.1, bounded_spec h f hf _ this.2⟩

theorem edgeKeys_eq {m : Nat} {fs : List Face} (hb : boundedB m fs = true) :
    (dirEdges fs).map (edgeKey m) = ((dirEdges fs).map normEdge).map (dirKey m) ∧
      ∀ a ∈ (dirEdges fs).map normEdge, ∀ b ∈ (dirEdges fs).map normEdge, dirKey m a = dirKey m b → a = b := by
  have hbd : ∀ x ∈ (dirEdges fs).map normEdge, x.2 < m := by
    intro x hx
    obtain ⟨y, hy, rfl⟩ := List.mem_map.mp hx
    have := dirEdges_bounded hb y hy
    unfold normEdge; split <;> omega
  refine ⟨?_, fun a ha b hb' hab => dirKey_inj (hbd a ha) (hbd b hb') hab⟩
  rw [List.map_map]
  exact List.map_congr_left (fun e _ => edgeKey_eq m e)

theorem toFinset_map {α β : Type} [DecidableEq α] [DecidableEq β] (f : α → β) (l : List α) :
    (l.map f).toFinset = l.toFinset.image f := by
  ext x; simp

theorem edgeCountFast_eq (m : Nat) (fs : List Face) (hb : boundedB m fs = true) :
    edgeCountFast m fs = edgeCount fs := by
  obtain ⟨hmap, hinj⟩ := edgeKeys_eq hb
  unfold edgeCountFast edgeCount
  rw [distinctGo_zero, dedup_length_eq_card, hmap, toFinset_map, Finset.card_image_of_injOn]
  intro a ha b hb' hab
  exact hinj a (List.mem_toFinset.mp ha) b (List.mem_toFinset.mp hb') hab

theorem simpleFastB_sound (fs : List Face) (h : simpleFastB fs = true) : Simple fs := by
  unfold simpleFastB at h
  simp only [List.all_eq_true, Bool.and_eq_true, Nat.ble_eq] at h
  intro f hf
  exact ⟨(h f hf).1, (allDistinctGo_sound f 0 (h f hf).2).1⟩

/-! ### each key exactly twice -/
/-- the two bit sets count the occurrences so far (`s2 ⊆ s1`): a key is in neither, in `s1` only, or in both -/
theorem twiceGo_sound : ∀ (ks : List Nat) (s1 s2 : Nat), (∀ j, s2.testBit j = true → s1.testBit j = true) →
    twiceGo ks s1 s2 = true → ∀ j, ks.count j + (s1.testBit j).toNat + (s2.testBit j).toNat = 0 ∨
      ks.count j + (s1.testBit j).toNat + (s2.testBit j).toNat = 2 := by
  intro ks
  induction ks with
  | nil =>
    intro s1 s2 _ h j
    rw [Nat.eq_of_beq_eq_true h]
    cases s2.testBit j <;> simp
  | cons k ks ih =>
    intro s1 s2 hsub h j
    unfold twiceGo at h
    cases b2 : s2.testBit k <;> rw [b2] at h
    · rw [List.count_cons]
      cases b1 : s1.testBit k <;> rw [b1] at h <;> simp only [force_eq] at h
      · have := ih _ _ (fun i hi => by rw [testBit_setBit, hsub i hi]; rfl) h j
        rw [testBit_setBit] at this
        by_cases e : k = j
        · subst e; simp [b1, b2] at this ⊢; omega
        · simpa [e] using this
      · have := ih _ _ (fun i hi => by
          rw [testBit_setBit, Bool.or_eq_true, decide_eq_true_eq] at hi
          rcases hi with hi | rfl
          · exact hsub i hi
          · exact b1) h j
        rw [testBit_setBit] at this
        by_cases e : k = j
        · subst e; simp [b1, b2] at this ⊢; omega
        · simpa [e] using this
    · simp at h
theorem count_map_injOn {α β : Type} [BEq α] [LawfulBEq α] [BEq β] [LawfulBEq β] (f : α → β) (l : List α) (a : α)
    (hinj : ∀ b ∈ l, f b = f a → b = a) : (l.map f).count (f a) = l.count a := by
  rw [List.count_eq_countP, List.countP_map, List.count_eq_countP]
  exact List.countP_congr fun b hb => by simpa using ⟨hinj b hb, congrArg f⟩

theorem closedUndirFastB_sound (m : Nat) (fs : List Face) (hb : boundedB m fs = true)
    (h : closedUndirFastB m fs = true) : ClosedUndir fs := by
  obtain ⟨hmap, hinj⟩ := edgeKeys_eq hb
  unfold closedUndirFastB at h
  have key := twiceGo_sound _ 0 0 (by simp) h
  intro e he
  have hc := key (dirKey m e)
  rw [hmap, count_map_injOn (dirKey m) _ e (fun b hb' => hinj b hb' e he)] at hc
  have hpos : 0 < ((dirEdges fs).map normEdge).count e := List.count_pos_iff.mpr he
  omega

/-! ### oriented closedness -/
theorem insAllGo_sound : ∀ (ks : List Nat) (s t : Nat), insAllGo ks s = t + 1 →
    ks.Nodup ∧ (∀ k ∈ ks, s.testBit k = false) ∧ ∀ j, t.testBit j = (s.testBit j || decide (j ∈ ks)) := by
  intro ks
  induction ks with
  | nil =>
    intro s t h
    unfold insAllGo at h
    have : s = t := by omega
    subst this; simp
  | cons k ks ih =>
    intro s t h
    unfold insAllGo at h
    cases hk : s.testBit k with
    | true => rw [hk] at h; simp at h
    | false =>
      rw [hk] at h
      simp only [force_eq] at h
      obtain ⟨hnd, hfree, hbits⟩ := ih _ _ h
      simp only [testBit_setBit, Bool.or_eq_false_iff, decide_eq_false_iff_not] at hfree
      refine ⟨List.nodup_cons.mpr ⟨fun hmem => (hfree k hmem).2 rfl, hnd⟩,
        List.forall_mem_cons.mpr ⟨hk, fun j hj => (hfree j hj).1⟩, fun j => ?_⟩
      rw [hbits j, testBit_setBit, Bool.or_assoc]
      simp [@eq_comm _ k j]

theorem allInGo_eq (s : Nat) (ks : List Nat) : allInGo s ks = ks.all s.testBit := by
  induction ks with
  | nil => rfl
  | cons x ks ih => unfold allInGo; cases hx : s.testBit x <;> simp [hx, ih]

theorem closedDir_of_nodup {fs : List Face} (hnd : (dirEdges fs).Nodup)
    (hrev : ∀ e ∈ dirEdges fs, (e.2, e.1) ∈ dirEdges fs) : ClosedDir fs := by
  have hone := List.nodup_iff_count_eq_one.mp hnd
  intro e he
  exact ⟨hone e he, hone _ (hrev e he)⟩

theorem closedDirFastB_sound (m : Nat) (fs : List Face) (hb : boundedB m fs = true)
    (h : closedDirFastB m fs = true) : ClosedDir fs := by
  unfold closedDirFastB at h
  cases hs : insAllGo ((dirEdges fs).map (dirKey m)) 0 with
  | zero => rw [hs] at h; simp at h
  | succ t =>
    rw [hs] at h
    simp only at h
    obtain ⟨hnd, -, hbits⟩ := insAllGo_sound _ 0 t hs
    refine closedDir_of_nodup (List.Nodup.of_map _ hnd) (fun e he => ?_)
    have := List.all_eq_true.mp (allInGo_eq t _ ▸ h) (dirKey m (e.2, e.1)) (List.mem_map.mpr ⟨e, he, rfl⟩)
    rw [hbits] at this
    simp only [Nat.zero_testBit, Bool.false_or, decide_eq_true_eq] at this
    obtain ⟨e', he', hk⟩ := List.mem_map.mp this
    rw [← dirKey_inj (e := e') (e' := (e.2, e.1)) (dirEdges_bounded hb e' he').2 (dirEdges_bounded hb e he).1 hk]
    exact he'

/-! ## 1b. the Parallelepiped table -/
theorem solidCheck_sound {m v e f : Nat} {fs oriented : List Face} (h : solidCheck m v e f fs oriented = true) :
    vertexCount fs = v ∧ edgeCount fs = e ∧ faceCount fs = f ∧ Euler fs ∧ Simple fs ∧
      ClosedUndir fs ∧ ClosedDir oriented := by
  unfold solidCheck at h
  simp only [Bool.and_eq_true] at h
  obtain ⟨⟨⟨⟨⟨⟨⟨⟨hv, he⟩, hf⟩, heu⟩, hb⟩, hbo⟩, hs⟩, hcu⟩, hcd⟩ := h
  have hv' : vertexCount fs = v := by rw [← vertexCountFast_eq]; exact Nat.eq_of_beq_eq_true hv
  have he' : edgeCount fs = e := by rw [← edgeCountFast_eq m fs hb]; exact Nat.eq_of_beq_eq_true he
  have hf' : faceCount fs = f := Nat.eq_of_beq_eq_true hf
  refine ⟨hv', he', hf', ?_, simpleFastB_sound fs hs, closedUndirFastB_sound m fs hb hcu,
    closedDirFastB_sound m oriented hbo hcd⟩
  unfold Euler; rw [hv', he', hf']; exact Nat.eq_of_beq_eq_true heu

theorem parallelepiped_check : parallelepipedCheck = true := by decide +kernel

/-- C14, Parallelepiped: V = 8, E = 12, F = 6 -/
theorem parallelepiped_skeleton :
    vertexCount parallelepipedFaces = 8 ∧ edgeCount parallelepipedFaces = 12 ∧ faceCount parallelepipedFaces = 6 ∧
      Euler parallelepipedFaces ∧ Simple parallelepipedFaces ∧ ClosedUndir parallelepipedFaces ∧
      ClosedDir parallelepipedOriented :=
  solidCheck_sound parallelepiped_check

#print axioms parallelepiped_skeleton

/-! ## 1c. from the skeleton to any realisation in space: `ClosedSurface` of G3D/Proofs/Volume.lean -/
theorem consecG_eq_consec : ∀ l : List V3, consecG l = consec l
  | [] => rfl
  | [_] => rfl
  | a :: b :: l => by simp only [consecG, consec, consecG_eq_consec (b :: l)]

theorem cyc_eq_closedPairs (l : List V3) : cyc l = closedPairs l := by
  cases l with
  | nil => simp [cyc, closedPairs]
  | cons p ps => simp only [cyc, closedPairs, consecG_eq_consec]

theorem dirEdges_map (g : Nat → V3) (fs : List Face) :
    G3D.dirEdges (fs.map (List.map g)) = (dirEdges fs).map (Prod.map g g) := by
  simp only [G3D.dirEdges, dirEdges, List.flatMap_map, List.map_flatMap, ← cyc_eq_closedPairs, cyc_map]

theorem closedDir_perm (fs : List Face) (h : ClosedDir fs) :
    List.Perm (dirEdges fs) ((dirEdges fs).map Prod.swap) := by
  rw [List.perm_iff_count]
  intro a
  have hsw : ((dirEdges fs).map Prod.swap).count a = (dirEdges fs).count a.swap := by
    have := List.count_map_of_injective (dirEdges fs) Prod.swap Prod.swap_injective a.swap
    rwa [Prod.swap_swap] at this
  rw [hsw]
  by_cases ha : a ∈ dirEdges fs
  · have := h a ha
    rw [this.1]; exact this.2.symm
  · have h0 : (dirEdges fs).count a = 0 := List.count_eq_zero.mpr ha
    rw [h0]
    by_cases hs : a.swap ∈ dirEdges fs
    · have := (h a.swap hs).2
      simp only [Prod.swap, Prod.mk.eta] at this
      omega
    · exact (List.count_eq_zero.mpr hs).symm

/-- every placement `g` of the vertex ids in space (injective or not) of an oriented-closed skeleton is a
    `ClosedSurface`: the vector areas of the faces sum to zero and `vol6` does not depend on the reference point -/
theorem closedSurface_of_closedDir (fs : List Face) (h : ClosedDir fs) (g : Nat → V3) :
    ClosedSurface (fs.map (List.map g)) := by
  unfold ClosedSurface
  rw [dirEdges_map, List.map_map]
  have : (Prod.swap ∘ Prod.map g g) = (Prod.map g g ∘ Prod.swap) := by
    funext e; rfl
  rw [this, ← List.map_map]
  exact (closedDir_perm fs h).map _

theorem parallelepiped_closedSurface (g : Nat → V3) :
    ClosedSurface (parallelepipedOriented.map (List.map g)) :=
  closedSurface_of_closedDir _ parallelepiped_skeleton.2.2.2.2.2.2 g

/-! ## 1d. structure of the skeletons for every n -/
theorem zipWith_replicate {α : Type} (f : Bool → α → α) (b : Bool) (n : Nat) (l : List α) (h : l.length = n) :
    List.zipWith f (List.replicate n b) l = l.map (f b) := by
  subst h
  induction l with
  | nil => simp
  | cons a l ih => simp [List.replicate_succ, ih]

/-- the Cylinder faces after the orientation repair, for every n -/
theorem cylinderOriented_eq (n : Nat) :
    cylinderOriented n = [List.range n, flipCycle ((List.range n).map (n + ·))] ++
      (List.range n).map (fun i => [i, n + i, n + (i + 1) % n, (i + 1) % n]) := by
  unfold cylinderOriented cylinderFlips cylinderFaces applyFlips
  simp only [List.cons_append, List.nil_append, List.zipWith_cons_cons, Bool.false_eq_true, if_false, if_true]
  rw [zipWith_replicate _ _ _ _ (by simp), List.map_map]
  simp [flipCycle, Function.comp_def]

/-- the Cone faces after the orientation repair, for every n -/
theorem coneOriented_eq (n : Nat) :
    coneOriented n = flipCycle (List.range n) :: (List.range n).map (fun i => [n, i, (i + 1) % n]) := by
  unfold coneOriented coneFlips coneFaces applyFlips
  simp only [List.zipWith_cons_cons, if_true]
  rw [zipWith_replicate _ _ _ _ (by simp)]
  simp

theorem sphere_faceCount (n1 n2 : Nat) (h2 : 2 ≤ n2) : faceCount (sphereFaces n1 n2) = 2 * n1 * n2 := by
  unfold faceCount sphereFaces
  rw [List.length_flatMap]
  simp only [List.length_append, List.length_cons, List.length_nil, List.length_flatMap, List.map_const',
    List.length_range', List.sum_replicate, smul_eq_mul, List.length_range]
  obtain ⟨m, rfl⟩ := Nat.exists_eq_add_of_le' h2
  rw [Nat.add_sub_cancel]
  ring

/-! ## 1e. oriented closedness for every n ≥ 3 (Cone, Cylinder) -/
theorem sm_cases {n i : Nat} (hi : i < n) : (i + 1 < n ∧ (i + 1) % n = i + 1) ∨ (i + 1 = n ∧ (i + 1) % n = 0) := by
  rcases Nat.lt_or_ge (i + 1) n with h | h
  · exact Or.inl ⟨h, Nat.mod_eq_of_lt h⟩
  · have : i + 1 = n := by omega
    exact Or.inr ⟨this, by rw [this, Nat.mod_self]⟩

theorem map_append_flatMap_perm {α β : Type} (f : α → β) (h : α → List β) : ∀ l : List α,
    (l.map f ++ l.flatMap h).Perm (l.flatMap (fun i => f i :: h i))
  | [] => .refl _
  | a :: l => by
    simp only [List.map_cons, List.flatMap_cons, List.cons_append]
    exact .cons _ ((List.perm_append_comm_assoc ..).trans (.append_left _ (map_append_flatMap_perm f h l)))

theorem closedDir_of_blocks {fs : List Face} {n : Nat} {B : Nat → List (Nat × Nat)}
    (hp : (dirEdges fs).Perm ((List.range n).flatMap B)) (hnd : ∀ i < n, (B i).Nodup)
    (hdis : ∀ i j, i < j → j < n → ∀ e ∈ B i, e ∉ B j)
    (hrev : ∀ i < n, ∀ e ∈ B i, ∃ j < n, (e.2, e.1) ∈ B j) : ClosedDir fs := by
  apply closedDir_of_nodup
  · rw [hp.nodup_iff, List.nodup_flatMap]
    refine ⟨fun i hi => hnd i (List.mem_range.mp hi), ?_⟩
    apply List.Pairwise.imp_of_mem _ (List.pairwise_lt_range (n := n))
    intro i j _ hj hij e h1 h2
    exact hdis i j hij (List.mem_range.mp hj) e h1 h2
  · intro e he
    obtain ⟨i, hi, hei⟩ := List.mem_flatMap.mp (hp.mem_iff.mp he)
    obtain ⟨j, hj, hej⟩ := hrev i (List.mem_range.mp hi) e hei
    exact hp.mem_iff.mpr (List.mem_flatMap.mpr ⟨j, List.mem_range.mpr hj, hej⟩)

/-- the directed edges of the repaired Cone, grouped by the position `i` on the base circle: the base edge, and the
    three edges of the side triangle -/
theorem coneOriented_edges (n : Nat) : (dirEdges (coneOriented n)).Perm ((List.range n).flatMap (fun i =>
    [((i + 1) % n, i), (n, i), (i, (i + 1) % n), ((i + 1) % n, n)])) := by
  rw [coneOriented_eq]
  unfold dirEdges
  rw [List.flatMap_cons, cyc_flipCycle, cyc_range, List.flatMap_map, List.map_map]
  exact ((List.reverse_perm _).append_right _).trans (map_append_flatMap_perm _ _ _)

theorem pred_mod {n i : Nat} (hi : i < n) : (i + n - 1) % n < n ∧ ((i + n - 1) % n + 1) % n = i := by
  refine ⟨Nat.mod_lt _ (by omega), ?_⟩
  rw [Nat.mod_add_mod, show i + n - 1 + 1 = i + n by omega, Nat.add_mod_right, Nat.mod_eq_of_lt hi]

/-- C14, Cone, every n ≥ 3: after the orientation repair every directed edge occurs once, its reverse once -/
theorem cone_closedDir (n : Nat) (h3 : 3 ≤ n) : ClosedDir (coneOriented n) := by
  -- `omega` splits the two cases of `sm_cases` for each successor itself
  refine closedDir_of_blocks (coneOriented_edges n) ?_ ?_ ?_
  · intro i hi
    have := sm_cases hi
    simp only [List.nodup_cons, List.mem_cons, List.not_mem_nil, List.nodup_nil, Prod.mk.injEq, or_false,
      not_false_eq_true, and_true]
    omega
  · intro i j hij hj e h1 h2
    have := sm_cases (Nat.lt_trans hij hj)
    have := sm_cases hj
    obtain ⟨x, y⟩ := e
    simp only [List.mem_cons, List.not_mem_nil, or_false, Prod.mk.injEq] at h1 h2
    omega
  · intro i hi e he
    simp only [List.mem_cons, List.not_mem_nil, or_false] at he
    obtain rfl | rfl | rfl | rfl := he
    · exact ⟨i, hi, by simp⟩
    · -- the reverse of (n, i) is (s j, n) with j the predecessor of i
      obtain ⟨hj, hs⟩ := pred_mod hi
      exact ⟨_, hj, by simp [hs]⟩
    · exact ⟨i, hi, by simp⟩
    · exact ⟨(i + 1) % n, Nat.mod_lt _ (by omega), by simp⟩

/-- the directed edges of the repaired Cylinder, grouped by the position `i`: top edge, bottom edge, and the four
    edges of the side quadrilateral -/
theorem cylinderOriented_edges (n : Nat) : (dirEdges (cylinderOriented n)).Perm ((List.range n).flatMap (fun i =>
    [(i, (i + 1) % n), (n + (i + 1) % n, n + i),
      (i, n + i), (n + i, n + (i + 1) % n), (n + (i + 1) % n, (i + 1) % n), ((i + 1) % n, i)])) := by
  rw [cylinderOriented_eq]
  unfold dirEdges
  simp only [List.cons_append, List.nil_append, List.flatMap_cons]
  rw [cyc_flipCycle, cyc_map, cyc_range, List.flatMap_map]
  simp only [List.map_map]
  exact (((List.reverse_perm _).append_right _).trans (map_append_flatMap_perm _ _ _)).append_left _ |>.trans
    (map_append_flatMap_perm _ _ _)

/-- C14, Cylinder, every n ≥ 3: after the orientation repair every directed edge occurs once, its reverse once -/
theorem cylinder_closedDir (n : Nat) (h3 : 3 ≤ n) : ClosedDir (cylinderOriented n) := by
  refine closedDir_of_blocks (cylinderOriented_edges n) ?_ ?_ ?_
  · intro i hi
    have := sm_cases hi
    simp only [List.nodup_cons, List.mem_cons, List.not_mem_nil, List.nodup_nil, Prod.mk.injEq, or_false,
      not_false_eq_true, and_true]
    omega
  · intro i j hij hj e h1 h2
    have := sm_cases (Nat.lt_trans hij hj)
    have := sm_cases hj
    obtain ⟨x, y⟩ := e
    simp only [List.mem_cons, List.not_mem_nil, or_false, Prod.mk.injEq] at h1 h2
    omega
  · intro i hi e he
    simp only [List.mem_cons, List.not_mem_nil, or_false] at he
    obtain rfl | rfl | rfl | rfl | rfl | rfl := he
    · exact ⟨i, hi, by simp⟩
    · exact ⟨i, hi, by simp⟩
    · -- the reverse of (i, n + i) is (n + s j, s j) with j the predecessor of i
      obtain ⟨hj, hs⟩ := pred_mod hi
      exact ⟨_, hj, by simp [hs]⟩
    · exact ⟨i, hi, by simp⟩
    · exact ⟨(i + 1) % n, Nat.mod_lt _ (by omega), by simp⟩
    · exact ⟨i, hi, by simp⟩

/-- every placement of the ids in space of the repaired Cone / Cylinder skeleton is a `ClosedSurface`, every n ≥ 3 -/
theorem cone_closedSurface_general (n : Nat) (h3 : 3 ≤ n) (g : Nat → V3) :
    ClosedSurface ((coneOriented n).map (List.map g)) :=
  closedSurface_of_closedDir _ (cone_closedDir n h3) g
theorem cylinder_closedSurface_general (n : Nat) (h3 : 3 ≤ n) (g : Nat → V3) :
    ClosedSurface ((cylinderOriented n).map (List.map g)) :=
  closedSurface_of_closedDir _ (cylinder_closedDir n h3) g
theorem cone_closedSurface (n : Nat) (h3 : 3 ≤ n) (h24 : n ≤ 24) (g : Nat → V3) :
    ClosedSurface ((coneOriented n).map (List.map g)) :=
  cone_closedSurface_general n h3 g
theorem cylinder_closedSurface (n : Nat) (h3 : 3 ≤ n) (h24 : n ≤ 24) (g : Nat → V3) :
    ClosedSurface ((cylinderOriented n).map (List.map g)) :=
  cylinder_closedSurface_general n h3 g
#print axioms cone_closedDir
#print axioms cylinder_closedDir

/-! ## 1f. counting lemmas: Euler's relation from closedness -/
theorem normEdge_swap (e : Nat × Nat) : normEdge (e.2, e.1) = normEdge e := by
  unfold normEdge
  split_ifs <;> simp only [Prod.ext_iff] <;> omega

/-- the orientation repair does not change the undirected edges -/
theorem applyFlips_undirected (mask : List Bool) (fs : List Face) (h : mask.length = fs.length) :
    List.Perm ((dirEdges (applyFlips mask fs)).map normEdge) ((dirEdges fs).map normEdge) := by
  unfold dirEdges applyFlips
  conv_rhs => rw [← List.map_snd_zip (l₁ := mask) h.ge]
  rw [← List.map_uncurry_zip_eq_zipWith, List.flatMap_map, List.flatMap_map, List.map_flatMap, List.map_flatMap]
  apply List.Perm.flatMap_left
  rintro ⟨b, f⟩ _
  cases b
  · exact .refl _
  · simp only [Function.uncurry, if_true]
    rw [cyc_flipCycle, List.map_reverse, List.map_map, show normEdge ∘ Prod.swap = normEdge from funext normEdge_swap]
    exact List.reverse_perm _
theorem count_map_normEdge (d : List (Nat × Nat)) (k : Nat × Nat) (hk : k.1 < k.2) :
    (d.map normEdge).count k = d.count k + d.count (k.2, k.1) := by
  induction d with
  | nil => simp
  | cons e d ih =>
    rw [List.map_cons, List.count_cons, List.count_cons, List.count_cons, ih]
    have : (if normEdge e == k then 1 else 0) = (if e == k then 1 else 0) + (if e == (k.2, k.1) then 1 else 0) := by
      simp only [normEdge, beq_iff_eq, Prod.ext_iff]
      split_ifs <;> omega
    omega

/-- oriented closedness without loops gives the unoriented one -/
theorem closedUndir_of_closedDir (fs : List Face) (h : ClosedDir fs) (hloop : ∀ e ∈ dirEdges fs, e.1 ≠ e.2) :
    ClosedUndir fs := by
  intro k hk
  obtain ⟨e, he, rfl⟩ := List.mem_map.mp hk
  have hne := hloop e he
  have h1 := h e he
  have hrev : (e.2, e.1) ∈ dirEdges fs := List.count_pos_iff.mp (by rw [h1.2]; exact Nat.one_pos)
  have h2 := h (e.2, e.1) hrev
  by_cases hlt : e.1 ≤ e.2
  · have hn : normEdge e = e := by simp [normEdge, hlt]
    rw [hn, count_map_normEdge _ e (by omega), h1.1, h1.2]
  · have hn : normEdge e = (e.2, e.1) := by simp [normEdge, hlt]
    rw [hn, count_map_normEdge _ (e.2, e.1) (by simp only; omega), h2.1, h2.2]

theorem closedUndir_perm {fs gs : List Face}
    (hp : List.Perm ((dirEdges gs).map normEdge) ((dirEdges fs).map normEdge)) (h : ClosedUndir gs) :
    ClosedUndir fs := by
  intro k hk
  rw [← hp.count_eq]
  exact h k (hp.mem_iff.mpr hk)

/-- a closed surface has half as many edges as face-edge incidences -/
theorem two_mul_edgeCount (fs : List Face) (h : ClosedUndir fs) : 2 * edgeCount fs = (dirEdges fs).length := by
  unfold edgeCount
  rw [dedup_length_eq_card]
  have hs := List.sum_toFinset_count_eq_length ((dirEdges fs).map normEdge)
  rw [List.length_map, Finset.sum_congr rfl (g := fun _ => 2) ?_, Finset.sum_const, smul_eq_mul] at hs
  · omega
  · intro a ha
    have hc := h a (List.mem_toFinset.mp ha)
    convert hc

theorem dedup_length_of_mem_iff_lt (l : List Nat) (m : Nat) (h : ∀ v, v ∈ l ↔ v < m) : (dedup l).length = m := by
  have hp : List.Perm (dedup l) (List.range m) := by
    rw [List.perm_ext_iff_of_nodup (nodup_dedup l) List.nodup_range]
    intro a; rw [mem_dedup, h, List.mem_range]
  rw [hp.length_eq, List.length_range]

/-! ## 1g. the Cylinder, Cone and Circle skeletons for every n ≥ 3 -/
theorem dirEdges_length (fs : List Face) : (dirEdges fs).length = (fs.map List.length).sum := by
  simp only [dirEdges, List.length_flatMap, length_cyc]

theorem closedUndir_of_flips {mask : List Bool} {fs : List Face} (hlen : mask.length = fs.length)
    (hcd : ClosedDir (applyFlips mask fs)) (hloop : ∀ e ∈ dirEdges (applyFlips mask fs), e.1 ≠ e.2) :
    ClosedUndir fs ∧ 2 * edgeCount fs = (fs.map List.length).sum := by
  have hcu := closedUndir_perm (applyFlips_undirected mask fs hlen) (closedUndir_of_closedDir _ hcd hloop)
  exact ⟨hcu, by rw [two_mul_edgeCount _ hcu, dirEdges_length]⟩

theorem cylinder_skeleton_general (n : Nat) (h3 : 3 ≤ n) :
    vertexCount (cylinderFaces n) = 2 * n ∧ edgeCount (cylinderFaces n) = 3 * n ∧
      faceCount (cylinderFaces n) = n + 2 ∧ Euler (cylinderFaces n) ∧ Simple (cylinderFaces n) ∧
      ClosedUndir (cylinderFaces n) ∧ ClosedDir (cylinderOriented n) := by
  have hcd := cylinder_closedDir n h3
  obtain ⟨hcu, hE2⟩ := closedUndir_of_flips (mask := cylinderFlips n) (by simp [cylinderFlips, cylinderFaces]) hcd (by
    intro e he
    obtain ⟨i, hi, h⟩ := List.mem_flatMap.mp ((cylinderOriented_edges n).mem_iff.mp he)
    have := sm_cases (List.mem_range.mp hi)
    obtain ⟨x, y⟩ := e
    simp only [List.mem_cons, List.not_mem_nil, or_false, Prod.mk.injEq] at h
    show x ≠ y
    omega)
  have hF : faceCount (cylinderFaces n) = n + 2 := by simp [faceCount, cylinderFaces]
  have hE : edgeCount (cylinderFaces n) = 3 * n := by
    have : ((cylinderFaces n).map List.length).sum = 6 * n := by
      simp [cylinderFaces, Function.comp_def]; omega
    omega
  have hV : vertexCount (cylinderFaces n) = 2 * n := by
    unfold vertexCount
    apply dedup_length_of_mem_iff_lt
    intro v
    simp only [cylinderFaces, List.cons_append, List.nil_append, List.flatten_cons, List.mem_append, List.mem_range,
      List.mem_map, List.mem_flatten]
    constructor
    · rintro (h | ⟨a, ha, rfl⟩ | ⟨f, ⟨i, hi, rfl⟩, hv⟩)
      · omega
      · omega
      · have hm : (i + 1) % n < n := Nat.mod_lt _ (by omega)
        simp only [List.mem_cons, List.not_mem_nil, or_false] at hv
        omega
    · intro hv
      rcases Nat.lt_or_ge v n with h | h
      · exact Or.inl h
      · exact Or.inr (Or.inl ⟨v - n, by omega, by omega⟩)
  refine ⟨hV, hE, hF, ?_, ?_, hcu, hcd⟩
  · unfold Euler; omega
  · intro f hf
    simp only [cylinderFaces, List.cons_append, List.nil_append, List.mem_cons, List.mem_map, List.mem_range] at hf
    rcases hf with rfl | rfl | ⟨i, hi, rfl⟩
    · exact ⟨by simp; omega, List.nodup_range⟩
    · exact ⟨by simp; omega, List.nodup_range.map fun _ _ => Nat.add_left_cancel⟩
    · have := sm_cases hi
      refine ⟨by simp, ?_⟩
      simp only [List.nodup_cons, List.mem_cons, List.not_mem_nil, List.nodup_nil, or_false, not_false_eq_true,
        and_true]
      omega

theorem cone_skeleton_general (n : Nat) (h3 : 3 ≤ n) :
    vertexCount (coneFaces n) = n + 1 ∧ edgeCount (coneFaces n) = 2 * n ∧
      faceCount (coneFaces n) = n + 1 ∧ Euler (coneFaces n) ∧ Simple (coneFaces n) ∧
      ClosedUndir (coneFaces n) ∧ ClosedDir (coneOriented n) := by
  have hcd := cone_closedDir n h3
  obtain ⟨hcu, hE2⟩ := closedUndir_of_flips (mask := coneFlips n) (by simp [coneFlips, coneFaces]) hcd (by
    intro e he
    obtain ⟨i, hi, h⟩ := List.mem_flatMap.mp ((coneOriented_edges n).mem_iff.mp he)
    have := sm_cases (List.mem_range.mp hi)
    obtain ⟨x, y⟩ := e
    simp only [List.mem_cons, List.not_mem_nil, or_false, Prod.mk.injEq] at h
    show x ≠ y
    omega)
  have hF : faceCount (coneFaces n) = n + 1 := by simp [faceCount, coneFaces]
  have hE : edgeCount (coneFaces n) = 2 * n := by
    have : ((coneFaces n).map List.length).sum = 4 * n := by
      simp [coneFaces, Function.comp_def]; omega
    omega
  have hV : vertexCount (coneFaces n) = n + 1 := by
    unfold vertexCount
    apply dedup_length_of_mem_iff_lt
    intro v
    simp only [coneFaces, List.flatten_cons, List.mem_append, List.mem_range, List.mem_map, List.mem_flatten]
    constructor
    · rintro (h | ⟨f, ⟨i, hi, rfl⟩, hv⟩)
      · omega
      · have hm : (i + 1) % n < n := Nat.mod_lt _ (by omega)
        simp only [List.mem_cons, List.not_mem_nil, or_false] at hv
        omega
    · intro hv
      rcases Nat.lt_or_ge v n with h | h
      · exact Or.inl h
      · exact Or.inr ⟨[n, 0, (0 + 1) % n], ⟨0, by omega, rfl⟩, by simp; omega⟩
  refine ⟨hV, hE, hF, ?_, ?_, hcu, hcd⟩
  · unfold Euler; omega
  · intro f hf
    simp only [coneFaces, List.mem_cons, List.mem_map, List.mem_range] at hf
    rcases hf with rfl | ⟨i, hi, rfl⟩
    · exact ⟨by simp; omega, List.nodup_range⟩
    · have := sm_cases hi
      refine ⟨by simp, ?_⟩
      simp only [List.nodup_cons, List.mem_cons, List.not_mem_nil, List.nodup_nil, or_false, not_false_eq_true,
        and_true]
      omega

/-- C14, Circle, every n ≥ 3: an n-gon (n vertices, n edges, one face, pairwise different vertices) -/
theorem circle_skeleton_general (n : Nat) (h3 : 3 ≤ n) :
    vertexCount (circleFaces n) = n ∧ edgeCount (circleFaces n) = n ∧ faceCount (circleFaces n) = 1 ∧
      Simple (circleFaces n) ∧ (dirEdges (circleFaces n)).length = n := by
  refine ⟨?_, ?_, rfl, ?_, ?_⟩
  · unfold vertexCount
    apply dedup_length_of_mem_iff_lt
    intro v; simp [circleFaces]
  · -- the n undirected edges {i, i+1 mod n} are pairwise different (n ≥ 3)
    have hd : dirEdges (circleFaces n) = (List.range n).map (fun i => (i, (i + 1) % n)) := by
      simp [dirEdges, circleFaces, cyc_range]
    unfold edgeCount
    rw [dedup_length_eq_card, hd, List.toFinset_card_of_nodup, List.length_map, List.length_map, List.length_range]
    rw [List.map_map]
    apply List.Nodup.map_on _ List.nodup_range
    intro i hi j hj h
    have := sm_cases (List.mem_range.mp hi)
    have := sm_cases (List.mem_range.mp hj)
    simp only [Function.comp, normEdge] at h
    split_ifs at h <;> simp only [Prod.mk.injEq] at h <;> omega
  · intro f hf
    simp only [circleFaces, List.mem_cons, List.not_mem_nil, or_false] at hf
    subst hf
    exact ⟨by simp; omega, List.nodup_range⟩
  · simp [dirEdges_length, circleFaces]

#print axioms cylinder_skeleton_general
#print axioms cone_skeleton_general


/-! ## 2. `get_circle_point_list`: the base vector and the frame -/
/-- C14 (frame): for every non-zero normal and every threshold `c = cos²(SMALL_ANGLE)` with `1/2 ≤ c < 1`
    (`cos²(0.1) ≈ 0.990`) the `raise ValueError("Bug detected")` branch is unreachable, the base vector is x or y,
    and it is not parallel to the normal — including normals along or opposite to a coordinate axis -/
theorem frame_defined (c : Rat) (hc1 : 1 / 2 ≤ c) (hc2 : c < 1) (n : V3) (hn : n ≠ zero) :
    ∃ b, baseVector c n = some b ∧ (b = ex ∨ b = ey) ∧ cross n b ≠ zero ∧ V3.parallel n b = false := by
  -- `n` is not near both axes (cos²x + cos²y ≤ 1 < 2c), and the axis chosen has cos² ≤ c < 1, so it is not parallel
  have hxy : cosSqVec n ex + cosSqVec n ey ≤ 1 := cosSq_xy_le_one n hn
  have key : ∃ b, baseVector c n = some b ∧ (b = ex ∨ b = ey) ∧ cosSqVec n b < 1 := by
    unfold baseVector nearAxis
    by_cases hx : c < cosSqVec n ex
    · have hy : ¬ c < cosSqVec n ey := by linarith
      exact ⟨ey, by simp [hx, hy], Or.inr rfl, by linarith⟩
    · exact ⟨ex, by simp [hx], Or.inl rfl, by linarith⟩
  obtain ⟨b, h1, h2, h3⟩ := key
  have hb : b ≠ zero := by rcases h2 with rfl | rfl <;> decide
  have hcr : cross n b ≠ zero := fun h => by
    rw [(cosSqVec_eq_one_iff_cross n b hn hb).mpr h] at h3
    exact lt_irrefl _ h3
  refine ⟨b, h1, h2, hcr, ?_⟩
  cases hp : V3.parallel n b with
  | false => rfl
  | true => exact absurd ((parallel_iff_cross n b).mp hp) hcr

theorem baseVector_ne_none (c : Rat) (hc1 : 1 / 2 ≤ c) (hc2 : c < 1) (n : V3) (hn : n ≠ zero) :
    baseVector c n ≠ none := by
  obtain ⟨b, hb, _⟩ := frame_defined c hc1 hc2 n hn
  rw [hb]; simp

/-- normals along / opposite to the coordinate axes (any threshold in range): x-axis normals take y, the others x -/
theorem baseVector_axes (c : Rat) (hc1 : 1 / 2 ≤ c) (hc2 : c < 1) (k : Rat) (hk : k ≠ 0) :
    baseVector c ⟨k, 0, 0⟩ = some ey ∧ baseVector c ⟨0, k, 0⟩ = some ex ∧ baseVector c ⟨0, 0, k⟩ = some ex := by
  have hk2 : k ^ 2 / (k * k) = 1 := by field_simp
  have h0 : ¬ c < 0 := by linarith
  refine ⟨?_, ?_, ?_⟩
  · simp [baseVector, nearAxis, cosSqVec, ex, ey, dot, normSq, hk2, hc2, h0]
  · simp [baseVector, nearAxis, cosSqVec, ex, dot, normSq, h0]
  · simp [baseVector, nearAxis, cosSqVec, ex, dot, normSq, h0]

/-- C14 (frame): `w1 = n × b`, `w2 = n × w1` are orthogonal to the normal and to each other, `|w2| = |n||w1|`,
    `w1 ≠ 0`, and `(w1, w2, n)` is right-handed (the points run counter-clockwise about the normal) -/
theorem frame_orthogonal (n b : V3) (hb : cross n b ≠ zero) :
    dot (frameW1 n b) n = 0 ∧ dot (frameW2 n b) n = 0 ∧ dot (frameW1 n b) (frameW2 n b) = 0 ∧
      normSq (frameW2 n b) = normSq n * normSq (frameW1 n b) ∧ frameW1 n b ≠ zero ∧
      cross (frameW1 n b) (frameW2 n b) = smul (normSq (frameW1 n b)) n := by
  refine ⟨?_, ?_, ?_, ?_, hb, ?_⟩
  · simp only [frameW1, dot, cross]; ring
  · simp only [frameW2, dot, cross]; ring
  · simp only [frameW1, frameW2, dot, cross]; ring
  · simp only [frameW1, frameW2, normSq, dot, cross]; ring
  · apply V3.ext' <;> simp only [frameW1, frameW2, normSq, dot, cross, smul] <;> ring

theorem frame_w2_ne_zero (n b : V3) (hn : n ≠ zero) (hb : cross n b ≠ zero) : frameW2 n b ≠ zero := by
  intro h
  have := mul_pos (normSq_pos hn) (normSq_pos (v := frameW1 n b) hb)
  rw [← (frame_orthogonal n b hb).2.2.2.1, h] at this
  simp [normSq, dot, zero] at this

/-- the whole of `get_circle_point_list`'s frame construction succeeds for every non-zero normal -/
theorem frame_total (c : Rat) (hc1 : 1 / 2 ≤ c) (hc2 : c < 1) (n : V3) (hn : n ≠ zero) :
    ∃ b, baseVector c n = some b ∧ frameW1 n b ≠ zero ∧ frameW2 n b ≠ zero ∧
      dot (frameW1 n b) n = 0 ∧ dot (frameW2 n b) n = 0 ∧ dot (frameW1 n b) (frameW2 n b) = 0 := by
  obtain ⟨b, hb, _, hcr, _⟩ := frame_defined c hc1 hc2 n hn
  have := frame_orthogonal n b hcr
  exact ⟨b, hb, hcr, frame_w2_ne_zero n b hn hcr, this.1, this.2.1, this.2.2.1⟩
#print axioms frame_defined
#print axioms frame_orthogonal
#print axioms frame_total


/-! ## 3. exact coordinates: Parallelogram and Parallelepiped -/
/-- shoelace: twice the vector area of the cycle `p, p+a, p+a+b, p+b` is `2·(a × b)` -/
theorem parallelogram_vecArea2 (p a b : V3) : vecArea2 (parallelogramPts p a b) = smul 2 (cross a b) := by
  simp only [vecArea2, parallelogramPts, closedPairs, consec, List.cons_append, List.nil_append, List.map_cons,
    List.map_nil, vsum_cons, vsum_nil]
  apply V3.ext' <;> simp only [add, cross, smul, zero] <;> ring

/-- the parallelogram is a valid convex polygon (coplanar, every vertex triple counter-clockwise about `a × b`) -/
theorem parallelogram_valid (p a b : V3) (h : cross a b ≠ zero) :
    polygonValidB (cross a b) (parallelogramPts p a b) = true := by
  -- the four in-plane tests vanish identically; each of the four orientation tests equals |a × b|²
  have pos : ∀ {x : Rat}, x = normSq (cross a b) → 0 < x := fun e => e ▸ normSq_pos h
  simp only [polygonValidB, parallelogramPts, triplesPosB, orderedPairs, inPlane, List.length_cons, List.length_nil,
    List.all_cons, List.all_nil, List.map_cons, List.map_nil, List.cons_append, List.nil_append, List.headD_cons,
    Bool.and_eq_true, Bool.and_true, decide_eq_true_eq, beq_iff_eq]
  refine ⟨⟨rfl, ?_, ?_, ?_, ?_⟩, ⟨pos ?_, pos ?_, pos ?_⟩, pos ?_⟩ <;>
    simp only [orient, normSq, dot, cross, sub, add] <;> ring

/-- the code's `area()` (fan of Heron triangles about the vertex centroid): `areaNum = 2·|a × b|²`, i.e.
    `area = areaNum / (2·|n|) = |a × b|` — the fan sum of a valid polygon is its shoelace sum -/
theorem parallelogram_areaNum (p a b : V3) (h : cross a b ≠ zero) :
    (parallelogramPolygon p a b).areaNum = 2 * normSq (cross a b) := by
  obtain ⟨p0, p1, p2, rest, hpts, hpl, htp⟩ := (polygonValidB_iff _ _).mp (parallelogram_valid p a b h)
  unfold Polygon.areaNum parallelogramPolygon
  simp only
  rw [hpts] at hpl htp ⊢
  rw [polygon_area_shoelace _ _ p0 p1 p2 rest hpl htp, ← hpts]
  change dot (cross a b) (vecArea2 (parallelogramPts p a b)) = _
  rw [parallelogram_vecArea2]
  simp only [normSq, dot, smul]; ring

/-- `area² = |a × b|²` -/
theorem parallelogram_area_closed_form (p a b : V3) (h : cross a b ≠ zero) :
    (parallelogramPolygon p a b).areaNum ^ 2 / (4 * normSq (parallelogramPolygon p a b).plane.n) =
      normSq (cross a b) := by
  have hN := normSq_pos h
  rw [parallelogram_areaNum p a b h]
  simp only [parallelogramPolygon]
  field_simp; ring


def clsOf (k : Rat × Rat) : Nat := angCls k.1 k.2

/-- the angular insertion sort on four keys of classes 0 (angle 0), (0,π), (π,2π), π -/
theorem fold_sort4 (key : V3 → Rat × Rat) (P0 P1 P2 P3 : V3)
    (h0 : clsOf (key P0) = 0) (h1 : clsOf (key P1) = 1) (h2 : clsOf (key P2) = 3) (h3 : clsOf (key P3) = 2) :
    ([P0, P1, P2, P3].foldl (fun acc p => angInsert (key p) p acc) []).map (·.2) = [P0, P1, P3, P2] := by
  unfold clsOf at h0 h1 h2 h3
  simp [angInsert, angEq, angLt, h0, h1, h2, h3]

/-- the angular sort key of the ConvexPolygon constructor: `q − c` in the frame `(v0, n × v0)` -/
def angKey (n c v0 q : V3) : Rat × Rat := (dot (sub q c) v0, dot (sub q c) (cross n v0))

/-- about the centre `c`, starting from `v0 = p − c`, the corners `p, p+a, p+b, p+a+b` have the angles 0, (0,π), (π,2π), π -/
theorem parallelogram_keys (p a b c v0 : V3) (h : cross a b ≠ zero) (hv0 : v0 ≠ zero)
    (hcdef : add p (smul (1/2) (add a b)) = c) (hv0def : sub p c = v0) :
    clsOf (angKey (cross a b) c v0 p) = 0 ∧ clsOf (angKey (cross a b) c v0 (add p a)) = 1 ∧
    clsOf (angKey (cross a b) c v0 (add p b)) = 3 ∧ clsOf (angKey (cross a b) c v0 (add (add p a) b)) = 2 := by
  have hN := normSq_pos h
  have hV := normSq_pos hv0
  have k0y : dot (sub p c) v0 = normSq v0 := by rw [hv0def]; rfl
  have k0z : dot (sub p c) (cross (cross a b) v0) = 0 := by
    simp only [← hv0def, ← hcdef, dot, cross, sub, add, smul]; ring
  have k1z : dot (sub (add p a) c) (cross (cross a b) v0) = normSq (cross a b) / 2 := by
    simp only [← hv0def, ← hcdef, normSq, dot, cross, sub, add, smul]; ring
  have k2z : dot (sub (add p b) c) (cross (cross a b) v0) = - (normSq (cross a b) / 2) := by
    simp only [← hv0def, ← hcdef, normSq, dot, cross, sub, add, smul]; ring
  have k3y : dot (sub (add (add p a) b) c) v0 = - normSq v0 := by
    simp only [← hv0def, ← hcdef, normSq, dot, sub, add, smul]; ring
  have k3z : dot (sub (add (add p a) b) c) (cross (cross a b) v0) = 0 := by
    simp only [← hv0def, ← hcdef, dot, cross, sub, add, smul]; ring
  unfold clsOf angKey
  refine ⟨?_, ?_, ?_, ?_⟩
  · rw [k0z, k0y]; simp [angCls, le_of_lt hV]
  · rw [k1z]
    have h1 : normSq (cross a b) / 2 ≠ 0 := by linarith
    have h2 : 0 < normSq (cross a b) / 2 := by linarith
    simp [angCls, h1, h2]
  · rw [k2z]
    have h1 : -(normSq (cross a b) / 2) ≠ 0 := by linarith
    have h2 : ¬ 0 < -(normSq (cross a b) / 2) := by linarith
    simp only [angCls, if_neg h1, if_neg h2]
  · rw [k3z, k3y]
    have h2 : ¬ 0 ≤ -normSq v0 := by linarith
    simp [angCls, h2]

/-- C14, Parallelogram through the ConvexPolygon constructor model: the four points `(p, p+a, p+b, p+a+b)` are
    accepted (no error for non-parallel `a, b`) and sorted into the cycle `p, p+a, p+a+b, p+b` with plane normal
    `a × b` and centre `p + (a+b)/2` -/
theorem parallelogram_mk (p a b : V3) (h : cross a b ≠ zero) :
    Polygon.mk? [p, add p a, add p b, add (add p a) b] =
      .ok ⟨parallelogramPts p a b, ⟨p, cross a b⟩, add p (smul (1/2) (add a b))⟩ := by
  generalize hc : add p (smul (1/2) (add a b)) = c
  obtain ⟨v0, hv⟩ : ∃ v0, sub p c = v0 := ⟨_, rfl⟩
  have hv0 : v0 ≠ zero := by
    intro h0; apply h
    rw [← hv, ← hc] at h0
    have hx := congrArg V3.x h0; have hy := congrArg V3.y h0; have hz := congrArg V3.z h0
    simp only [add, sub, smul, zero] at hx hy hz
    apply V3.ext' <;> simp only [cross, zero]
    · linear_combination (-2 * b.z) * hy + (2 * b.y) * hz
    · linear_combination (-2 * b.x) * hz + (2 * b.z) * hx
    · linear_combination (-2 * b.y) * hx + (2 * b.x) * hy
  obtain ⟨c0, c1, c2, c3⟩ := parallelogram_keys p a b c v0 h hv0 hc hv
  -- the four points have four different angular classes, so they are pairwise different
  have d : ∀ {P Q : V3} {i j : Nat}, clsOf (angKey (cross a b) c v0 P) = i → clsOf (angKey (cross a b) c v0 Q) = j →
      i ≠ j → P ≠ Q := fun hP hQ hij e => hij (by rw [← hP, ← hQ, e])
  have hded : dedupV [p, add p a, add p b, add (add p a) b] = [p, add p a, add p b, add (add p a) b] := by
    simp [dedupV, d c1 c0, d c2 c0, d c3 c0, d c2 c1, d c3 c1, d c3 c2]
  have hn0 : cross (sub (add p a) p) (sub (add p b) p) = cross a b := by
    apply V3.ext' <;> simp only [cross, sub, add] <;> ring
  have hmean : meanV [p, add p a, add p b, add (add p a) b] = c := by
    rw [← hc]
    simp only [meanV, sumV, List.foldl_cons, List.foldl_nil, List.length_cons, List.length_nil]
    apply V3.ext' <;> simp only [add, smul, zero] <;> push_cast <;> ring
  have hpl : [p, add p a, add p b, add (add p a) b].all (⟨p, cross a b⟩ : Plane).contains = true := by
    simp only [List.all_cons, List.all_nil, Plane.contains, Bool.and_true, Bool.and_eq_true, beq_iff_eq]
    refine ⟨?_, ?_, ?_, ?_⟩ <;> simp only [dot, cross, add] <;> ring
  have hsort := fold_sort4 (angKey (cross a b) c v0) p (add p a) (add p b) (add (add p a) b) c0 c1 c2 c3
  unfold Polygon.mk?
  simp only [hded, hn0, hmean, hv, Bool.false_eq_true, if_false]
  simp only [List.length_cons, List.length_nil, if_neg h, if_neg hv0, hpl]
  simp only [Nat.reduceAdd, Bool.not_true, Bool.false_eq_true, if_false]
  exact congrArg (fun l => Except.ok (⟨l, ⟨p, cross a b⟩, c⟩ : Polygon)) hsort

/-! ### Parallelepiped -/

/-- coordinates ↔ skeleton: the six `Parallelogram` cycles are the id faces placed by `ppVertex` -/
theorem ppFacesCoded_eq_skeleton (p v1 v2 v3 : V3) :
    (ppFacesCoded p v1 v2 v3).map Prod.snd = parallelepipedFaces.map (List.map (ppVertex p v1 v2 v3)) := by
  simp only [ppFacesCoded, parallelepipedFaces, parallelogramPts, ppVertex, List.map_cons, List.map_nil]
  simp only [List.cons.injEq, and_true]
  norm_num
  and_intros <;> apply V3.ext' <;> simp only [add, neg, zero] <;> ring

theorem flipCycle_map {α β : Type} (g : α → β) (l : List α) : flipCycle (l.map g) = (flipCycle l).map g := by
  cases l with
  | nil => rfl
  | cons a t => simp [flipCycle, List.map_reverse]

theorem applyFlips_map {α β : Type} (g : α → β) (mask : List Bool) (fs : List (List α)) :
    applyFlips mask (fs.map (List.map g)) = (applyFlips mask fs).map (List.map g) := by
  unfold applyFlips
  rw [List.zipWith_map_right, List.map_zipWith]
  congr; funext b f
  cases b <;> simp [flipCycle_map]

theorem map_applyFlips {α β : Type} (g : List α → β) (hg : ∀ f, g (flipCycle f) = g f) (mask : List Bool)
    (fs : List (List α)) (h : fs.length ≤ mask.length) : (applyFlips mask fs).map g = fs.map g := by
  unfold applyFlips
  rw [List.map_zipWith, ← List.map_uncurry_zip_eq_zipWith]
  conv_rhs => rw [← List.map_snd_zip h, List.map_map]
  apply List.map_congr_left
  rintro ⟨b, f⟩ _
  cases b <;> simp [hg]

theorem headD_flipCycle {α : Type} (l : List α) (d : α) : (flipCycle l).headD d = l.headD d := by
  cases l <;> rfl

theorem vecArea2_flipCycle (l : List V3) : vecArea2 (flipCycle l) = neg (vecArea2 l) := by
  unfold vecArea2
  rw [← cyc_eq_closedPairs, ← cyc_eq_closedPairs, cyc_flipCycle, List.map_reverse, vsum_perm (List.reverse_perm _),
    List.map_map, ← vsum_map_neg, List.map_map]
  congr 1
  apply List.map_congr_left
  intro e _
  exact cross_anticomm e.2 e.1

/-- the orientation repair as a flip mask: a face is flipped iff its test value `(plane.p − centre)·plane.n` is
    negative -/
theorem orientOut_snd (c : V3) (L : List (V3 × List V3)) :
    (L.map (orientOut c)).map Prod.snd =
      applyFlips ((L.map (fun f => dot (sub (f.2.headD zero) c) f.1)).map (fun t => decide (t < 0)))
        (L.map Prod.snd) := by
  induction L with
  | nil => rfl
  | cons f L ih =>
    unfold applyFlips at ih ⊢
    simp only [List.map_cons, List.zipWith_cons_cons, ih, orientOut, decide_eq_true_eq]
    split <;> rfl

/-- one face through the orientation repair: if its test value is `-(d/2)` and the point `x` has height `lam·d`
    over its plane with `0 ≤ lam`, then `x` is on the inner side of the repaired face, whatever the sign of `d` (for
    `d = 0` it lies in the plane) -/
theorem orientOut_inner (c x : V3) (f : V3 × List V3) (d lam : Rat) (hl : 0 ≤ lam)
    (ht : dot (sub (f.2.headD zero) c) f.1 = -(d / 2)) (hx : dot (sub x (f.2.headD zero)) f.1 = lam * d) :
    dot (sub x ((orientOut c f).2.headD zero)) (orientOut c f).1 ≤ 0 := by
  unfold orientOut
  rw [ht]
  split_ifs with h
  · have : dot (sub x (f.2.headD zero)) (neg f.1) = -(lam * d) := by rw [← hx]; simp only [dot, neg]; ring
    rw [headD_flipCycle, this]
    have := mul_nonneg hl (show 0 ≤ d by linarith)
    linarith
  · rw [hx]
    exact mul_nonpos_of_nonneg_of_nonpos hl (by linarith)

theorem vol6_orientOut (c : V3) (k : Rat) (L : List (V3 × List V3)) (hA : ∀ f ∈ L, vecArea2 f.2 = smul k f.1) :
    vol6 ((L.map (orientOut c)).map Prod.snd) c =
      k * ((L.map (fun f => dot (sub (f.2.headD zero) c) f.1)).map absQ).sum := by
  induction L with
  | nil => simp [vol6]
  | cons f L ih =>
    have ih := ih (fun g hg => hA g (List.mem_cons_of_mem _ hg))
    have hf := hA f List.mem_cons_self
    unfold vol6 at ih ⊢
    simp only [List.map_cons, List.sum_cons, ih, orientOut, absQ]
    split_ifs
    · rw [headD_flipCycle, vecArea2_flipCycle, hf]; simp only [dot, neg, smul]; ring
    · rw [hf]; simp only [dot, smul]; ring

theorem parallelepipedOrientedNeg_closed : ClosedDir parallelepipedOrientedNeg :=
  closedDirFastB_sound 8 _ (by decide +kernel) (by decide +kernel)

/-- the constructor's orientation tests `(plane.p − centre)·plane.n` are `∓ det/2` -/
theorem pp_orient_tests (p v1 v2 v3 : V3) :
    (ppFacesCoded p v1 v2 v3).map (fun f => dot (sub (f.2.headD zero) (ppCentre p v1 v2 v3)) f.1) =
      [-(det3 v1 v2 v3 / 2), -(det3 v1 v2 v3 / 2), det3 v1 v2 v3 / 2,
       det3 v1 v2 v3 / 2, det3 v1 v2 v3 / 2, -(det3 v1 v2 v3 / 2)] := by
  simp only [ppFacesCoded, parallelogramPts, List.map_cons, List.map_nil, List.headD_cons, ppCentre, det3]
  simp only [List.cons.injEq, and_true]
  and_intros <;> simp only [dot, cross, sub, add, neg, smul] <;> ring

theorem pp_heights (p v1 v2 v3 : V3) (a b c : Rat) :
    (ppFacesCoded p v1 v2 v3).map (fun f => dot (sub (ppPoint p v1 v2 v3 a b c) (f.2.headD zero)) f.1) =
      [c * det3 v1 v2 v3, a * det3 v1 v2 v3, b * -det3 v1 v2 v3,
       (1 - c) * -det3 v1 v2 v3, (1 - a) * -det3 v1 v2 v3, (1 - b) * det3 v1 v2 v3] := by
  simp only [ppFacesCoded, parallelogramPts, List.map_cons, List.map_nil, List.headD_cons, ppPoint, det3]
  simp only [List.cons.injEq, and_true]
  and_intros <;> simp only [dot, cross, sub, add, neg, smul] <;> ring

/-- C14: after the constructor's orientation repair the parallelepiped is a closed surface: the repair applies
    exactly the flip mask of the skeleton (det > 0) or its complement (det < 0) -/
theorem parallelepiped_closed (p v1 v2 v3 : V3) (hd : det3 v1 v2 v3 ≠ 0) :
    ClosedSurface (((ppFacesCoded p v1 v2 v3).map (orientOut (ppCentre p v1 v2 v3))).map Prod.snd) := by
  rw [orientOut_snd, pp_orient_tests, ppFacesCoded_eq_skeleton, applyFlips_map]
  rcases lt_or_gt_of_ne hd with h | h
  · have hn : ¬ -(det3 v1 v2 v3 / 2) < 0 := by linarith
    have hp : det3 v1 v2 v3 / 2 < 0 := by linarith
    simp only [List.map_cons, List.map_nil, hn, hp, decide_true, decide_false]
    exact closedSurface_of_closedDir _ parallelepipedOrientedNeg_closed _
  · have hn : -(det3 v1 v2 v3 / 2) < 0 := by linarith
    have hp : ¬ det3 v1 v2 v3 / 2 < 0 := by linarith
    simp only [List.map_cons, List.map_nil, hn, hp, decide_true, decide_false]
    exact parallelepiped_closedSurface _

theorem absQ_half (x : Rat) : absQ (x / 2) = absQ x / 2 := by
  rw [Meas.absQ_eq_abs, Meas.absQ_eq_abs, abs_div, abs_two]

/-- C14, Parallelepiped volume: the surface-integral volume (`vol6` = 6·volume, any reference point `q`) of the
    faces as oriented by the constructor is `6·|det(v1, v2, v3)|` -/
theorem parallelepiped_volume (p v1 v2 v3 q : V3) (hd : det3 v1 v2 v3 ≠ 0) :
    vol6 (((ppFacesCoded p v1 v2 v3).map (orientOut (ppCentre p v1 v2 v3))).map Prod.snd) q =
      6 * absQ (det3 v1 v2 v3) := by
  -- the surface is closed, so take the centre as reference point: each of the six face pyramids has volume |det|/6
  rw [vol6_ref_independent _ (parallelepiped_closed p v1 v2 v3 hd) q (ppCentre p v1 v2 v3)]
  rw [vol6_orientOut _ 2, pp_orient_tests]
  · simp only [List.map_cons, List.map_nil, List.sum_cons, List.sum_nil, absQ_neg, absQ_half]
    ring
  · intro f hf
    simp only [ppFacesCoded, List.mem_cons, List.not_mem_nil, or_false] at hf
    rcases hf with rfl | rfl | rfl | rfl | rfl | rfl <;> exact parallelogram_vecArea2 _ _ _

#print axioms parallelepiped_volume
#print axioms parallelepiped_closed

/-- `Pyramid(face, apex).volume()` for a parallelogram face: `|(q − apex)·(a × b)| / 3` -/
theorem parallelogram_pyramidVolume (q a b apex : V3) (h : cross a b ≠ zero) :
    pyramidVolume (parallelogramPolygon q a b) apex = absQ (dot (sub q apex) (cross a b)) / 3 := by
  have hN := normSq_pos h
  have hs : dot (sub apex q) (cross a b) = -dot (sub q apex) (cross a b) := by simp only [dot, sub]; ring
  unfold pyramidVolume
  rw [parallelogram_areaNum q a b h]
  simp only [pyramidHeightNum, parallelogramPolygon, parallelogramPts, List.headD_cons, hs, absQ_neg]
  field_simp; ring

theorem ppCentre_eq_mean (p v1 v2 v3 : V3) :
    meanV ((List.range 8).map (ppVertex p v1 v2 v3)) = ppCentre p v1 v2 v3 := by
  simp only [List.range, List.range.loop, List.map_cons, List.map_nil, ppVertex, meanV, sumV, List.foldl_cons,
    List.foldl_nil, List.length_cons, List.length_nil, ppCentre]
  norm_num
  apply V3.ext' <;> simp only [add, smul, zero] <;> ring

theorem det_ne_cross (v1 v2 v3 : V3) (hd : det3 v1 v2 v3 ≠ 0) :
    cross v1 v2 ≠ zero ∧ cross v2 v3 ≠ zero ∧ cross v1 v3 ≠ zero := by
  refine ⟨?_, ?_, ?_⟩ <;> intro h <;> apply hd <;>
    have hx := congrArg V3.x h <;> have hy := congrArg V3.y h <;> have hz := congrArg V3.z h <;>
    simp only [cross, zero] at hx hy hz <;> simp only [det3, dot, cross]
  · linear_combination v3.x * hx + v3.y * hy + v3.z * hz
  · linear_combination v1.x * hx + v1.y * hy + v1.z * hz
  · linear_combination (-v2.x) * hx - v2.y * hy - v2.z * hz

theorem cross_neg_neg (a b : V3) : cross (neg a) (neg b) = cross a b := by
  apply V3.ext' <;> simp only [cross, neg] <;> ring

/-- C14, Parallelepiped volume as the code computes it (`volume()` = Σ pyramid volumes about the vertex centroid):
    `|det(v1, v2, v3)|` -/
theorem parallelepiped_pyramid_volume (p v1 v2 v3 : V3) (hd : det3 v1 v2 v3 ≠ 0) :
    ((ppPolygons p v1 v2 v3).map (fun f => pyramidVolume f (ppCentre p v1 v2 v3))).sum = absQ (det3 v1 v2 v3) := by
  obtain ⟨h12, h23, h13⟩ := det_ne_cross v1 v2 v3 hd
  have ht := pp_orient_tests p v1 v2 v3
  simp only [ppFacesCoded, parallelogramPts, List.map_cons, List.map_nil, List.headD_cons, List.cons.injEq,
    and_true] at ht
  obtain ⟨t0, t1, t2, t3, t4, t5⟩ := ht
  simp only [ppPolygons, List.map_cons, List.map_nil, List.sum_cons, List.sum_nil]
  rw [parallelogram_pyramidVolume _ _ _ _ h12, parallelogram_pyramidVolume _ _ _ _ h23,
    parallelogram_pyramidVolume _ _ _ _ h13, parallelogram_pyramidVolume _ _ _ _ (cross_neg_neg v1 v2 ▸ h12),
    parallelogram_pyramidVolume _ _ _ _ (cross_neg_neg v2 v3 ▸ h23),
    parallelogram_pyramidVolume _ _ _ _ (cross_neg_neg v1 v3 ▸ h13), t0, t1, t2, t3, t4, t5]
  simp only [absQ_neg, absQ_half]
  ring

theorem ppVertex_eq_ppPoint (p v1 v2 v3 : V3) (i : Nat) :
    ppVertex p v1 v2 v3 i = ppPoint p v1 v2 v3 (if i % 2 = 1 then 1 else 0) (if (i / 2) % 2 = 1 then 1 else 0)
      (if (i / 4) % 2 = 1 then 1 else 0) := by
  have e : ∀ (c : Prop) [Decidable c] (v : V3), (if c then v else zero) = smul (if c then 1 else 0) v := by
    intro c _ v
    split <;> apply V3.ext' <;> simp [smul, zero]
  unfold ppVertex ppPoint
  rw [e, e, e]

/-- C14, convexity of the parallelepiped: every point `p + a·v1 + b·v2 + c·v3`, `0 ≤ a, b, c ≤ 1` (in particular each
    of the eight vertices) is on the inner side of every face as oriented by the constructor -/
theorem parallelepiped_convex (p v1 v2 v3 : V3) (hd : det3 v1 v2 v3 ≠ 0) (a b c : Rat)
    (ha : 0 ≤ a ∧ a ≤ 1) (hb : 0 ≤ b ∧ b ≤ 1) (hc : 0 ≤ c ∧ c ≤ 1) :
    ∀ f ∈ (ppFacesCoded p v1 v2 v3).map (orientOut (ppCentre p v1 v2 v3)),
      dot (sub (ppPoint p v1 v2 v3 a b c) (f.2.headD zero)) f.1 ≤ 0 := by
  have ht := pp_orient_tests p v1 v2 v3
  have hx := pp_heights p v1 v2 v3 a b c
  intro f hf
  simp only [ppFacesCoded, List.map_cons, List.map_nil, List.cons.injEq, and_true, List.mem_cons, List.not_mem_nil,
    or_false] at ht hx hf
  obtain ⟨t0, t1, t2, t3, t4, t5⟩ := ht
  obtain ⟨x0, x1, x2, x3, x4, x5⟩ := hx
  rcases hf with rfl | rfl | rfl | rfl | rfl | rfl
  · exact orientOut_inner _ _ _ _ c hc.1 t0 x0
  · exact orientOut_inner _ _ _ _ a ha.1 t1 x1
  · exact orientOut_inner _ _ _ _ b hb.1 (by rw [t2]; ring) x2
  · exact orientOut_inner _ _ _ _ (1 - c) (by linarith) (by rw [t3]; ring) x3
  · exact orientOut_inner _ _ _ _ (1 - a) (by linarith) (by rw [t4]; ring) x4
  · exact orientOut_inner _ _ _ _ (1 - b) (by linarith) t5 x5
#print axioms parallelepiped_convex
#print axioms parallelogram_mk
#print axioms parallelogram_areaNum
#print axioms parallelepiped_pyramid_volume

end Builders
end G3D
