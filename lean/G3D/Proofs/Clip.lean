import G3D.Proofs.PolygonMem
import G3D.Proofs.Collinear

/-! Kernel K1: a line lying in the plane of a convex polygon — the edge-hit collection of
    `inter_line_convexpolygon` yields exactly line ∩ polygon. Part 1: convex-geometry lemmas. -/
namespace G3D
open V3

/-! ### hull facts -/
theorem between_in_hull {l : List V3} {a b x : V3} (ha : a ∈ l) (hb : b ∈ l) (hx : Between a b x) :
    InHull l x := by
  obtain ⟨t, h0, h1, rfl⟩ := hx
  exact (vertex_in_hull l a ha).convex (vertex_in_hull l b hb) t h0 h1

/-! ### a polygon point on the carrier of an edge lies on the edge -/
/-- a non-negative combination on which a non-negative function `f` sums to zero only uses the points where `f`
    vanishes; if these are at most `a` and `b`, it is a combination of `a` and `b` -/
theorem comb_on_edge (f : V3 → Rat) (a b : V3) (ws : List Rat) (ps : List V3) (h : ws.length = ps.length)
    (hw : ∀ w ∈ ws, 0 ≤ w) (hpos : ∀ p ∈ ps, 0 < f p ∨ p = a ∨ p = b) (hf : ∀ p ∈ ps, 0 ≤ f p)
    (hs : (List.zipWith (fun w p => w * f p) ws ps).sum = 0) :
    ∃ wa wb : Rat, 0 ≤ wa ∧ 0 ≤ wb ∧ wa + wb = ws.sum ∧ comb ws ps = add (smul wa a) (smul wb b) := by
  induction ps generalizing ws with
  | nil =>
    rw [List.length_eq_zero_iff.mp h]
    exact ⟨0, 0, le_refl _, le_refl _, add_zero 0, by apply V3.ext' <;> simp only [comb, add, smul, zero] <;> ring⟩
  | cons p ps ih =>
    obtain ⟨w, ws, rfl⟩ := List.exists_cons_of_length_eq_add_one h
    obtain ⟨hw0, hw⟩ := List.forall_mem_cons.mp hw
    obtain ⟨hp0, hpos⟩ := List.forall_mem_cons.mp hpos
    obtain ⟨hf0, hf⟩ := List.forall_mem_cons.mp hf
    rw [List.zipWith_cons_cons, List.sum_cons] at hs
    have h1 := mul_nonneg hw0 hf0
    have h2 := sum_zipWith_nonneg ws ps f hw hf
    obtain ⟨wa, wb, ha, hb, hsum, hc⟩ := ih ws (Nat.succ.inj h) hw hpos hf (by linarith)
    rw [List.sum_cons, comb, hc, ← hsum]
    rcases hp0 with hp | rfl | rfl
    · have hw0' : w = 0 := (mul_eq_zero.mp (by linarith : w * f p = 0)).resolve_right (ne_of_gt hp)
      exact ⟨wa, wb, ha, hb, by rw [hw0', zero_add],
        by rw [hw0']; apply V3.ext' <;> simp only [add, smul] <;> ring⟩
    · exact ⟨wa + w, wb, add_nonneg ha hw0, hb, by ring, by apply V3.ext' <;> simp only [add, smul] <;> ring⟩
    · exact ⟨wa, wb + w, ha, add_nonneg hb hw0, by ring, by apply V3.ext' <;> simp only [add, smul] <;> ring⟩

/-- Lemma E -/
theorem on_edge_of_tight (n : V3) (l : List V3) (htp : triplesPos n l) (e : V3 × V3) (he : e ∈ closedPairs l)
    (x : V3) (hx : InHull l x) (h0 : orient n e.1 e.2 x = 0) : Between e.1 e.2 x := by
  obtain ⟨ws, hlen, hnn, hsum, rfl⟩ := hx
  rw [orient_comb_hull hlen hsum] at h0
  obtain ⟨wa, wb, ha, hb, hab, hc⟩ := comb_on_edge (orient n e.1 e.2) e.1 e.2 ws l hlen hnn
    (closed_edges_pos n l htp e he) (closed_edges_nonneg n l htp e he) h0
  refine ⟨wb, hb, by linarith, ?_⟩
  rw [hc, show wa = 1 - wb by linarith]; apply V3.ext' <;> simp only [add, smul, sub] <;> ring
#print axioms on_edge_of_tight

/-! ### one-dimensional linear programme: finitely many constraints `0 ≤ α + β t` -/
def Feas (C : List (Rat × Rat)) (t : Rat) : Prop := ∀ c ∈ C, 0 ≤ c.1 + c.2 * t

theorem exists_max_of_list {α : Type} (f : α → Rat) : ∀ (l : List α), l ≠ [] → ∃ x ∈ l, ∀ y ∈ l, f y ≤ f x := by
  intro l
  induction l with
  | nil => intro h; exact absurd rfl h
  | cons a l ih =>
    intro _
    by_cases hl : l = []
    · subst hl; exact ⟨a, List.mem_cons_self .., List.forall_mem_singleton.mpr (le_refl _)⟩
    · obtain ⟨x, hx, hmax⟩ := ih hl
      rcases le_total (f x) (f a) with h | h
      · exact ⟨a, List.mem_cons_self .., List.forall_mem_cons.mpr ⟨le_refl _, fun y hy => (hmax y hy).trans h⟩⟩
      · exact ⟨x, List.mem_cons_of_mem _ hx, List.forall_mem_cons.mpr ⟨h, hmax⟩⟩

/-- the feasible set has a least element, attained on a constraint with positive slope -/
theorem lp_lo (C : List (Rat × Rat)) (t0 : Rat) (h0 : Feas C t0) (hpos : ∃ c ∈ C, 0 < c.2) :
    ∃ tlo, Feas C tlo ∧ (∀ t, Feas C t → tlo ≤ t) ∧ ∃ c ∈ C, 0 < c.2 ∧ c.1 + c.2 * tlo = 0 := by
  set P := C.filter (fun c => decide (0 < c.2)) with hP
  have hPne : P ≠ [] := by
    obtain ⟨c, hc, hcp⟩ := hpos
    exact List.ne_nil_of_mem (List.mem_filter.mpr ⟨hc, decide_eq_true hcp⟩)
  obtain ⟨cs, hcs, hmax⟩ := exists_max_of_list (fun c : Rat × Rat => - c.1 / c.2) P hPne
  rw [hP, List.mem_filter] at hcs
  have hcsC := hcs.1
  have hcsp : 0 < cs.2 := by simpa using hcs.2
  refine ⟨- cs.1 / cs.2, ?_, ?_, cs, hcsC, hcsp, by rw [mul_comm, div_mul_cancel₀ _ (ne_of_gt hcsp), add_neg_cancel]⟩
  · -- feasibility of the candidate
    have ht0 : - cs.1 / cs.2 ≤ t0 := by
      rw [div_le_iff₀ hcsp]; have := h0 cs hcsC; linarith
    intro c hc
    rcases lt_or_ge 0 c.2 with hb | hb
    · have := (div_le_iff₀ hb).mp (hmax c (by rw [hP, List.mem_filter]; exact ⟨hc, by simpa using hb⟩))
      linarith
    · have := h0 c hc
      have := mul_nonneg_of_nonpos_of_nonpos hb (sub_nonpos.mpr ht0)
      linarith
  · intro t ht
    rw [div_le_iff₀ hcsp]; have := ht cs hcsC; linarith

theorem lp_hi (C : List (Rat × Rat)) (t0 : Rat) (h0 : Feas C t0) (hneg : ∃ c ∈ C, c.2 < 0) :
    ∃ thi, Feas C thi ∧ (∀ t, Feas C t → t ≤ thi) ∧ ∃ c ∈ C, c.2 < 0 ∧ c.1 + c.2 * thi = 0 := by
  -- reflect t ↦ -t
  set C' := C.map (fun c => (c.1, - c.2)) with hC'
  have hf : ∀ t, Feas C' t ↔ Feas C (-t) := fun t => by
    simp only [Feas, hC', List.forall_mem_map, neg_mul_comm]
  obtain ⟨tlo, h1, h2, c', hc', hcp, hct⟩ := lp_lo C' (-t0) ((hf _).mpr (by simpa using h0))
    (by obtain ⟨c, hc, hcn⟩ := hneg; exact ⟨(c.1, -c.2), List.mem_map.mpr ⟨c, hc, rfl⟩, by simpa using hcn⟩)
  obtain ⟨c, hc, rfl⟩ := List.mem_map.mp hc'
  refine ⟨-tlo, (hf tlo).mp h1, ?_, c, hc, by simpa using hcp, by simp only at hct; linarith⟩
  intro t ht
  have := h2 (-t) ((hf (-t)).mpr (by simpa using ht))
  linarith

theorem all_zero_of_nonneg_sum_zero (l : List Rat) (h : ∀ x ∈ l, 0 ≤ x) (hs : l.sum = 0) : ∀ x ∈ l, x = 0 :=
  fun _ hx => List.all_zero_of_le_zero_le_of_sum_eq_zero h hs hx

theorem exists_pos_neg_of_sum_zero (l : List Rat) (hs : l.sum = 0) (hne : ∃ x ∈ l, x ≠ 0) :
    (∃ x ∈ l, 0 < x) ∧ (∃ x ∈ l, x < 0) := by
  obtain ⟨x0, hx0, hx0n⟩ := hne
  constructor
  · -- otherwise the negated list is non-negative with sum zero
    by_contra hcon
    push_neg at hcon
    have := all_zero_of_nonneg_sum_zero (l.map (- ·))
      (List.forall_mem_map.mpr fun z hz => neg_nonneg.mpr (hcon z hz))
      (by rw [← List.sum_neg, hs, neg_zero]) (-x0) (List.mem_map_of_mem hx0)
    exact hx0n (neg_eq_zero.mp this)
  · by_contra hcon
    push_neg at hcon
    exact hx0n (all_zero_of_nonneg_sum_zero l hcon hs x0 hx0)
#print axioms lp_lo
#print axioms lp_hi
end G3D
