import G3D.Model.Tol
import Mathlib.Tactic.Ring
import Mathlib.Tactic.Linarith
import Mathlib.Tactic.Positivity
import Mathlib.Algebra.Order.Field.Rat
import Mathlib.Algebra.Order.Field.Power

namespace G3D.Tol

/-- the invariant of constant.py: `SIG_FIGURES = round(log10(1/FLOAT_EPS))` -/
def Inv (c : Cfg) : Prop := isSigOf c.eps c.sig = true

theorem sigOf_spec (e : Rat) (k : Int) (h : sigOf e = some k) : isSigOf e k = true := by
  unfold sigOf at h
  exact List.find?_some h

theorem pow10_succ (k : Nat) : pow10 (k+1) = 10 * pow10 k := by unfold pow10; ring

theorem pow10neg_eq_zpow (k : Int) : pow10neg k = (10 : Rat) ^ (-k) := by
  unfold pow10neg pow10
  split
  · rename_i h
    obtain ⟨n, rfl⟩ := Int.eq_ofNat_of_zero_le h
    simp
  · rename_i h
    obtain ⟨n, hn⟩ := Int.eq_ofNat_of_zero_le (by omega : 0 ≤ -k)
    rw [hn]
    simp

theorem isSigOf_iff (e : Rat) (k : Int) :
    isSigOf e k = true ↔ 0 < e ∧ (10 : Rat) ^ (2*k-1) ≤ 1 / (e*e) ∧ 1 / (e*e) < (10 : Rat) ^ (2*k+1) := by
  unfold isSigOf
  simp only [Bool.and_eq_true, decide_eq_true_eq, pow10neg_eq_zpow, neg_neg, and_assoc]

/-- `set_sig_figures(k)` establishes the invariant for every integer `k` (`k ≥ 0` is the documented use):
    `eps = 10^(-k)`, so `eps⁻² = 10^(2k)` lies in `[10^(2k-1), 10^(2k+1))` -/
theorem setSig_inv (c : Cfg) (k : Int) : Inv (setSig c k) := by
  have e : 1 / ((10 : Rat) ^ (-k) * (10 : Rat) ^ (-k)) = (10 : Rat) ^ (2 * k) := by
    rw [← zpow_add₀ (by norm_num), one_div, ← zpow_neg]
    congr 1; ring
  show isSigOf (pow10neg k) k = true
  rw [isSigOf_iff, pow10neg_eq_zpow, e]
  exact ⟨by positivity, zpow_le_zpow_right₀ (by norm_num) (by omega),
    zpow_lt_zpow_right₀ (by norm_num) (by omega)⟩

theorem setEps_eq_some {c c' : Cfg} {e : Rat} : setEps c e = some c' ↔ ∃ k, sigOf e = some k ∧ ⟨e, k⟩ = c' :=
  Option.map_eq_some_iff

theorem setEps_inv (c : Cfg) (e : Rat) (c' : Cfg) (h : setEps c e = some c') : Inv c' := by
  obtain ⟨k, hk, rfl⟩ := setEps_eq_some.1 h
  exact sigOf_spec e k hk

/-- C19 (configuration): after ANY sequence of setter calls (with non-negative digit counts) the two
    globals are consistent -/
def Op.ok : Op → Prop
  | .setSig n => 0 ≤ n
  | _ => True

theorem init_inv : Inv init := setSig_inv init 10

theorem step_inv (c : Cfg) (op : Op) (c' : Cfg) (h : step c op = some c') : Inv c' := by
  cases op with
  | setEps e => exact setEps_inv c e c' h
  | setEpsDefault => exact setEps_inv c _ c' h
  | setSig n => exact Option.some.inj h ▸ setSig_inv c n
  | setSigDefault => exact Option.some.inj h ▸ setSig_inv c 10

/-- every successful sequence of setter calls preserves the invariant (whatever the digit counts) -/
theorem run_inv : ∀ (ops : List Op) (c : Cfg), Inv c → ∀ c', run c ops = some c' → Inv c'
  | [], _, hc, _, h => Option.some.inj h ▸ hc
  | op :: ops, c, _, c', h => by
    obtain ⟨c1, hs, h'⟩ := Option.bind_eq_some_iff.1 h
    exact run_inv ops c1 (step_inv c op c1 hs) c' h'

/-- restoring the previous eps restores the previous configuration -/
theorem restore (c : Cfg) (hc : Inv c) (e : Rat) (c1 c2 : Cfg) (h1 : setEps c e = some c1)
    (h2 : setEps c1 c.eps = some c2) : c2.eps = c.eps := by
  obtain ⟨k, -, rfl⟩ := setEps_eq_some.1 h2
  rfl

/-- Points / Vectors: a difference of at most eps/1000 is equal, more than 4·eps in a coordinate is not -/
theorem coordEq_within (c : Cfg) (hpos : 0 < c.eps) (a b : Rat) (h : absR (a - b) ≤ c.eps / 1000) :
    coordEq c a b = true :=
  decide_eq_true (by linarith)

theorem coordEq_beyond (c : Cfg) (hpos : 0 < c.eps) (a b : Rat) (h : 4 * c.eps < absR (a - b)) :
    coordEq c a b = false :=
  decide_eq_false (not_lt.2 (by linarith))
#print axioms run_inv
end G3D.Tol
