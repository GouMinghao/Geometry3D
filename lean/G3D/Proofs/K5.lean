import G3D.Model.K5
import G3D.Proofs.Polyhedron
import G3D.Proofs.Judge
import G3D.Proofs.Volume

/-! Kernel K5: a point passing all face half-space tests of a closed convex polyhedron is a convex combination of
    the vertices (`contains ⊆ hull`; the other inclusion is `Polyhedron.hull_subset_contains`).

    Route: (1) chord through the point along a face normal; a closed surface has faces looking both ways along any
    direction (vector areas sum to zero), so both chord ends are tight on a face plane (1-D LP, `lp_lo`/`lp_hi`);
    (2) a body point in the plane of a face lies in a face: either in THAT face when the neighbours across its edges
    are not coplanar (`FaceLocal`, `face_of_tight`), or, in general, in some coplanar face (`cover`: extremal argument
    along a generic line inside the plane, needs an interior point to exclude back-to-back faces);
    (3) K0 (`Polygon.contains_iff`) + `InHull.mono` + `InHull.convex`.
    Main results: `Polyhedron.contains_subset_hull`, `Polyhedron.contains_iff_hull` (hypothesis `Polyhedron.Valid`),
    Bool judges `validB`/`validProperB`/`faceLocalB` with soundness, bridge from `polyhedronValidB`, tetrahedron,
    concrete instances. -/
namespace G3D
open V3

/-! ### a point of the body lying in a face plane lies in the face -/

/-- locality hypothesis: for every face `f` and every directed edge `(a, b)` of `f` there is a face `g` whose plane
    passes through `a` and `b` and which has a vertex of `f` strictly on its inner side (so that the plane of `g`
    meets the plane of `f` exactly in the carrier of the edge) -/
def Polyhedron.FaceLocal (B : Polyhedron) : Prop :=
  ∀ f ∈ B.faces, ∀ e ∈ closedPairs f.pts,
    ∃ g ∈ B.faces, g.side e.1 = 0 ∧ g.side e.2 = 0 ∧ ∃ v ∈ f.pts, g.side v < 0

/-- the neighbouring half-space `(· - q) . m ≤ 0`, restricted to the plane of `f`, is the edge inequality -/
theorem edge_of_neighbour (n pl a b v y q m : V3) (hn : n ≠ zero)
    (ha : inPlane n pl a = true) (hb : inPlane n pl b = true) (hv : inPlane n pl v = true)
    (hy : inPlane n pl y = true)
    (hGa : dot (sub a q) m = 0) (hGb : dot (sub b q) m = 0)
    (hD : 0 < orient n a b v) (hGv : dot (sub v q) m < 0) (hGy : dot (sub y q) m ≤ 0) :
    0 ≤ orient n a b y := by
  -- on the plane both `orient n a b ·` and `(· - q) . m` are affine and vanish on the line `a b`: they are proportional
  have hT : trip (sub b a) (sub v a) (sub y a) = 0 :=
    trip_eq_zero_of_perp hn (inPlane_diff ha hb) (inPlane_diff ha hv) (inPlane_diff ha hy)
  have eG : ∀ x, dot (sub x q) m = dot m (sub x a) := fun x => by
    have : dot (sub x q) m = dot m (sub x a) + dot (sub a q) m := by simp only [dot, sub]; ring
    rw [this, hGa, add_zero]
  have id4 := orient_exchange n m a b v y
  rw [hT, ← eG b, hGb, neg_zero, zero_mul, mul_zero, add_zero] at id4
  rw [eG] at hGv hGy
  by_contra hcon
  have h1 := mul_pos_of_neg_of_neg (not_le.mp hcon) hGv
  have h2 := mul_nonpos_of_nonneg_of_nonpos (le_of_lt hD) hGy
  linarith

theorem Polygon.side_zero_inPlane (f : Polygon) (hc : G3D.inPlane f.plane.n f.plane.p f.center = true) (x : V3) :
    f.side x = 0 ↔ G3D.inPlane f.plane.n f.plane.p x = true := by
  simp only [G3D.inPlane, beq_iff_eq] at hc ⊢
  have : dot f.plane.n (sub x f.plane.p) = f.side x + dot f.plane.n (sub f.center f.plane.p) := by
    simp only [Polygon.side, dot, sub]; ring
  rw [this, hc]; simp

theorem Polygon.contains_iff_edges (g : Polygon) (x : V3) (hx : G3D.inPlane g.plane.n g.plane.p x = true) :
    g.contains x = true ↔ ∀ e ∈ closedPairs g.pts, 0 ≤ orient g.plane.n e.1 e.2 x := by
  rw [Polygon.contains_eq]
  unfold polyContains
  rw [Bool.and_eq_true, List.all_eq_true]
  simp only [decide_eq_true_eq]
  exact ⟨fun h => h.2, fun h => ⟨hx, h⟩⟩

theorem Polyhedron.contains_iff_side (B : Polyhedron) (x : V3) :
    B.contains x = true ↔ ∀ f ∈ B.faces, f.side x ≤ 0 := by
  unfold Polyhedron.contains
  rw [List.all_eq_true]
  simp only [decide_eq_true_eq, Polygon.side]

/-- under `FaceLocal`, a point of the body in the plane of a face passes the polygon test of that face -/
theorem Polyhedron.face_of_tight (B : Polyhedron) (hfv : ∀ f ∈ B.faces, f.Valid)
    (hcp : ∀ f ∈ B.faces, inPlane f.plane.n f.plane.p f.center = true) (hloc : B.FaceLocal)
    (y : V3) (hy : B.contains y = true) (f : Polygon) (hf : f ∈ B.faces) (ht : f.side y = 0) :
    f.contains y = true := by
  have hyp : inPlane f.plane.n f.plane.p y = true := (f.side_zero_inPlane (hcp f hf) y).mp ht
  have hV := hfv f hf
  have hpl := hV.pts_inPlane
  rw [f.contains_iff_edges y hyp]
  intro e he
  obtain ⟨g, hg, hga, hgb, v, hv, hgv⟩ := hloc f hf e he
  have hm := closedPairs_mem f.pts e he
  have hD : 0 < orient f.plane.n e.1 e.2 v := by
    rcases closed_edges_pos f.plane.n f.pts hV.pos e he v hv with h | h | h
    · exact h
    · rw [h, hga] at hgv; exact absurd hgv (lt_irrefl _)
    · rw [h, hgb] at hgv; exact absurd hgv (lt_irrefl _)
  exact edge_of_neighbour f.plane.n f.plane.p e.1 e.2 v y g.center g.plane.n (Polygon.plane_WF f hV)
    (hpl _ hm.1) (hpl _ hm.2) (hpl _ hv) hyp hga hgb hD hgv ((B.contains_iff_side y).mp hy g hg)
#print axioms Polyhedron.face_of_tight

/-- hence it is a convex combination of the vertices of that face, and of the vertices of the body -/
theorem Polyhedron.hull_of_tight (B : Polyhedron) (hfv : ∀ f ∈ B.faces, f.Valid)
    (hcp : ∀ f ∈ B.faces, inPlane f.plane.n f.plane.p f.center = true)
    (hsub : ∀ f ∈ B.faces, ∀ p ∈ f.pts, p ∈ B.verts) (hloc : B.FaceLocal)
    (y : V3) (hy : B.contains y = true) (f : Polygon) (hf : f ∈ B.faces) (ht : f.side y = 0) :
    InHull B.verts y :=
  ((Polygon.contains_iff f (hfv f hf) y).mp (B.face_of_tight hfv hcp hloc y hy f hf ht)).mono (hsub f hf)

/-! ### boundedness: a closed surface has faces looking both ways along every direction -/

theorem sum_pos_of_nonneg_of_pos (l : List Rat) (h : ∀ x ∈ l, 0 ≤ x) (hp : ∃ x ∈ l, 0 < x) : 0 < l.sum := by
  obtain ⟨x, hx, hxp⟩ := hp
  exact lt_of_lt_of_le hxp (List.single_le_sum h x hx)

/-- the (doubled) area of a valid polygon, measured along its normal, is positive -/
theorem area_pos (n : V3) (p0 p1 p2 : V3) (rest : List V3) (htp : triplesPos n (p0 :: p1 :: p2 :: rest)) :
    0 < dot n (vecArea2 (p0 :: p1 :: p2 :: rest)) := by
  set l := p0 :: p1 :: p2 :: rest with hl
  have h := fan_sum_eq_shoelace n p0 l
  have hterm : ∀ e : V3 × V3, dot n (cross (sub e.1 p0) (sub e.2 p0)) = orient n e.1 e.2 p0 := by
    intro e; simp only [orient, dot, cross, sub]; ring
  unfold vecArea2
  rw [← h]
  apply sum_pos_of_nonneg_of_pos
  · intro x hx
    obtain ⟨e, he, rfl⟩ := List.mem_map.mp hx
    rw [hterm]; exact closed_edges_nonneg n l htp e he p0 (by simp [hl])
  · refine ⟨orient n p1 p2 p0, List.mem_map.mpr ⟨(p1, p2), by simp [hl, closedPairs, consec], hterm _⟩, ?_⟩
    rw [← orient_cyc]; exact htp.1 p1 p2 (by simp)

theorem Polygon.vecArea_eq (f : Polygon) (hv : f.Valid) :
    ∃ k : Rat, 0 < k ∧ vecArea2 f.pts = smul k f.plane.n := by
  have hn : f.plane.n ≠ zero := Polygon.plane_WF f hv
  obtain ⟨p0, p1, p2, rest, hp, hpl, htp⟩ := hv
  refine ⟨dot f.plane.n (vecArea2 f.pts) / normSq f.plane.n, ?_, vecArea2_parallel f.plane.n f.plane.p hn f.pts hpl⟩
  apply div_pos _ (normSq_pos hn)
  rw [hp] at htp ⊢
  exact area_pos f.plane.n p0 p1 p2 rest htp

theorem sum_map_dot_vecArea (e : V3) (fs : List Polygon) :
    dot e (vsum ((fs.map (·.pts)).map vecArea2)) = (fs.map (fun f => dot e (vecArea2 f.pts))).sum := by
  rw [dot_vsum, List.map_map, List.map_map]; rfl

/-- if some face looks along `e`, some face looks against `e` -/
theorem Polyhedron.exists_opposite_face (B : Polyhedron) (hfv : ∀ f ∈ B.faces, f.Valid)
    (hc : ClosedSurface (B.faces.map (·.pts))) (e : V3) (h : ∃ f ∈ B.faces, 0 < dot f.plane.n e) :
    ∃ g ∈ B.faces, dot g.plane.n e < 0 := by
  have hz := closed_vecArea_zero _ hc
  have hs : (B.faces.map (fun f => dot e (vecArea2 f.pts))).sum = 0 := by
    rw [← sum_map_dot_vecArea, hz]; simp [dot, zero]
  obtain ⟨f, hf, hfe⟩ := h
  have hterm : ∀ g ∈ B.faces, ∃ k : Rat, 0 < k ∧ dot e (vecArea2 g.pts) = k * dot g.plane.n e := by
    intro g hg
    obtain ⟨k, hk, hke⟩ := g.vecArea_eq (hfv g hg)
    exact ⟨k, hk, by rw [hke]; simp only [dot, smul]; ring⟩
  have hne : ∃ x ∈ B.faces.map (fun f => dot e (vecArea2 f.pts)), x ≠ 0 := by
    obtain ⟨k, hk, hke⟩ := hterm f hf
    exact ⟨_, List.mem_map.mpr ⟨f, hf, rfl⟩, by rw [hke]; exact ne_of_gt (mul_pos hk hfe)⟩
  obtain ⟨x, hx, hxn⟩ := (exists_pos_neg_of_sum_zero _ hs hne).2
  obtain ⟨g, hg, rfl⟩ := List.mem_map.mp hx
  obtain ⟨k, hk, hke⟩ := hterm g hg
  rw [hke] at hxn
  exact ⟨g, hg, neg_of_mul_neg_right hxn (le_of_lt hk)⟩
#print axioms Polyhedron.exists_opposite_face

/-! ### chord through a point of the body: both ends are tight on some face -/

theorem Polygon.side_pt (f : Polygon) (x e : V3) (t : Rat) :
    f.side (pt x e t) = f.side x + t * dot f.plane.n e := by
  simp only [Polygon.side, pt, dot, sub, add, smul]; ring

/-- chord reduction: every point of the body lies on a segment `[y2, y1]` of the body whose two ends are each
    tight on (= in the plane of) some face.  Needs only: at least one face, faces valid, closed surface. -/
theorem Polyhedron.chord (B : Polyhedron) (hne : B.faces ≠ []) (hfv : ∀ f ∈ B.faces, f.Valid)
    (hc : ClosedSurface (B.faces.map (·.pts))) (x : V3) (hx : B.contains x = true) :
    ∃ y1 y2 : V3, B.contains y1 = true ∧ B.contains y2 = true ∧
      (∃ f ∈ B.faces, f.side y1 = 0) ∧ (∃ f ∈ B.faces, f.side y2 = 0) ∧ Between y2 y1 x := by
  obtain ⟨f0, hf0⟩ := List.exists_mem_of_ne_nil _ hne
  set e := f0.plane.n with he
  have hn0 : e ≠ zero := Polygon.plane_WF f0 (hfv f0 hf0)
  have h0 : 0 < dot f0.plane.n e := normSq_pos hn0
  obtain ⟨g0, hg0, hg0e⟩ := B.exists_opposite_face hfv hc e ⟨f0, hf0, h0⟩
  set C : List (Rat × Rat) := B.faces.map (fun f => (- f.side x, - dot f.plane.n e)) with hC
  have hfeas : ∀ t, Feas C t ↔ B.contains (pt x e t) = true := by
    intro t
    simp only [B.contains_iff_side, Feas, hC, List.forall_mem_map, Polygon.side_pt]
    exact forall₂_congr (fun f _ => by constructor <;> intro h <;> linarith only [h])
  have hpt0 : pt x e 0 = x := by apply V3.ext' <;> simp [pt, add, smul]
  have hF0 : Feas C 0 := (hfeas 0).mpr (by rw [hpt0]; exact hx)
  obtain ⟨thi, hthi, hmax, c1, hc1, _, hc1t⟩ := lp_hi C 0 hF0
    ⟨_, List.mem_map.mpr ⟨f0, hf0, rfl⟩, by simp only; linarith⟩
  obtain ⟨tlo, htlo, hmin, c2, hc2, _, hc2t⟩ := lp_lo C 0 hF0
    ⟨_, List.mem_map.mpr ⟨g0, hg0, rfl⟩, by simp only; linarith⟩
  obtain ⟨f1, hf1, rfl⟩ := List.mem_map.mp hc1
  obtain ⟨f2, hf2, rfl⟩ := List.mem_map.mp hc2
  simp only at hc1t hc2t
  have hhi : 0 ≤ thi := hmax 0 hF0
  have hlo : tlo ≤ 0 := hmin 0 hF0
  refine ⟨pt x e thi, pt x e tlo, (hfeas thi).mp hthi, (hfeas tlo).mp htlo,
    ⟨f1, hf1, by rw [f1.side_pt]; linarith⟩, ⟨f2, hf2, by rw [f2.side_pt]; linarith⟩, ?_⟩
  exact (Between_pt (le_trans hlo hhi) x).mpr ⟨0, hlo, hhi, hpt0.symm⟩
#print axioms Polyhedron.chord

/-! ### the theorem under the explicit locality hypothesis -/

/-- K5 under `FaceLocal`: a point passing all face tests is a convex combination of the vertices.
    Assumes: at least one face; every face a valid polygon (coplanar, positively oriented cycle, ≥ 3 vertices) with
    its stored centre in its plane; face vertices are listed in `B.verts`; the directed edges form a closed surface;
    `FaceLocal`. -/
theorem Polyhedron.contains_subset_hull_of_faceLocal (B : Polyhedron) (hne : B.faces ≠ [])
    (hfv : ∀ f ∈ B.faces, f.Valid)
    (hcp : ∀ f ∈ B.faces, inPlane f.plane.n f.plane.p f.center = true)
    (hsub : ∀ f ∈ B.faces, ∀ p ∈ f.pts, p ∈ B.verts)
    (hc : ClosedSurface (B.faces.map (·.pts))) (hloc : B.FaceLocal)
    (x : V3) (hx : B.contains x = true) : InHull B.verts x := by
  obtain ⟨y1, y2, hy1, hy2, ⟨f1, hf1, ht1⟩, ⟨f2, hf2, ht2⟩, s, hs0, hs1, rfl⟩ := B.chord hne hfv hc x hx
  exact (B.hull_of_tight hfv hcp hsub hloc y2 hy2 f2 hf2 ht2).convex
    (B.hull_of_tight hfv hcp hsub hloc y1 hy1 f1 hf1 ht1) s hs0 hs1
#print axioms Polyhedron.contains_subset_hull_of_faceLocal

/-! ### the Bool checker of `FaceLocal` -/
theorem Polyhedron.faceLocalB_iff (B : Polyhedron) : B.faceLocalB = true ↔ B.FaceLocal := by
  simp only [Polyhedron.faceLocalB, Polyhedron.FaceLocal, List.all_eq_true, List.any_eq_true, Bool.and_eq_true,
    beq_iff_eq, decide_eq_true_eq, and_assoc]

theorem Polyhedron.faceLocal_of_faceLocalB (B : Polyhedron) (h : B.faceLocalB = true) : B.FaceLocal :=
  B.faceLocalB_iff.mp h

/-! ### neighbours across an edge -/
theorem mem_dirEdges (fs : List Polygon) (e : V3 × V3) :
    e ∈ dirEdges (fs.map (·.pts)) ↔ ∃ f ∈ fs, e ∈ closedPairs f.pts := by
  unfold dirEdges
  rw [List.mem_flatMap]
  constructor
  · rintro ⟨l, hl, he⟩
    obtain ⟨f, hf, rfl⟩ := List.mem_map.mp hl
    exact ⟨f, hf, he⟩
  · rintro ⟨f, hf, he⟩
    exact ⟨f.pts, List.mem_map.mpr ⟨f, hf, rfl⟩, he⟩

/-- in a closed surface every directed edge has its reverse in some face -/
theorem Polyhedron.exists_neighbour (B : Polyhedron) (hc : ClosedSurface (B.faces.map (·.pts)))
    (f : Polygon) (hf : f ∈ B.faces) (e : V3 × V3) (he : e ∈ closedPairs f.pts) :
    ∃ g ∈ B.faces, (e.2, e.1) ∈ closedPairs g.pts := by
  have h1 : e ∈ dirEdges (B.faces.map (·.pts)) := (mem_dirEdges _ e).mpr ⟨f, hf, he⟩
  have h2 := (List.Perm.mem_iff hc).mp h1
  obtain ⟨e', he', rfl⟩ := List.mem_map.mp h2
  exact (mem_dirEdges _ _).mp (by simpa using he')


/-! ### a valid polygon never contains an edge together with its reverse -/
theorem eq_of_three_in_two {α : Type} {a b x y z : α} (hx : x = a ∨ x = b) (hy : y = a ∨ y = b)
    (hz : z = a ∨ z = b) : x = y ∨ y = z ∨ x = z := by
  rcases hx with rfl | rfl <;> rcases hy with rfl | rfl <;> rcases hz with rfl | rfl <;> simp

theorem Polygon.no_rev_edge (P : Polygon) (hv : P.Valid) (e : V3 × V3) (he : e ∈ closedPairs P.pts)
    (hr : (e.2, e.1) ∈ closedPairs P.pts) : False := by
  -- a vertex off the edge would be strictly on the left of both `e` and its reverse
  have hall : ∀ v ∈ P.pts, v = e.1 ∨ v = e.2 := by
    intro v hv'
    rcases closed_edges_pos P.plane.n P.pts hv.pos e he v hv' with h | h | h
    · rcases closed_edges_pos P.plane.n P.pts hv.pos _ hr v hv' with h' | h' | h'
      · rw [orient_rev] at h'; linarith
      · exact Or.inr h'
      · exact Or.inl h'
    · exact Or.inl h
    · exact Or.inr h
  obtain ⟨p0, hm0, p1, hm1, p2, hm2, hD⟩ := hv.nondeg
  rcases eq_of_three_in_two (hall p0 hm0) (hall p1 hm1) (hall p2 hm2) with h | h | h
  · rw [h, orient_same] at hD; exact hD rfl
  · rw [h, orient_self_right] at hD; exact hD rfl
  · rw [h, orient_cyc, orient_self_right] at hD; exact hD rfl

/-! ### coplanar neighbours: same supporting plane, same outward direction -/

/-- `g` has the same supporting plane and the same outward direction as `f` -/
def SamePlane (f g : Polygon) : Prop :=
  ∃ k : Rat, 0 < k ∧ g.plane.n = smul k f.plane.n ∧ ∀ x, g.side x = k * f.side x

theorem SamePlane.refl (f : Polygon) : SamePlane f f :=
  ⟨1, one_pos, by apply V3.ext' <;> simp [smul], fun x => by ring⟩

theorem SamePlane.trans {f g h : Polygon} (h1 : SamePlane f g) (h2 : SamePlane g h) : SamePlane f h := by
  obtain ⟨k1, hk1, hn1, hs1⟩ := h1
  obtain ⟨k2, hk2, hn2, hs2⟩ := h2
  refine ⟨k2 * k1, mul_pos hk2 hk1, ?_, fun x => by rw [hs2, hs1]; ring⟩
  rw [hn2, hn1]; apply V3.ext' <;> simp only [smul] <;> ring

/-- a vector orthogonal to two independent vectors is a multiple of their cross product -/
theorem parallel_of_perp (u w m : V3) (hN : cross u w ≠ zero) (hu : dot m u = 0) (hw : dot m w = 0) :
    ∃ k : Rat, m = smul k (cross u w) :=
  ⟨_, eq_smul_of_cross_eq_zero hN (cross_cross_perp hu hw)⟩

/-- a face `h` whose plane contains all vertices of the valid face `F` is coplanar with `F`; with an interior
    point of the body on the inner side of both, the outward directions agree -/
theorem coplanar_neighbour (F h : Polygon) (hF : F.Valid)
    (hcF : G3D.inPlane F.plane.n F.plane.p F.center = true)
    (o : V3) (hoF : F.side o < 0) (hoh : h.side o < 0)
    (hall : ∀ v ∈ F.pts, h.side v = 0) : SamePlane F h := by
  have hnF : F.plane.n ≠ zero := Polygon.plane_WF F hF
  have hpl := hF.pts_inPlane
  obtain ⟨p0, hm0, p1, hm1, p2, hm2, hD⟩ := hF.nondeg
  set u := sub p1 p0 with hu
  set w := sub p2 p0 with hw
  have hN : cross u w ≠ zero := by
    intro hz
    have : orient F.plane.n p0 p1 p2 = dot F.plane.n (cross u w) := rfl
    rw [this, hz] at hD; simp [dot, zero] at hD
  have nFu : dot F.plane.n u = 0 := inPlane_diff (hpl _ hm0) (hpl _ hm1)
  have nFw : dot F.plane.n w = 0 := inPlane_diff (hpl _ hm0) (hpl _ hm2)
  have s0 := hall p0 hm0
  have s1 := hall p1 hm1
  have s2 := hall p2 hm2
  have mu : dot h.plane.n u = 0 := by
    have : dot h.plane.n u = h.side p1 - h.side p0 := by simp only [hu, Polygon.side, dot, sub]; ring
    rw [this, s0, s1]; ring
  have mw : dot h.plane.n w = 0 := by
    have : dot h.plane.n w = h.side p2 - h.side p0 := by simp only [hw, Polygon.side, dot, sub]; ring
    rw [this, s0, s2]; ring
  obtain ⟨k1, hk1⟩ := parallel_of_perp u w h.plane.n hN mu mw
  obtain ⟨k2, hk2⟩ := parallel_of_perp u w F.plane.n hN nFu nFw
  have hk2ne : k2 ≠ 0 := smul_ne_zero_left (by rw [← hk2]; exact hnF)
  have hmn : h.plane.n = smul (k1 / k2) F.plane.n := by
    rw [hk1]; conv_rhs => rw [hk2]
    apply V3.ext' <;> simp only [smul] <;> rw [← mul_assoc, div_mul_cancel₀ k1 hk2ne]
  set k := k1 / k2 with hk
  -- the side functionals are proportional
  have hF0 : F.side p0 = 0 := (F.side_zero_inPlane hcF p0).mpr (hpl _ hm0)
  have hside : ∀ x, h.side x = k * F.side x := by
    intro x
    have e1 : h.side x = h.side x - h.side p0 := by rw [s0]; ring
    have e2 : F.side x = F.side x - F.side p0 := by rw [hF0]; ring
    rw [e1, e2]
    simp only [Polygon.side, hmn, dot, sub, smul]; ring
  exact ⟨k, pos_of_mul_neg_left (hside o ▸ hoh) (le_of_lt hoF), hmn, hside⟩

/-! ### a valid face against a line in its plane: the last parameter (≤ 1) at which the line is in the face -/

theorem face_line_max (g : Polygon) (c d : V3) (hc : G3D.inPlane g.plane.n g.plane.p c = true)
    (hd : dot g.plane.n d = 0) (t0 : Rat) (h1 : t0 ≤ 1) (hin : g.contains (pt c d t0) = true) :
    ∃ tm, t0 ≤ tm ∧ tm ≤ 1 ∧ g.contains (pt c d tm) = true ∧
      (∀ t, t ≤ 1 → g.contains (pt c d t) = true → t ≤ tm) ∧
      (tm = 1 ∨ ∃ e ∈ closedPairs g.pts, orient g.plane.n e.1 e.2 (pt c d tm) = 0 ∧
        dot g.plane.n (cross (sub e.2 e.1) d) < 0) := by
  set C : List (Rat × Rat) := (1, -1) :: cycleCons g.plane.n g.pts c d with hC
  have hfeas : ∀ t, Feas C t ↔ (t ≤ 1 ∧ g.contains (pt c d t) = true) := by
    intro t
    rw [g.contains_iff_edges _ (inPlane_pt hc hd t), ← feas_cycleCons, hC, Feas, List.forall_mem_cons]
    exact and_congr (by simp only [one_mul, neg_mul]; constructor <;> intro h <;> linarith) Iff.rfl
  have hF0 : Feas C t0 := (hfeas t0).mpr ⟨h1, hin⟩
  obtain ⟨thi, hthi, hmax, c1, hc1, hneg, htight⟩ := lp_hi C t0 hF0 ⟨(1, -1), by simp [hC], by norm_num⟩
  have h2 := (hfeas thi).mp hthi
  refine ⟨thi, hmax t0 hF0, h2.1, h2.2, fun t ht hg => hmax t ((hfeas t).mpr ⟨ht, hg⟩), ?_⟩
  rw [hC] at hc1
  rcases List.mem_cons.mp hc1 with rfl | hc1
  · left; simp only at htight; linarith
  · right
    obtain ⟨e, he, rfl⟩ := List.mem_map.mp hc1
    simp only at htight hneg
    exact ⟨e, he, by rw [orient_pt]; exact htight, hneg⟩

open Classical in
/-- maximum over a list of "intervals", each of which has a maximum when non-empty -/
theorem exists_max_rel {α : Type} (I : α → Rat → Prop) (l : List α)
    (hmax : ∀ a ∈ l, (∃ t, I a t) → ∃ tm, I a tm ∧ ∀ t, I a t → t ≤ tm) (hne : ∃ a ∈ l, ∃ t, I a t) :
    ∃ a ∈ l, ∃ tm, I a tm ∧ ∀ b ∈ l, ∀ t, I b t → t ≤ tm := by
  choose! m hm using hmax
  -- the largest of the maxima `m a` of the non-empty intervals
  obtain ⟨a1, ha1, t1, ht1⟩ := hne
  have hmem : ∀ {a t}, a ∈ l → I a t → a ∈ l.filter (fun a => decide (∃ t, I a t)) := fun ha ht =>
    List.mem_filter.mpr ⟨ha, decide_eq_true ⟨_, ht⟩⟩
  obtain ⟨a0, ha0, hmax0⟩ := exists_max_of_list m _ (List.ne_nil_of_mem (hmem ha1 ht1))
  obtain ⟨ha0, hI0⟩ := List.mem_filter.mp ha0
  exact ⟨a0, ha0, m a0, (hm a0 ha0 (of_decide_eq_true hI0)).1,
    fun b hb t ht => le_trans ((hm b hb ⟨t, ht⟩).2 t ht) (hmax0 b (hmem hb ht))⟩

/-! ### a generic starting point: a line through `y` that avoids finitely many given points -/

/-- pigeonhole: if every `v` is bad for at most one of the parameters, some parameter is good for all `v` -/
theorem exists_good {α : Type} (bad : α → Rat → Prop) (vs : List α) (S : List Rat) (hnd : S.Nodup)
    (hlen : vs.length < S.length) (huniq : ∀ v ∈ vs, ∀ s1 ∈ S, ∀ s2 ∈ S, bad v s1 → bad v s2 → s1 = s2) :
    ∃ s ∈ S, ∀ v ∈ vs, ¬ bad v s := by
  by_contra hcon
  push_neg at hcon
  choose φ hφ hbad using hcon
  -- `φ` maps `S` injectively into `vs`
  have hnd' : (S.pmap φ (fun _ h => h)).Nodup := hnd.pmap (fun s1 h1 s2 h2 heq =>
    huniq _ (hφ s1 h1) s1 h1 s2 h2 (hbad s1 h1) (heq ▸ hbad s2 h2))
  have hsub : S.pmap φ (fun _ h => h) ⊆ vs := fun v hv => by
    obtain ⟨s, hs, rfl⟩ := List.mem_pmap.mp hv; exact hφ s hs
  have := hnd'.length_le_of_subset hsub
  rw [List.length_pmap] at this
  omega

theorem affine_two_roots {A B s1 s2 : Rat} (hne : s1 ≠ s2) (h1 : A + s1 * B = 0) (h2 : A + s2 * B = 0) :
    A = 0 ∧ B = 0 := by
  have hB : B = 0 :=
    (mul_eq_zero.mp (by linear_combination h1 - h2 : (s1 - s2) * B = 0)).resolve_left (sub_ne_zero.mpr hne)
  rw [hB, mul_zero, add_zero] at h1
  exact ⟨h1, hB⟩

theorem affine_vec_two_roots (A Bv : V3) (s1 s2 : Rat) (hne : s1 ≠ s2)
    (h1 : add A (smul s1 Bv) = zero) (h2 : add A (smul s2 Bv) = zero) : A = zero ∧ Bv = zero := by
  obtain ⟨ax, bx⟩ := affine_two_roots hne (congrArg V3.x h1) (congrArg V3.x h2)
  obtain ⟨ay, by'⟩ := affine_two_roots hne (congrArg V3.y h1) (congrArg V3.y h2)
  obtain ⟨az, bz⟩ := affine_two_roots hne (congrArg V3.z h1) (congrArg V3.z h2)
  exact ⟨V3.ext' ax ay az, V3.ext' bx by' bz⟩

theorem cross_pt_sub (c y : V3) (t : Rat) : cross (sub (pt c (sub y c) t) y) (sub c y) = zero := by
  apply V3.ext' <;> simp only [pt, cross, sub, add, smul, zero] <;> ring

/-- there is a point `c` on the segment `[a', b']` such that the line through `c` and `y` meets none of the given
    points except possibly `y` itself (provided `y` is not on the carrier of `[a', b']`) -/
theorem gen_point (a' b' y : V3) (hoff : cross (sub a' y) (sub b' a') ≠ zero) (vs : List V3) :
    ∃ s : Rat, 0 ≤ s ∧ s ≤ 1 ∧ ∀ v ∈ vs, v ≠ y → ∀ t : Rat,
      v ≠ pt (add a' (smul s (sub b' a'))) (sub y (add a' (smul s (sub b' a')))) t := by
  set cs : Rat → V3 := fun s => add a' (smul s (sub b' a')) with hcs
  set bad : V3 → Rat → Prop := fun v s => v ≠ y ∧ cross (sub v y) (sub (cs s) y) = zero with hbad
  have hN : (0 : Rat) < ((vs.length + 1 : Nat) : Rat) := Nat.cast_pos.mpr (Nat.succ_pos _)
  set S : List Rat := (List.range (vs.length + 1)).map (fun j : Nat => (j : Rat) / ((vs.length + 1 : Nat) : Rat)) with hS
  have hnd : S.Nodup := List.Nodup.map
    (fun j k h => Nat.cast_injective ((div_left_inj' (ne_of_gt hN)).mp h)) List.nodup_range
  have hlen : vs.length < S.length := by simp [hS]
  have hexp : ∀ v s, cross (sub v y) (sub (cs s) y) =
      add (cross (sub v y) (sub a' y)) (smul s (cross (sub v y) (sub b' a'))) := by
    intro v s; apply V3.ext' <;> simp only [hcs, cross, sub, add, smul] <;> ring
  obtain ⟨s, hs, hgood⟩ := exists_good bad vs S hnd hlen (by
    intro v _ s1 _ s2 _ hb1 hb2
    by_contra hne
    obtain ⟨hvy, h1⟩ := hb1
    obtain ⟨_, h2⟩ := hb2
    rw [hexp] at h1 h2
    obtain ⟨hA, hB⟩ := affine_vec_two_roots _ _ s1 s2 hne h1 h2
    have hp : sub v y ≠ zero := fun h => hvy (sub_eq_zero_iff.mp h)
    have e1 := eq_smul_of_cross_eq_zero hp (cross_eq_zero_comm hA)
    have e2 := eq_smul_of_cross_eq_zero hp (cross_eq_zero_comm hB)
    apply hoff
    rw [e1, e2]; apply V3.ext' <;> simp only [cross, smul, zero] <;> ring)
  rw [hS, List.mem_map] at hs
  obtain ⟨j, hj, rfl⟩ := hs
  refine ⟨_, div_nonneg (Nat.cast_nonneg j) (le_of_lt hN),
    (div_le_one hN).mpr (Nat.cast_le.mpr (le_of_lt (List.mem_range.mp hj))), ?_⟩
  · intro v hv hvy t hcon
    apply hgood v hv
    refine ⟨hvy, ?_⟩
    rw [hcon]
    exact cross_pt_sub _ _ _

/-! ### covering: a point of the body in the plane of a face lies in some face (coplanar neighbours allowed) -/

theorem orient_between (n a b p q : V3) (u : Rat) :
    orient n a b (add p (smul u (sub q p))) = (1 - u) * orient n a b p + u * orient n a b q := by
  simp only [orient_eq_dot]; generalize cross n (sub b a) = m
  simp only [dot, sub, add, smul]; ring

theorem Polygon.inPlane_of_contains (g : Polygon) (x : V3) (h : g.contains x = true) :
    G3D.inPlane g.plane.n g.plane.p x = true := by
  unfold Polygon.contains at h
  rw [Bool.and_eq_true, Plane.contains_eq_inPlane] at h
  exact h.1

/-- the covering lemma: closed surface, all vertices on the inner side of all faces, an interior point `o` -/
theorem Polyhedron.cover (B : Polyhedron) (hfv : ∀ f ∈ B.faces, f.Valid)
    (hcp : ∀ f ∈ B.faces, G3D.inPlane f.plane.n f.plane.p f.center = true)
    (hsub : ∀ f ∈ B.faces, ∀ p ∈ f.pts, p ∈ B.verts) (hvi : B.VertsInside)
    (hc : ClosedSurface (B.faces.map (·.pts))) (o : V3) (ho : ∀ f ∈ B.faces, f.side o < 0)
    (y : V3) (hy : B.contains y = true) (f : Polygon) (hf : f ∈ B.faces) (ht : f.side y = 0) :
    ∃ g ∈ B.faces, g.contains y = true := by
  have hyf : G3D.inPlane f.plane.n f.plane.p y = true := (f.side_zero_inPlane (hcp f hf) y).mp ht
  have hfV := hfv f hf
  obtain ⟨p0, hm0, p1, hm1, p2, hm2, hD⟩ := hfV.nondeg
  -- an edge line of `f` off which `y` lies
  obtain ⟨a', b', ha', hb', hab⟩ : ∃ a' b', a' ∈ f.pts ∧ b' ∈ f.pts ∧ orient f.plane.n a' b' y ≠ 0 := by
    by_contra hcon
    push_neg at hcon
    have := orient_sum f.plane.n p0 p1 p2 y
    rw [hcon p1 p2 hm1 hm2, hcon p2 p0 hm2 hm0, hcon p0 p1 hm0 hm1] at this
    exact hD (by linarith only [this])
  have hoff : cross (sub a' y) (sub b' a') ≠ zero := by
    intro hz; apply hab
    have : orient f.plane.n a' b' y = dot f.plane.n (cross (sub a' y) (sub b' a')) := by
      simp only [orient, dot, cross, sub]; ring
    rw [this, hz]; simp [dot, zero]
  obtain ⟨s, hs0, hs1, hgen⟩ := gen_point a' b' y hoff B.verts
  set c := add a' (smul s (sub b' a')) with hcdef
  set d := sub y c with hddef
  have hcf : f.contains c = true :=
    (Polygon.contains_iff f hfV c).mpr (between_in_hull ha' hb' ⟨s, hs0, hs1, rfl⟩)
  by_cases hcy : c = y
  · exact ⟨f, hf, by rw [← hcy]; exact hcf⟩
  have hd0 : d ≠ zero := fun h => hcy (sub_eq_zero_iff.mp h).symm
  have hcin : G3D.inPlane f.plane.n f.plane.p c = true := f.inPlane_of_contains c hcf
  have hdn : dot f.plane.n d = 0 := inPlane_diff hcin hyf
  have hpt1 : pt c d 1 = y := by apply V3.ext' <;> simp only [hddef, pt, add, smul, sub] <;> ring
  have hpt0 : pt c d 0 = c := by apply V3.ext' <;> simp [pt, add, smul]
  have hfc0 : f.side c = 0 := (f.side_zero_inPlane (hcp f hf) c).mpr hcin
  -- facts about faces in the coplanar class of `f`
  have hclass : ∀ g ∈ B.faces, SamePlane f g →
      G3D.inPlane g.plane.n g.plane.p c = true ∧ dot g.plane.n d = 0 ∧
      G3D.inPlane g.plane.n g.plane.p y = true := by
    intro g hg hsp
    obtain ⟨k, _, hkn, hks⟩ := hsp
    refine ⟨(g.side_zero_inPlane (hcp g hg) c).mp (by rw [hks, hfc0]; ring), ?_,
      (g.side_zero_inPlane (hcp g hg) y).mp (by rw [hks, ht]; ring)⟩
    rw [hkn]
    have : dot (smul k f.plane.n) d = k * dot f.plane.n d := by simp only [dot, smul]; ring
    rw [this, hdn]; ring
  set I : Polygon → Rat → Prop :=
    fun g t => SamePlane f g ∧ 0 ≤ t ∧ t ≤ 1 ∧ g.contains (pt c d t) = true with hI
  obtain ⟨g, hg, ts, ⟨hsp, hts0, hts1, hgin⟩, hglob⟩ := exists_max_rel I B.faces
    (by
      rintro g hg ⟨t0, hsp, h0, h1, hin⟩
      obtain ⟨hcg, hdg, _⟩ := hclass g hg hsp
      obtain ⟨tm, h0m, hm1, hmin, hmax, _⟩ := face_line_max g c d hcg hdg t0 h1 hin
      exact ⟨tm, ⟨hsp, le_trans h0 h0m, hm1, hmin⟩, fun t ht => hmax t ht.2.2.1 ht.2.2.2⟩)
    ⟨f, hf, 0, SamePlane.refl f, le_refl _, zero_le_one, by rw [hpt0]; exact hcf⟩
  by_cases h1 : ts = 1
  · exact ⟨g, hg, by rw [← hpt1, ← h1]; exact hgin⟩
  have hlt : ts < 1 := lt_of_le_of_ne hts1 h1
  -- a face of the class that holds the last point has an edge through it across which the line leaves the face
  have hexit : ∀ g' ∈ B.faces, SamePlane f g' → g'.contains (pt c d ts) = true →
      ∃ e ∈ closedPairs g'.pts, orient g'.plane.n e.1 e.2 (pt c d ts) = 0 ∧
        dot g'.plane.n (cross (sub e.2 e.1) d) < 0 := by
    intro g' hg' hsp' hin'
    obtain ⟨hcg, hdg, _⟩ := hclass g' hg' hsp'
    obtain ⟨tm, h0m, hm1, hmin, _, htight⟩ := face_line_max g' c d hcg hdg ts hts1 hin'
    have htm : tm = ts := le_antisymm (hglob g' hg' tm ⟨hsp', le_trans hts0 h0m, hm1, hmin⟩) h0m
    rw [htm] at htight
    exact htight.resolve_left h1
  obtain ⟨_, _, hyg⟩ := hclass g hg hsp
  have gV := hfv g hg
  obtain ⟨e, he, hz, hslope⟩ := hexit g hg hsp hgin
  set z := pt c d ts with hzdef
  have hzy : z ≠ y := fun h => h1 (pt_inj hd0 (h.trans hpt1.symm))
  have hy_neg : orient g.plane.n e.1 e.2 y < 0 := by
    have e1 := orient_pt g.plane.n e.1 e.2 c d 1
    rw [hpt1] at e1
    have e2 := orient_pt g.plane.n e.1 e.2 c d ts
    rw [← hzdef, hz] at e2
    have : dot g.plane.n (cross (sub e.2 e.1) d) * (1 - ts) < 0 :=
      mul_neg_of_neg_of_pos hslope (sub_pos.mpr hlt)
    linarith only [e1, e2, this]
  obtain ⟨h, hh, hrev⟩ := B.exists_neighbour hc g hg e he
  have hV := hfv h hh
  have hmh := closedPairs_mem h.pts _ hrev
  have hmg := closedPairs_mem g.pts e he
  have hplh := hV.pts_inPlane
  have htph := hV.pos
  have hplg := gV.pts_inPlane
  have htpg := gV.pos
  have hh1 : h.side e.1 = 0 := (h.side_zero_inPlane (hcp h hh) _).mpr (hplh _ hmh.2)
  have hh2 : h.side e.2 = 0 := (h.side_zero_inPlane (hcp h hh) _).mpr (hplh _ hmh.1)
  by_cases hall : ∀ v ∈ g.pts, h.side v = 0
  · -- coplanar neighbour: the line continues inside `h`, contradicting maximality
    exfalso
    have hsp2 : SamePlane g h := coplanar_neighbour g h gV (hcp g hg) o (ho g hg) (ho h hh) hall
    have hsp3 : SamePlane f h := hsp.trans hsp2
    have hzg : InHull g.pts z := (Polygon.contains_iff g gV z).mp hgin
    obtain ⟨u, hu0, hu1, hzu⟩ := on_edge_of_tight g.plane.n g.pts htpg e he z hzg hz
    have hne12 : e.1 ≠ e.2 := by
      obtain ⟨q0, q1, q2, qrest, hq, _, _⟩ := gV
      rw [hq] at htpg he
      exact edge_ne g.plane.n q0 q1 q2 qrest htpg e he
    have hzv : ∀ v ∈ g.pts, z ≠ v := by
      intro v hv heq
      by_cases hey : v = y
      · exact hzy (heq.trans hey)
      · exact hgen v (hsub g hg v hv) hey ts heq.symm
    have hu0' : 0 < u := lt_of_le_of_ne hu0 (fun h => hzv e.1 hmg.1 (by
      rw [hzu, ← h]; apply V3.ext' <;> simp only [add, smul] <;> ring))
    have hu1' : u < 1 := lt_of_le_of_ne hu1 (fun h => hzv e.2 hmg.2 (by
      rw [hzu, h]; apply V3.ext' <;> simp only [add, smul, sub] <;> ring))
    have hhin : h.contains z = true :=
      (Polygon.contains_iff h hV z).mpr (between_in_hull hmh.2 hmh.1 ⟨u, hu0, hu1, hzu⟩)
    obtain ⟨e', he', hz', hslope'⟩ := hexit h hh hsp3 hhin
    obtain ⟨k2, hk2, hkn2, _⟩ := hsp2
    by_cases hrv : e' = (e.2, e.1)
    · rw [hrv, hkn2] at hslope'
      have : dot (smul k2 g.plane.n) (cross (sub (e.2, e.1).2 (e.2, e.1).1) d) =
          - (k2 * dot g.plane.n (cross (sub e.2 e.1) d)) := by
        simp only [dot, cross, sub, smul]; ring
      rw [this] at hslope'
      have := mul_neg_of_pos_of_neg hk2 hslope
      linarith only [this, hslope']
    · rw [hzu, orient_between] at hz'
      have n1 := closed_edges_nonneg h.plane.n h.pts htph e' he' e.1 hmh.2
      have n2 := closed_edges_nonneg h.plane.n h.pts htph e' he' e.2 hmh.1
      have a1 : 0 ≤ (1 - u) * orient h.plane.n e'.1 e'.2 e.1 := mul_nonneg (sub_nonneg.mpr hu1) n1
      have a2 : 0 ≤ u * orient h.plane.n e'.1 e'.2 e.2 := mul_nonneg hu0 n2
      -- `z` is strictly between `e.1` and `e.2` and tight on `e'`: both lie on `e'`, hence are its end points
      have c1 : e.1 = e'.1 ∨ e.1 = e'.2 :=
        (closed_edges_pos h.plane.n h.pts htph e' he' e.1 hmh.2).resolve_left (fun hp => by
          have := mul_pos (sub_pos.mpr hu1') hp; linarith only [hz', this, a2])
      have c2 : e.2 = e'.1 ∨ e.2 = e'.2 :=
        (closed_edges_pos h.plane.n h.pts htph e' he' e.2 hmh.1).resolve_left (fun hp => by
          have := mul_pos hu0' hp; linarith only [hz', this, a1])
      rcases c1 with c1 | c1 <;> rcases c2 with c2 | c2
      · exact hne12 (c1.trans c2.symm)
      · have : e' = e := Prod.ext c1.symm c2.symm
        rw [this] at he'
        exact Polygon.no_rev_edge h hV e he' hrev
      · exact hrv (Prod.ext c2.symm c1.symm)
      · exact hne12 (c1.trans c2.symm)
  · -- a proper neighbour: its half-space cuts the plane of `g` along the edge, so `y` is on the inner side
    exfalso
    obtain ⟨v, hv, hvne⟩ : ∃ v ∈ g.pts, h.side v ≠ 0 := by
      by_contra hcon
      exact hall (fun v hv => by_contra (fun hne => hcon ⟨v, hv, hne⟩))
    have hvle : h.side v ≤ 0 := hvi h hh v (hsub g hg v hv)
    have hvlt : h.side v < 0 := lt_of_le_of_ne hvle hvne
    have hDg : 0 < orient g.plane.n e.1 e.2 v := by
      rcases closed_edges_pos g.plane.n g.pts htpg e he v hv with h' | h' | h'
      · exact h'
      · rw [h', hh1] at hvlt; exact absurd hvlt (lt_irrefl _)
      · rw [h', hh2] at hvlt; exact absurd hvlt (lt_irrefl _)
    have hhy : h.side y ≤ 0 := (B.contains_iff_side y).mp hy h hh
    have := edge_of_neighbour g.plane.n g.plane.p e.1 e.2 v y h.center h.plane.n (Polygon.plane_WF g gV)
      (hplg _ hmg.1) (hplg _ hmg.2) (hplg _ hv) hyg hh1 hh2 hDg hvlt hhy
    linarith only [this, hy_neg]
#print axioms Polyhedron.cover


/-! ### Prop-level validity of a closed convex polyhedron and the full theorem (K5) -/

/-- validity of a closed convex polyhedron given by its face list:
    * there is a face; every face is a valid polygon whose stored centre lies in its plane;
    * every face vertex is listed among the vertices, and every listed vertex passes every face test;
    * the directed edges of the faces form a closed surface (each occurs as often as its reverse);
    * there is an interior point, strictly inside every face half-space (the library's constructor enforces this for
      the vertex mean).
    Neighbouring faces may be coplanar. -/
structure Polyhedron.Valid (B : Polyhedron) : Prop where
  nonempty : B.faces ≠ []
  faces_valid : ∀ f ∈ B.faces, f.Valid
  center_in_plane : ∀ f ∈ B.faces, G3D.inPlane f.plane.n f.plane.p f.center = true
  pts_sub : ∀ f ∈ B.faces, ∀ p ∈ f.pts, p ∈ B.verts
  verts_inside : B.VertsInside
  closed : ClosedSurface (B.faces.map (·.pts))
  interior : ∃ o : V3, ∀ f ∈ B.faces, f.side o < 0

/-- a point of a valid body lying in the plane of a face is a convex combination of the vertices -/
theorem Polyhedron.Valid.hull_of_tight {B : Polyhedron} (hV : B.Valid) (y : V3) (hy : B.contains y = true)
    (f : Polygon) (hf : f ∈ B.faces) (ht : f.side y = 0) : InHull B.verts y := by
  obtain ⟨o, ho⟩ := hV.interior
  obtain ⟨g, hg, hgy⟩ := B.cover hV.faces_valid hV.center_in_plane hV.pts_sub hV.verts_inside hV.closed o ho
    y hy f hf ht
  exact ((Polygon.contains_iff g (hV.faces_valid g hg) y).mp hgy).mono (hV.pts_sub g hg)

/-- **K5** `contains ⊆ hull` for a valid closed convex polyhedron -/
theorem Polyhedron.contains_subset_hull (B : Polyhedron) (hV : B.Valid) (x : V3)
    (hx : B.contains x = true) : InHull B.verts x := by
  obtain ⟨y1, y2, hy1, hy2, ⟨f1, hf1, ht1⟩, ⟨f2, hf2, ht2⟩, s, hs0, hs1, rfl⟩ :=
    B.chord hV.nonempty hV.faces_valid hV.closed x hx
  exact (hV.hull_of_tight y2 hy2 f2 hf2 ht2).convex (hV.hull_of_tight y1 hy1 f1 hf1 ht1) s hs0 hs1

/-- C05 (polyhedron), both directions: the face tests hold exactly on the convex hull of the vertices -/
theorem Polyhedron.contains_iff_hull (B : Polyhedron) (hV : B.Valid) (x : V3) :
    B.contains x = true ↔ InHull B.verts x :=
  ⟨B.contains_subset_hull hV x, B.hull_subset_contains hV.verts_inside x⟩
#print axioms Polyhedron.contains_subset_hull
#print axioms Polyhedron.contains_iff_hull

/-! ### the variant without interior point: strictly convex edges -/

/-- like `Valid`, but instead of an interior point: two faces sharing an edge in opposite directions are not
    coplanar.  This is the hypothesis under which `FaceLocal` holds ("a body point in a face plane lies in THAT face") -/
structure Polyhedron.ValidProper (B : Polyhedron) : Prop where
  nonempty : B.faces ≠ []
  faces_valid : ∀ f ∈ B.faces, f.Valid
  center_in_plane : ∀ f ∈ B.faces, G3D.inPlane f.plane.n f.plane.p f.center = true
  pts_sub : ∀ f ∈ B.faces, ∀ p ∈ f.pts, p ∈ B.verts
  verts_inside : B.VertsInside
  closed : ClosedSurface (B.faces.map (·.pts))
  proper_edges : ∀ f ∈ B.faces, ∀ e ∈ closedPairs f.pts, ∀ g ∈ B.faces,
    (e.2, e.1) ∈ closedPairs g.pts → ∃ v ∈ f.pts, g.side v ≠ 0

theorem Polyhedron.ValidProper.faceLocal {B : Polyhedron} (hV : B.ValidProper) : B.FaceLocal := by
  intro f hf e he
  obtain ⟨g, hg, hrev⟩ := B.exists_neighbour hV.closed f hf e he
  have hpl := (hV.faces_valid g hg).pts_inPlane
  have hm := closedPairs_mem g.pts _ hrev
  obtain ⟨v, hv, hne⟩ := hV.proper_edges f hf e he g hg hrev
  refine ⟨g, hg, (g.side_zero_inPlane (hV.center_in_plane g hg) _).mpr (hpl _ hm.2),
    (g.side_zero_inPlane (hV.center_in_plane g hg) _).mpr (hpl _ hm.1), v, hv, ?_⟩
  have : g.side v ≤ 0 := hV.verts_inside g hg v (hV.pts_sub f hf v hv)
  exact lt_of_le_of_ne this hne

theorem Polyhedron.contains_subset_hull_of_proper (B : Polyhedron) (hV : B.ValidProper) (x : V3)
    (hx : B.contains x = true) : InHull B.verts x :=
  B.contains_subset_hull_of_faceLocal hV.nonempty hV.faces_valid hV.center_in_plane hV.pts_sub hV.closed
    hV.faceLocal x hx

theorem Polyhedron.contains_iff_hull_of_proper (B : Polyhedron) (hV : B.ValidProper) (x : V3) :
    B.contains x = true ↔ InHull B.verts x :=
  ⟨B.contains_subset_hull_of_proper hV x, B.hull_subset_contains hV.verts_inside x⟩
#print axioms Polyhedron.contains_subset_hull_of_proper

/-! ### the Bool judges -/
theorem Polygon.valid_of_validB (P : Polygon) (h : P.validB = true) : P.Valid := P.validB_iff.mp h

theorem Polyhedron.dirEdgesB_eq (B : Polyhedron) : B.dirEdgesB = dirEdges (B.faces.map (·.pts)) := by
  simp [Polyhedron.dirEdgesB, dirEdges, List.flatMap_map]

theorem Polyhedron.proper_of_properEdgesB (B : Polyhedron) (h7 : B.properEdgesB = true) :
    ∀ f ∈ B.faces, ∀ e ∈ closedPairs f.pts, ∀ g ∈ B.faces,
      (e.2, e.1) ∈ closedPairs g.pts → ∃ v ∈ f.pts, g.side v ≠ 0 := by
  simp only [Polyhedron.properEdgesB, List.all_eq_true, List.any_eq_true, Bool.or_eq_true, Bool.not_eq_true',
    List.contains_eq_mem, decide_eq_false_iff_not, bne_iff_ne] at h7
  exact fun f hf e he g hg hrev => (h7 f hf e he g hg).resolve_left (not_not_intro hrev)


/-- what `validCoreB` establishes -/
structure Polyhedron.ValidCore (B : Polyhedron) : Prop where
  nonempty : B.faces ≠ []
  faces_valid : ∀ f ∈ B.faces, f.Valid
  center_in_plane : ∀ f ∈ B.faces, G3D.inPlane f.plane.n f.plane.p f.center = true
  pts_sub : ∀ f ∈ B.faces, ∀ p ∈ f.pts, p ∈ B.verts
  verts_inside : B.VertsInside
  closed : ClosedSurface (B.faces.map (·.pts))

theorem Polyhedron.ValidCore.valid {B : Polyhedron} (hc : B.ValidCore)
    (hi : ∃ o : V3, ∀ f ∈ B.faces, f.side o < 0) : B.Valid :=
  ⟨hc.nonempty, hc.faces_valid, hc.center_in_plane, hc.pts_sub, hc.verts_inside, hc.closed, hi⟩

theorem Polyhedron.ValidCore.validProper {B : Polyhedron} (hc : B.ValidCore)
    (hp : ∀ f ∈ B.faces, ∀ e ∈ closedPairs f.pts, ∀ g ∈ B.faces,
      (e.2, e.1) ∈ closedPairs g.pts → ∃ v ∈ f.pts, g.side v ≠ 0) : B.ValidProper :=
  ⟨hc.nonempty, hc.faces_valid, hc.center_in_plane, hc.pts_sub, hc.verts_inside, hc.closed, hp⟩

theorem Polyhedron.validCore_of_B (B : Polyhedron) (h : B.validCoreB = true) : B.ValidCore := by
  simp only [Polyhedron.validCoreB, Bool.and_eq_true, List.all_eq_true, decide_eq_true_eq, List.contains_eq_mem,
    Bool.not_eq_true', List.isEmpty_eq_false_iff, List.isPerm_iff, B.dirEdgesB_eq] at h
  obtain ⟨⟨⟨⟨⟨h1, h2⟩, h3⟩, h4⟩, h5⟩, h6⟩ := h
  exact ⟨h1, fun f hf => f.valid_of_validB (h2 f hf), h3, h4, h5, h6⟩

theorem Polyhedron.interior_of_interiorB (B : Polyhedron) (h : B.interiorB = true) :
    ∃ o : V3, ∀ f ∈ B.faces, f.side o < 0 := by
  unfold Polyhedron.interiorB at h
  rw [List.all_eq_true] at h
  exact ⟨meanV B.verts, fun f hf => of_decide_eq_true (h f hf)⟩

theorem Polyhedron.valid_of_validB (B : Polyhedron) (h : B.validB = true) : B.Valid := by
  simp only [Polyhedron.validB, Bool.and_eq_true] at h
  exact (B.validCore_of_B h.1).valid (B.interior_of_interiorB h.2)

theorem Polyhedron.validProper_of_validProperB (B : Polyhedron) (h : B.validProperB = true) : B.ValidProper := by
  simp only [Polyhedron.validProperB, Bool.and_eq_true] at h
  exact (B.validCore_of_B h.1).validProper (B.proper_of_properEdgesB h.2)
#print axioms Polyhedron.valid_of_validB

/-- per-instance form: evaluate `validB` (or `validProperB`), obtain `contains = hull` -/
theorem Polyhedron.contains_iff_hull_of_validB (B : Polyhedron) (h : B.validB = true) (x : V3) :
    B.contains x = true ↔ InHull B.verts x := B.contains_iff_hull (B.valid_of_validB h) x

theorem Polyhedron.contains_iff_hull_of_validProperB (B : Polyhedron) (h : B.validProperB = true) (x : V3) :
    B.contains x = true ↔ InHull B.verts x := B.contains_iff_hull_of_proper (B.validProper_of_validProperB h) x

/-! ### instance: every positively oriented tetrahedron is valid -/

theorem triFace_side (p q r v : V3) :
    (triFace p q r).side v = dot (sub v p) (cross (sub q p) (sub r p)) := by
  simp only [Polygon.side, triFace, meanV, sumV, List.foldl, List.length_cons, List.length_nil,
    dot, sub, add, smul, cross, zero]
  push_cast
  ring

theorem triFace_side_fst (p q r : V3) : (triFace p q r).side p = 0 := by
  rw [triFace_side]; simp only [dot, cross, sub]; ring

theorem triFace_side_snd (p q r : V3) : (triFace p q r).side q = 0 := by
  rw [triFace_side]; simp only [dot, cross, sub]; ring

theorem triFace_side_trd (p q r : V3) : (triFace p q r).side r = 0 := by
  rw [triFace_side]; simp only [dot, cross, sub]; ring

theorem triFace_side_mean (p q r a b c d : V3) : (triFace p q r).side (meanV [a, b, c, d]) =
    ((triFace p q r).side a + (triFace p q r).side b + (triFace p q r).side c + (triFace p q r).side d) / 4 := by
  simp only [triFace_side, meanV, sumV, List.foldl, List.length_cons, List.length_nil, dot, sub, add, smul, zero]
  push_cast
  ring

theorem sublist_pair_pair {b c q r : V3} (h : List.Sublist [b, c] [q, r]) : b = q ∧ c = r := by
  have := h.eq_of_length (by simp)
  simpa using this

theorem triFace_valid (p q r v : V3) (hv : (triFace p q r).side v ≠ 0) : (triFace p q r).Valid := by
  have h : cross (sub q p) (sub r p) ≠ zero := by
    intro hz; apply hv; rw [triFace_side, hz]; simp only [dot, zero]; ring
  refine ⟨p, q, r, [], rfl, ?_, ?_⟩
  · intro x hx
    simp only [triFace, List.mem_cons, List.not_mem_nil, or_false] at hx
    simp only [triFace, G3D.inPlane, beq_iff_eq]
    rcases hx with rfl | rfl | rfl <;> simp only [dot, cross, sub] <;> ring
  · refine ⟨?_, ?_, ?_, trivial⟩
    · intro b c hbc
      obtain ⟨rfl, rfl⟩ := sublist_pair_pair hbc
      exact normSq_pos h
    · intro b c hbc; have := hbc.length_le; simp at this
    · intro b c hbc; have := hbc.length_le; simp at this

theorem triFace_center (p q r : V3) :
    G3D.inPlane (triFace p q r).plane.n (triFace p q r).plane.p (triFace p q r).center = true := by
  simp only [G3D.inPlane, beq_iff_eq, triFace, meanV, sumV, List.foldl, List.length_cons, List.length_nil,
    dot, sub, add, smul, cross, zero]
  push_cast
  ring

theorem perm_of_index {α : Type} (L : List α) (d : α) (I J : List Nat) (h : List.Perm I J) :
    List.Perm (I.map (fun i => L.getD i d)) (J.map (fun i => L.getD i d)) := h.map _

theorem tetra_closed (a b c d : V3) : ClosedSurface ((tetra a b c d).faces.map (·.pts)) := by
  unfold ClosedSurface
  have hL : dirEdges ((tetra a b c d).faces.map (·.pts)) =
      [(a,c),(c,b),(b,a),(a,b),(b,d),(d,a),(a,d),(d,c),(c,a),(b,c),(c,d),(d,b)] := by
    simp [tetra, triFace, dirEdges, closedPairs, consec]
  rw [hL]
  exact perm_of_index [(a,c),(c,b),(b,a),(a,b),(b,d),(d,a),(a,d),(d,c),(c,a),(b,c),(c,d),(d,b)] (a, a)
    [0,1,2,3,4,5,6,7,8,9,10,11] [8,9,3,2,11,6,5,10,0,1,7,4] (by decide)

/-- a positively oriented tetrahedron is a valid polyhedron (in both senses): every vertex lies on three faces
    and strictly inside the fourth -/
theorem tetra_valid (a b c d : V3) (h : 0 < trip (sub b a) (sub c a) (sub d a)) :
    (tetra a b c d).Valid ∧ (tetra a b c d).ValidProper := by
  have s1 : (triFace a c b).side d = - trip (sub b a) (sub c a) (sub d a) := by
    rw [triFace_side]; generalize sub b a = u; generalize sub c a = v; generalize sub d a = w
    simp only [trip, dot, cross]; ring
  have s2 : (triFace a b d).side c = - trip (sub b a) (sub c a) (sub d a) := by
    rw [triFace_side]; generalize sub b a = u; generalize sub c a = v; generalize sub d a = w
    simp only [trip, dot, cross]; ring
  have s3 : (triFace a d c).side b = - trip (sub b a) (sub c a) (sub d a) := by
    rw [triFace_side]; generalize sub b a = u; generalize sub c a = v; generalize sub d a = w
    simp only [trip, dot, cross]; ring
  have s4 : (triFace b c d).side a = - trip (sub b a) (sub c a) (sub d a) := by
    rw [triFace_side]; simp only [trip, dot, cross, sub]; ring
  have hT : - trip (sub b a) (sub c a) (sub d a) ≠ 0 := ne_of_lt (neg_neg_of_pos h)
  have mem : ∀ {f}, f ∈ (tetra a b c d).faces →
      f = triFace a c b ∨ f = triFace a b d ∨ f = triFace a d c ∨ f = triFace b c d := fun hf => by
    simpa only [tetra, List.mem_cons, List.not_mem_nil, or_false] using hf
  have hfv : ∀ f ∈ (tetra a b c d).faces, f.Valid := by
    intro f hf
    rcases mem hf with rfl | rfl | rfl | rfl
    · exact triFace_valid _ _ _ d (s1 ▸ hT)
    · exact triFace_valid _ _ _ c (s2 ▸ hT)
    · exact triFace_valid _ _ _ b (s3 ▸ hT)
    · exact triFace_valid _ _ _ a (s4 ▸ hT)
  have hcp : ∀ f ∈ (tetra a b c d).faces, G3D.inPlane f.plane.n f.plane.p f.center = true := by
    intro f hf
    rcases mem hf with rfl | rfl | rfl | rfl <;> exact triFace_center _ _ _
  have hT' : - trip (sub b a) (sub c a) (sub d a) ≤ 0 := le_of_lt (neg_neg_of_pos h)
  have hsub : ∀ f ∈ (tetra a b c d).faces, ∀ p ∈ f.pts, p ∈ (tetra a b c d).verts := by
    intro f hf p hp
    rcases mem hf with rfl | rfl | rfl | rfl <;>
      · simp only [triFace, List.mem_cons, List.not_mem_nil, or_false] at hp
        rcases hp with rfl | rfl | rfl <;> simp only [tetra, List.mem_cons, true_or, or_true]
  have hvi : (tetra a b c d).VertsInside := by
    intro f hf v hv
    show f.side v ≤ 0
    simp only [tetra, List.mem_cons, List.not_mem_nil, or_false] at hv
    rcases mem hf with rfl | rfl | rfl | rfl <;> rcases hv with rfl | rfl | rfl | rfl <;>
      simp only [triFace_side_fst, triFace_side_snd, triFace_side_trd, s1, s2, s3, s4, hT', le_refl]
  have core : (tetra a b c d).ValidCore := ⟨List.cons_ne_nil _ _, hfv, hcp, hsub, hvi, tetra_closed a b c d⟩
  constructor
  · refine core.valid ⟨meanV [a, b, c, d], fun f hf => ?_⟩
    rcases mem hf with rfl | rfl | rfl | rfl <;>
      simp only [triFace_side_mean, triFace_side_fst, triFace_side_snd, triFace_side_trd, s1, s2, s3, s4] <;> linarith
  · refine core.validProper ?_
    -- a face `f ≠ g` contains the vertex opposite to `g`; `f = g` cannot hold an edge and its reverse
    intro f hf e he g hg hrev
    by_cases hfg : f = g
    · exact absurd hrev (hfg ▸ Polygon.no_rev_edge f (hfv f hf) e he)
    have m1 : ∀ {p q r : V3}, p ∈ (triFace p q r).pts := List.mem_cons_self ..
    have m2 : ∀ {p q r : V3}, q ∈ (triFace p q r).pts := List.mem_cons_of_mem _ (List.mem_cons_self ..)
    have m3 : ∀ {p q r : V3}, r ∈ (triFace p q r).pts :=
      List.mem_cons_of_mem _ (List.mem_cons_of_mem _ (List.mem_cons_self ..))
    rcases mem hg with rfl | rfl | rfl | rfl
    · refine ⟨d, ?_, s1 ▸ hT⟩
      rcases mem hf with rfl | rfl | rfl | rfl
      exacts [absurd rfl hfg, m3, m2, m3]
    · refine ⟨c, ?_, s2 ▸ hT⟩
      rcases mem hf with rfl | rfl | rfl | rfl
      exacts [m2, absurd rfl hfg, m3, m2]
    · refine ⟨b, ?_, s3 ▸ hT⟩
      rcases mem hf with rfl | rfl | rfl | rfl
      exacts [m3, m2, absurd rfl hfg, m1]
    · refine ⟨a, ?_, s4 ▸ hT⟩
      rcases mem hf with rfl | rfl | rfl | rfl
      exacts [m1, m1, m1, absurd rfl hfg]
#print axioms tetra_valid

/-- for a positively oriented tetrahedron the four face tests hold exactly on the hull of the four vertices -/
theorem tetra_contains_iff_hull (a b c d : V3) (h : 0 < trip (sub b a) (sub c a) (sub d a)) (x : V3) :
    (tetra a b c d).contains x = true ↔ InHull [a, b, c, d] x :=
  (tetra a b c d).contains_iff_hull (tetra_valid a b c d h).1 x
#print axioms tetra_contains_iff_hull

/-! ### bridge to the executable judge `polyhedronValidB` (faces as (normal, cycle) pairs) -/

theorem mem_addPt (l : List V3) (p q : V3) : q ∈ addPt l p ↔ q ∈ l ∨ q = p := by
  unfold addPt
  by_cases h : p ∈ l
  · rw [if_pos h]; exact ⟨Or.inl, fun h' => h'.elim id (fun e => e ▸ h)⟩
  · rw [if_neg h, List.mem_append, List.mem_singleton]

theorem mem_foldl_addPt (l : List V3) : ∀ (acc : List V3) (q : V3), q ∈ l.foldl addPt acc ↔ q ∈ acc ∨ q ∈ l := by
  induction l with
  | nil => intro acc q; simp
  | cons p l ih =>
    intro acc q
    rw [List.foldl_cons, ih, mem_addPt, List.mem_cons, or_assoc]

theorem mem_foldl_faces (faces : List (V3 × List V3)) : ∀ (acc : List V3) (q : V3),
    q ∈ faces.foldl (fun acc f => f.2.foldl addPt acc) acc ↔ q ∈ acc ∨ ∃ f ∈ faces, q ∈ f.2 := by
  induction faces with
  | nil => intro acc q; simp
  | cons f fs ih =>
    intro acc q
    simp only [List.foldl_cons, ih, mem_foldl_addPt, List.mem_cons, exists_eq_or_imp, or_assoc]

/-- the two edge checks of `polyhedronValidB` (every directed edge has its reverse; no directed edge occurs twice)
    give the permutation form of closedness -/
theorem perm_swap_of_checks (L : List (V3 × V3))
    (h3 : ∀ e ∈ L, L.any (fun x => x.1 == e.2 && x.2 == e.1) = true)
    (h4 : ∀ e ∈ L, ((L.filter (fun x => x.1 == e.1 && x.2 == e.2)).length == 1) = true) :
    List.Perm L (L.map Prod.swap) := by
  have hnd : L.Nodup := by
    rw [List.nodup_iff_count_eq_one]
    intro e he
    rw [List.count_eq_countP, List.countP_eq_length_filter, ← beq_iff_eq.mp (h4 e he)]
    congr 1
  have hrev : ∀ e ∈ L, Prod.swap e ∈ L := fun e he => by
    obtain ⟨x, hx, hxe⟩ := List.any_eq_true.mp (h3 e he)
    rw [Bool.and_eq_true, beq_iff_eq, beq_iff_eq] at hxe
    exact (Prod.ext hxe.1 hxe.2 : x = Prod.swap e) ▸ hx
  rw [List.perm_ext_iff_of_nodup hnd (hnd.map Prod.swap_injective)]
  exact fun e => ⟨fun he => List.mem_map.mpr ⟨e.swap, hrev e he, Prod.swap_swap e⟩, fun he => by
    obtain ⟨e', he', rfl⟩ := List.mem_map.mp he; exact hrev e' he'⟩

/-- a face list accepted by the judge `polyhedronValidB` satisfies the core part of validity -/
theorem Polyhedron.ofFaces_validCore (faces : List (V3 × List V3)) (h : polyhedronValidB faces = true) :
    (Polyhedron.ofFaces faces).ValidCore := by
  have hne : faces ≠ [] := by
    intro h0; rw [h0] at h; exact absurd h (by decide)
  simp only [polyhedronValidB, Bool.and_eq_true, List.all_eq_true, decide_eq_true_eq] at h
  obtain ⟨⟨⟨⟨h1, h2⟩, h3⟩, h4⟩, _⟩ := h
  refine ⟨fun h0 => hne (List.map_eq_nil_iff.mp h0), List.forall_mem_map.mpr fun f' hf' => ?_,
    List.forall_mem_map.mpr fun f' _ => ?_, List.forall_mem_map.mpr fun f' hf' p hp => ?_,
    List.forall_mem_map.mpr fun f' hf' => h2 f' hf', ?_⟩
  · exact (faceOf f').valid_of_validB (h1 f' hf')
  · simp [faceOf, G3D.inPlane, dot, sub]
  · exact (mem_foldl_faces faces [] p).mpr (Or.inr ⟨f', hf', hp⟩)
  · unfold ClosedSurface
    have hL : dirEdges ((Polyhedron.ofFaces faces).faces.map (·.pts)) = faces.flatMap (fun f => closedPairs f.2) := by
      simp [Polyhedron.ofFaces, faceOf, dirEdges, List.flatMap_map]
    rw [hL]
    exact perm_swap_of_checks _ h3 h4

/-- `polyhedronValidB` plus the interior check gives a valid polyhedron -/
theorem Polyhedron.ofFaces_valid (faces : List (V3 × List V3)) (h : polyhedronValidB faces = true)
    (hi : interiorF faces = true) : (Polyhedron.ofFaces faces).Valid :=
  (Polyhedron.ofFaces_validCore faces h).valid ((Polyhedron.ofFaces faces).interior_of_interiorB hi)

/-- `polyhedronValidB` plus the non-coplanarity check gives a properly valid polyhedron -/
theorem Polyhedron.ofFaces_validProper (faces : List (V3 × List V3)) (h : polyhedronValidB faces = true)
    (hp : properEdgesF faces = true) : (Polyhedron.ofFaces faces).ValidProper :=
  (Polyhedron.ofFaces_validCore faces h).validProper ((Polyhedron.ofFaces faces).proper_of_properEdgesB hp)
#print axioms Polyhedron.ofFaces_valid

/-- C05 (polyhedron) on judged data: if the implementation's face list passes `polyhedronValidB` and the vertex mean is
    strictly inside (or: no coplanar neighbours), the face tests `(x - p_f) . n_f ≤ 0` hold exactly on the convex hull
    of the vertices -/
theorem Polyhedron.ofFaces_contains_iff_hull (faces : List (V3 × List V3)) (h : polyhedronValidB faces = true)
    (hi : interiorF faces = true ∨ properEdgesF faces = true) (x : V3) :
    (Polyhedron.ofFaces faces).contains x = true ↔ InHull (Polyhedron.ofFaces faces).verts x := by
  rcases hi with hi | hi
  · exact (Polyhedron.ofFaces faces).contains_iff_hull (Polyhedron.ofFaces_valid faces h hi) x
  · exact (Polyhedron.ofFaces faces).contains_iff_hull_of_proper (Polyhedron.ofFaces_validProper faces h hi) x

/-! ### concrete instances, evaluated in the kernel -/
theorem unitCube_validB : unitCube.validB = true ∧ unitCube.validProperB = true ∧ unitCube.faceLocalB = true := by
  decide +kernel

theorem unitCube_contains_iff_hull (x : V3) : unitCube.contains x = true ↔ InHull unitCube.verts x :=
  unitCube.contains_iff_hull_of_validB unitCube_validB.1 x
#print axioms unitCube_contains_iff_hull

/-- coplanar neighbouring faces: accepted by the general judge, rejected by the proper one -/
theorem splitCube_validB : splitCube.validB = true ∧ splitCube.validProperB = false ∧
    splitCube.faceLocalB = false := by decide +kernel

theorem splitCube_contains_iff_hull (x : V3) : splitCube.contains x = true ↔ InHull splitCube.verts x :=
  splitCube.contains_iff_hull_of_validB splitCube_validB.1 x

/-- why the general case needs the covering argument: the point (1/4, 3/4, 1) of the split cube passes all face
    tests and lies in the plane of the first top triangle but not in that triangle -/
theorem splitCube_key_lemma_fails :
    splitCube.contains ⟨1/4, 3/4, 1⟩ = true ∧
    ∃ f ∈ splitCube.faces, f.side ⟨1/4, 3/4, 1⟩ = 0 ∧ f.contains ⟨1/4, 3/4, 1⟩ = false := by
  decide +kernel

/-- why an interior point (or `properEdges`) is needed on top of `polyhedronValidB`: the pillow passes the judge
    (closed, Euler, vertices inside), yet its face tests accept a point outside the hull of its vertices -/
theorem pillow_judge_gap :
    polyhedronValidB pillowFaces = true ∧ interiorF pillowFaces = false ∧ properEdgesF pillowFaces = false ∧
    (Polyhedron.ofFaces pillowFaces).contains ⟨5, 5, 0⟩ = true ∧
    ¬ InHull (Polyhedron.ofFaces pillowFaces).verts ⟨5, 5, 0⟩ := by
  refine ⟨by decide +kernel, by decide +kernel, by decide +kernel, by decide +kernel, ?_⟩
  intro hin
  have hsub : ∀ p ∈ (Polyhedron.ofFaces pillowFaces).verts, p ∈ unitCube.verts := by decide +kernel
  have h1 := (unitCube_contains_iff_hull ⟨5, 5, 0⟩).mpr (hin.mono hsub)
  have h2 : unitCube.contains ⟨5, 5, 0⟩ = false := by decide +kernel
  rw [h2] at h1; cases h1
#print axioms pillow_judge_gap

end G3D
