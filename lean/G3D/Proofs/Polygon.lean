import G3D.Model.Polygon
import G3D.Proofs.Vec
import Mathlib.Tactic.Ring
import Mathlib.Tactic.Linarith
import Mathlib.Tactic.LinearCombination
import Mathlib.Tactic.FieldSimp
import Mathlib.Algebra.Order.Field.Rat
import Mathlib.Algebra.BigOperators.Group.List.Basic

/-! Convex hull of a vertex list, and `ConvexPolygon.__contains__` ⊆ hull WITHOUT any assumption on the order
    of the vertices: for an arbitrary closed chain of coplanar points, three of them non-collinear, a point of the
    plane weakly on the left of every directed edge is a convex combination of the vertices (`chain_hull`).
    (The converse inclusion does need a positively oriented cycle, `polyContains_iff_hull`.) -/
namespace G3D
open V3

/-- x is a convex combination of pts -/
def InHull (pts : List V3) (x : V3) : Prop :=
  ∃ ws : List Rat, ws.length = pts.length ∧ (∀ w ∈ ws, 0 ≤ w) ∧ ws.sum = 1 ∧ comb ws pts = x

/-- scalar triple product -/
def trip (u v w : V3) : Rat := dot u (cross v w)

theorem orient_sum (n a b c x : V3) :
    orient n b c x + orient n c a x + orient n a b x = orient n a b c := by
  simp only [orient, dot, cross, sub]; ring

theorem orient_rev (n a b x : V3) : orient n b a x = - orient n a b x := by
  simp only [orient, dot, cross, sub]; ring

theorem orient_same (n a x : V3) : orient n a a x = 0 := by
  simp only [orient, dot, cross, sub]; ring

theorem orient_smul (k : Rat) (n a b x : V3) : orient (smul k n) a b x = k * orient n a b x := by
  simp only [orient, dot, cross, sub, smul]; ring

theorem inPlane_diff {n pl a b : V3} (ha : inPlane n pl a = true) (hb : inPlane n pl b = true) :
    dot n (sub b a) = 0 := by
  simp only [inPlane, beq_iff_eq] at ha hb
  have : dot n (sub b a) = dot n (sub b pl) - dot n (sub a pl) := by simp only [dot, sub]; ring
  rw [this, ha, hb, sub_zero]

theorem orient_eq_cross_sub (n a b x : V3) : orient n a b x = dot n (cross (sub a x) (sub b x)) := by
  simp only [orient, dot, cross, sub]; ring

/-- in the plane ⟂ `n`, being parallel to a fixed `u ≠ 0` is transitive -/
theorem cross_trans_of_perp {n u v w : V3} (hu : dot n u = 0) (hu0 : u ≠ zero)
    (h1 : dot n (cross v u) = 0) (h2 : dot n (cross w u) = 0) : dot n (cross v w) = 0 := by
  have key : normSq u * dot n (cross v w) =
      trip u v w * dot n u + dot u w * dot n (cross v u) - dot u v * dot n (cross w u) := by
    simp only [normSq, trip, dot, cross]; ring
  rw [hu, h1, h2, mul_zero, mul_zero, mul_zero, add_zero, sub_zero] at key
  exact (mul_eq_zero.mp key).resolve_left (ne_of_gt (normSq_pos hu0))

theorem orient_trans (n x p q r : V3) (hp : dot n (sub p x) = 0) (hpx : p ≠ x)
    (h1 : orient n p q x = 0) (h2 : orient n p r x = 0) : orient n q r x = 0 := by
  rw [← neg_eq_zero, ← orient_rev, orient_eq_cross_sub] at h1 h2
  rw [orient_eq_cross_sub]
  exact cross_trans_of_perp hp (fun h => hpx (sub_eq_zero_iff.mp h)) h1 h2

theorem trip_eq_zero_of_perp {n u v w : V3} (hn : n ≠ zero) (hu : dot n u = 0) (hv : dot n v = 0)
    (hw : dot n w = 0) : trip u v w = 0 := by
  have e : trip u v w * normSq n =
      dot n u * dot n (cross v w) + dot n v * dot n (cross w u) + dot n w * dot n (cross u v) := by
    simp only [trip, normSq, dot, cross]; ring
  rw [hu, hv, hw, zero_mul, zero_mul, zero_mul, add_zero, add_zero] at e
  exact (mul_eq_zero.mp e).resolve_right (ne_of_gt (normSq_pos hn))

theorem trip_expand (n u v w : V3) :
    add (smul (dot n (cross v w)) u) (add (smul (dot n (cross w u)) v) (smul (dot n (cross u v)) w)) =
      smul (trip u v w) n := by
  apply V3.ext' <;> simp only [trip, dot, cross, add, smul] <;> ring

theorem orient_exchange (n m a b v y : V3) :
    orient n a b y * dot m (sub v a) - orient n a b v * dot m (sub y a) =
      - trip (sub b a) (sub v a) (sub y a) * dot m n + dot n (cross (sub v a) (sub y a)) * dot m (sub b a) := by
  unfold orient
  generalize sub b a = u; generalize sub v a = w; generalize sub y a = z
  simp only [trip, dot, cross]; ring

theorem comb_zero_cons (ws : List Rat) (p : V3) (ps : List V3) :
    comb (0 :: ws) (p :: ps) = comb ws ps := by
  apply V3.ext' <;> simp only [comb, add, smul] <;> ring

theorem comb_replicate_zero : ∀ l : List V3, comb (List.replicate l.length (0 : Rat)) l = zero
  | [] => rfl
  | p :: l => by rw [List.length_cons, List.replicate_succ, comb_zero_cons, comb_replicate_zero l]

theorem InHull.cons {l : List V3} {x : V3} (p : V3) (h : InHull l x) : InHull (p :: l) x := by
  obtain ⟨ws, hl, hnn, hs, hc⟩ := h
  refine ⟨0 :: ws, by rw [List.length_cons, List.length_cons, hl], ?_, by rw [List.sum_cons, hs, zero_add],
    by rw [comb_zero_cons, hc]⟩
  exact List.forall_mem_cons.mpr ⟨le_refl _, hnn⟩

theorem vertex_in_hull (l : List V3) (v : V3) (hv : v ∈ l) : InHull l v := by
  induction l with
  | nil => cases hv
  | cons a l ih =>
    rcases List.mem_cons.mp hv with rfl | h
    · refine ⟨1 :: List.replicate l.length 0, by simp, ?_, by simp, ?_⟩
      · exact List.forall_mem_cons.mpr ⟨zero_le_one, fun w hw => by rw [(List.mem_replicate.mp hw).2]⟩
      · rw [comb, comb_replicate_zero]; apply V3.ext' <;> simp only [add, smul, zero] <;> ring
    · exact (ih h).cons a

theorem comb_add_smul (ws us : List Rat) (ps : List V3) (s t : Rat) (h1 : ws.length = ps.length)
    (h2 : us.length = ps.length) :
    comb (List.zipWith (fun w u => s * w + t * u) ws us) ps = add (smul s (comb ws ps)) (smul t (comb us ps)) := by
  induction ps generalizing ws us with
  | nil =>
    rw [List.length_eq_zero_iff.mp h1]
    apply V3.ext' <;> simp only [List.zipWith_nil_left, comb, add, smul, zero] <;> ring
  | cons p ps ih =>
    obtain ⟨w, ws, rfl⟩ := List.exists_cons_of_length_eq_add_one h1
    obtain ⟨u, us, rfl⟩ := List.exists_cons_of_length_eq_add_one h2
    rw [List.zipWith_cons_cons, comb, comb, comb, ih ws us (Nat.succ.inj h1) (Nat.succ.inj h2)]
    apply V3.ext' <;> simp only [add, smul] <;> ring

theorem sum_zipWith_lin : ∀ (ws us : List Rat) (s t : Rat), ws.length = us.length →
    (List.zipWith (fun w u => s * w + t * u) ws us).sum = s * ws.sum + t * us.sum
  | [], [], s, t, _ => by simp
  | w :: ws, u :: us, s, t, h => by
    simp only [List.zipWith_cons_cons, List.sum_cons, sum_zipWith_lin ws us s t (Nat.succ.inj h)]; ring

theorem zipWith_lin_nonneg {s t : Rat} (hs : 0 ≤ s) (ht : 0 ≤ t) : ∀ {ws us : List Rat},
    (∀ w ∈ ws, 0 ≤ w) → (∀ u ∈ us, 0 ≤ u) → ∀ z ∈ List.zipWith (fun w u => s * w + t * u) ws us, 0 ≤ z
  | [], _, _, _ => by simp
  | _ :: _, [], _, _ => by simp
  | w :: ws, u :: us, hw, hu => by
    obtain ⟨hw0, hw⟩ := List.forall_mem_cons.mp hw
    obtain ⟨hu0, hu⟩ := List.forall_mem_cons.mp hu
    rw [List.zipWith_cons_cons, List.forall_mem_cons]
    exact ⟨add_nonneg (mul_nonneg hs hw0) (mul_nonneg ht hu0), zipWith_lin_nonneg hs ht hw hu⟩

theorem comb_lin {ps : List V3} {ws us : List Rat} (hwl : ws.length = ps.length) (hul : us.length = ps.length)
    (hwn : ∀ w ∈ ws, 0 ≤ w) (hun : ∀ u ∈ us, 0 ≤ u) {s t : Rat} (hs : 0 ≤ s) (ht : 0 ≤ t) :
    ∃ vs : List Rat, vs.length = ps.length ∧ (∀ v ∈ vs, 0 ≤ v) ∧ vs.sum = s * ws.sum + t * us.sum ∧
      comb vs ps = add (smul s (comb ws ps)) (smul t (comb us ps)) :=
  ⟨_, by rw [List.length_zipWith, hwl, hul, min_self], zipWith_lin_nonneg hs ht hwn hun,
    sum_zipWith_lin _ _ _ _ (hwl.trans hul.symm), comb_add_smul _ _ _ _ _ hwl hul⟩

theorem InHull.convex {l : List V3} {x y : V3} (hx : InHull l x) (hy : InHull l y) (t : Rat)
    (h0 : 0 ≤ t) (h1 : t ≤ 1) : InHull l (add x (smul t (sub y x))) := by
  obtain ⟨ws, hwl, hwn, hws, rfl⟩ := hx
  obtain ⟨us, hul, hun, hus, rfl⟩ := hy
  obtain ⟨vs, hvl, hvn, hvs, hvc⟩ := comb_lin hwl hul hwn hun (sub_nonneg.mpr h1) h0
  refine ⟨vs, hvl, hvn, by rw [hvs, hws, hus]; ring, ?_⟩
  rw [hvc]; apply V3.ext' <;> simp only [add, smul, sub] <;> ring
#print axioms InHull.convex

theorem comb_transfer (l' : List V3) (ws : List Rat) (ps : List V3) (h : ws.length = ps.length)
    (hw : ∀ w ∈ ws, 0 ≤ w) (hp : ∀ p ∈ ps, p ∈ l') :
    ∃ us : List Rat, us.length = l'.length ∧ (∀ u ∈ us, 0 ≤ u) ∧ us.sum = ws.sum ∧ comb us l' = comb ws ps := by
  induction ps generalizing ws with
  | nil =>
    rw [List.length_eq_zero_iff.mp h]
    exact ⟨List.replicate l'.length 0, List.length_replicate, fun u hu => by rw [(List.mem_replicate.mp hu).2],
      by simp, comb_replicate_zero l'⟩
  | cons p ps ih =>
    obtain ⟨w, ws, rfl⟩ := List.exists_cons_of_length_eq_add_one h
    obtain ⟨hw0, hw⟩ := List.forall_mem_cons.mp hw
    obtain ⟨hp0, hp⟩ := List.forall_mem_cons.mp hp
    obtain ⟨us, hul, hun, hus, huc⟩ := ih ws (Nat.succ.inj h) hw hp
    obtain ⟨vs, hvl, hvn, hvs, hvc⟩ := vertex_in_hull l' p hp0
    obtain ⟨zs, hzl, hzn, hzs, hzc⟩ := comb_lin hvl hul hvn hun hw0 zero_le_one
    refine ⟨zs, hzl, hzn, by rw [hzs, hvs, hus, List.sum_cons]; ring, ?_⟩
    rw [hzc, hvc, huc, comb]; apply V3.ext' <;> simp only [add, smul] <;> ring

theorem InHull.mono {l l' : List V3} {x : V3} (h : InHull l x) (hsub : ∀ p ∈ l, p ∈ l') : InHull l' x := by
  obtain ⟨ws, hlen, hnn, hsum, hc⟩ := h
  obtain ⟨us, hul, hun, hus, huc⟩ := comb_transfer l' ws l hlen hnn hsub
  exact ⟨us, hul, hun, by rw [hus, hsum], by rw [huc, hc]⟩
#print axioms InHull.mono

/-- barycentric weights: `x = Σ wᵢ pᵢ / D` with `wₐ = orient n b c x` etc. and `D = orient n a b c` -/
theorem tri_hull (n p0 a b c x : V3)
    (ha : inPlane n p0 a = true) (hb : inPlane n p0 b = true) (hc : inPlane n p0 c = true)
    (hx : inPlane n p0 x = true)
    (hpos : 0 < orient n a b c)
    (h1 : 0 ≤ orient n a b x) (h2 : 0 ≤ orient n b c x) (h3 : 0 ≤ orient n c a x) :
    InHull [a, b, c] x := by
  have hn : n ≠ zero := by
    rintro rfl; simp only [orient, dot, zero, zero_mul, add_zero, lt_self_iff_false] at hpos
  have hsum := orient_sum n a b c x
  -- Σ wᵢ (pᵢ - x) = T • n with T = 0 as the three differences lie in the plane
  have hv := trip_expand n (sub a x) (sub b x) (sub c x)
  rw [trip_eq_zero_of_perp hn (inPlane_diff hx ha) (inPlane_diff hx hb) (inPlane_diff hx hc),
    ← orient_eq_cross_sub, ← orient_eq_cross_sub, ← orient_eq_cross_sub] at hv
  have cx := congrArg V3.x hv; have cy := congrArg V3.y hv; have cz := congrArg V3.z hv
  simp only [add, smul, sub] at cx cy cz
  -- divide by D
  have hk : orient n a b c * (orient n a b c)⁻¹ = 1 := mul_inv_cancel₀ (ne_of_gt hpos)
  have hk0 : 0 ≤ (orient n a b c)⁻¹ := inv_nonneg.mpr (le_of_lt hpos)
  generalize (orient n a b c)⁻¹ = k at hk hk0
  refine ⟨[orient n b c x * k, orient n c a x * k, orient n a b x * k], rfl, ?_, ?_, ?_⟩
  · intro w hw
    simp only [List.mem_cons, List.not_mem_nil, or_false] at hw
    rcases hw with rfl | rfl | rfl
    exacts [mul_nonneg h2 hk0, mul_nonneg h3 hk0, mul_nonneg h1 hk0]
  · simp only [List.sum_cons, List.sum_nil]; linear_combination k * hsum + hk
  · apply V3.ext' <;> simp only [comb, add, smul, zero]
    · linear_combination k * cx + x.x * (k * hsum + hk)
    · linear_combination k * cy + x.y * (k * hsum + hk)
    · linear_combination k * cz + x.z * (k * hsum + hk)

theorem closedPairs_cons_cons (a b : V3) (l : List V3) :
    closedPairs (a :: b :: l) = (a, b) :: consec (b :: l ++ [a]) := rfl

theorem closedPairs_cons₃ (a b c : V3) (l : List V3) :
    closedPairs (a :: b :: c :: l) = (a, b) :: (b, c) :: consec (c :: l ++ [a]) := rfl

/-- The induction drops `p1`: either `x` also passes the test of the new edge `p0 → p2`, or it lies in the
    triangle `p0 p1 p2`. -/
theorem chain_hull_aux (n pl x p0 : V3) (hx : inPlane n pl x = true) (hp0 : inPlane n pl p0 = true) :
    ∀ (m : List V3) (p1 : V3), (∀ p ∈ p1 :: m, inPlane n pl p = true) →
      (∀ e ∈ closedPairs (p0 :: p1 :: m), 0 ≤ orient n e.1 e.2 x) →
      InHull (p0 :: p1 :: m) x ∨ ∀ v ∈ p1 :: m, orient n p0 v x = 0 := by
  intro m
  induction m with
  | nil =>
    intro p1 _ he
    have h1 : 0 ≤ orient n p0 p1 x := he (p0, p1) (List.mem_cons_self ..)
    have h2 : 0 ≤ orient n p1 p0 x := he (p1, p0) (List.mem_cons_of_mem _ (List.mem_cons_self ..))
    rw [orient_rev] at h2
    exact Or.inr (List.forall_mem_singleton.mpr (le_antisymm (by linarith) h1))
  | cons p2 rest ih =>
    intro p1 hpl he
    obtain ⟨hp1, hpl⟩ := List.forall_mem_cons.mp hpl
    rw [closedPairs_cons₃, List.forall_mem_cons, List.forall_mem_cons] at he
    obtain ⟨e01, e12, he⟩ := he
    have hsum := orient_sum n p0 p1 p2 x
    have h20 := orient_rev n p0 p2 x
    have tri : 0 < orient n p0 p1 p2 → 0 ≤ orient n p2 p0 x → InHull (p0 :: p1 :: p2 :: rest) x :=
      fun hpos h3 => (tri_hull n pl p0 p1 p2 x hp0 hp1 (hpl p2 (List.mem_cons_self ..)) hx hpos e01 e12 h3).mono
        (List.subset_append_left [p0, p1, p2] rest)
    rcases le_or_gt 0 (orient n p0 p2 x) with hs | hs
    · -- x passes the tests of the chain without p1
      rcases ih p2 hpl (by rw [closedPairs_cons_cons, List.forall_mem_cons]; exact ⟨hs, he⟩) with hin | hcol
      · exact Or.inl (hin.mono (List.cons_subset_cons _ (List.subset_cons_self _ _)))
      · rw [hcol p2 (List.mem_cons_self ..)] at h20
        rcases lt_or_eq_of_le (show 0 ≤ orient n p0 p1 p2 by linarith) with hpos | hzero
        · exact Or.inl (tri hpos (by rw [h20, neg_zero]))
        · exact Or.inr (List.forall_mem_cons.mpr ⟨by linarith, hcol⟩)
    · -- x is strictly on the right of p0 → p2: it is in the triangle p0 p1 p2
      exact Or.inl (tri (by linarith) (by linarith))

theorem chain_hull (n pl x : V3) (hx : inPlane n pl x = true) (l : List V3)
    (hpl : ∀ p ∈ l, inPlane n pl p = true)
    (hnd : ∃ a ∈ l, ∃ b ∈ l, ∃ c ∈ l, orient n a b c ≠ 0)
    (he : ∀ e ∈ closedPairs l, 0 ≤ orient n e.1 e.2 x) : InHull l x := by
  obtain ⟨a, ha, b, hb, c, hc, habc⟩ := hnd
  match l, ha with
  | p0 :: t, ha =>
    obtain ⟨hp0, hpt⟩ := List.forall_mem_cons.mp hpl
    by_cases hx0 : p0 = x
    · exact hx0 ▸ vertex_in_hull _ _ (List.mem_cons_self ..)
    -- not all vertices are collinear with p0 and x
    have hcol : ¬ ∀ v ∈ p0 :: t, orient n p0 v x = 0 := by
      intro hcol
      have key : ∀ u ∈ p0 :: t, ∀ v ∈ p0 :: t, orient n u v x = 0 := fun u hu v hv =>
        orient_trans n x p0 u v (inPlane_diff hx hp0) hx0 (hcol u hu) (hcol v hv)
      have := orient_sum n a b c x
      rw [key b hb c hc, key c hc a ha, key a ha b hb] at this
      exact habc (by linarith)
    cases t with
    | nil => exact absurd (fun v hv => List.mem_singleton.mp hv ▸ orient_same n p0 x) hcol
    | cons p1 m =>
      exact (chain_hull_aux n pl x p0 hx hp0 m p1 hpt he).resolve_right
        (fun h => hcol (List.forall_mem_cons.mpr ⟨orient_same n p0 x, h⟩))
#print axioms chain_hull

theorem poly_hull (n pl x : V3) (hx : inPlane n pl x = true) :
    ∀ (rest : List V3) (p0 p1 p2 : V3),
      (∀ p ∈ p0 :: p1 :: p2 :: rest, inPlane n pl p = true) →
      triplesPos n (p0 :: p1 :: p2 :: rest) →
      (∀ e ∈ closedPairs (p0 :: p1 :: p2 :: rest), 0 ≤ orient n e.1 e.2 x) →
      InHull (p0 :: p1 :: p2 :: rest) x := by
  intro rest p0 p1 p2 hpl htp he
  have h012 : orient n p0 p1 p2 ≠ 0 := ne_of_gt (htp.1 p1 p2 (List.Sublist.cons_cons _ (List.Sublist.cons_cons _ (List.nil_sublist _))))
  exact chain_hull n pl x hx _ hpl
    ⟨p0, List.mem_cons_self .., p1, List.mem_cons_of_mem _ (List.mem_cons_self ..),
      p2, List.mem_cons_of_mem _ (List.mem_cons_of_mem _ (List.mem_cons_self ..)), h012⟩ he
#print axioms poly_hull
end G3D
