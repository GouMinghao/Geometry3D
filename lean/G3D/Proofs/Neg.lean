import G3D.Proofs.Sort
import G3D.Proofs.FlatPolygon
import G3D.Model.PlaneForms

/-! `-plane`, and the vectors of a plane: cross products of vectors orthogonal to `n` are parallel to `n`. -/
namespace G3D
open V3

/-! ### planes -/
theorem V3.neg_neg' (a : V3) : neg (neg a) = a := by
  apply V3.ext' <;> simp [neg]

/-- `-(-plane) = plane` -/
theorem Plane.neg_neg (pl : Plane) : pl.neg.neg = pl := by
  cases pl; simp [Plane.neg, V3.neg_neg']

theorem Plane.neg_contains (pl : Plane) (x : V3) : pl.neg.contains x = pl.contains x := by
  have e : dot pl.neg.n (sub x pl.neg.p) = - dot pl.n (sub x pl.p) := by
    simp only [Plane.neg, dot, V3.neg]; ring
  rw [Bool.eq_iff_iff, Plane.contains_iff, Plane.contains_iff, Plane.den, e, neg_eq_zero]; rfl

theorem Plane.neg_WF (pl : Plane) (h : pl.WF) : pl.neg.WF := by
  intro hz
  apply h
  have hx := congrArg V3.x hz; have hy := congrArg V3.y hz; have hz' := congrArg V3.z hz
  simp only [Plane.neg, V3.neg, zero] at hx hy hz'
  apply V3.ext' <;> simp only [zero] <;> linarith

/-! ### vectors in a plane -/
/-- the cross product of two vectors orthogonal to `n` is parallel to `n` (BAC-CAB) -/
theorem cross_coplanar (n u v : V3) (hu : dot n u = 0) (hv : dot n v = 0) :
    smul (normSq n) (cross u v) = smul (dot n (cross u v)) n := by
  simp only [dot] at hu hv
  apply V3.ext' <;> simp only [smul, normSq, dot, cross]
  · linear_combination (n.y * v.z - n.z * v.y) * hu - (n.y * u.z - n.z * u.y) * hv
  · linear_combination (n.z * v.x - n.x * v.z) * hu - (n.z * u.x - n.x * u.z) * hv
  · linear_combination (n.x * v.y - n.y * v.x) * hu - (n.x * u.y - n.y * u.x) * hv

/-- … with the explicit factor -/
theorem cross_coplanar' (n u v : V3) (hn : n ≠ zero) (hu : dot n u = 0) (hv : dot n v = 0) :
    cross u v = smul (dot n (cross u v) / normSq n) n := by
  have h := cross_coplanar n u v hu hv
  have hx := congrArg V3.x h; have hy := congrArg V3.y h; have hz := congrArg V3.z h
  simp only [smul] at hx hy hz
  apply V3.ext' <;> simp only [smul] <;> rw [div_mul_eq_mul_div, eq_div_iff (normSq_pos hn).ne', mul_comm]
  exacts [hx, hy, hz]

#print axioms Plane.neg_neg
end G3D
