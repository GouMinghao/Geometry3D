import G3D.Proofs.Euler2

/-! # Euler's polyhedron formula, part 3: at most one ascending corner at a vertex

    Hypotheses (`Eu.Hyp`): `Polyhedron.Valid`, `Polyhedron.FaceLocal`, and every directed edge occurs once
    (`(dirEdges (B.faces.map (·.pts))).Nodup` — without it the face list of a cube repeated twice satisfies
    `Valid ∧ FaceLocal` and has `V - E + F = 8`).

    * `Eu.face_eq_of_same_hull` : two faces with the same hull are the same entry of the face list
    * `Eu.coplanar_of_corner` : a face whose plane contains a corner of another face has the same hull
    * `Eu.asc_ray` : an ascending corner `(p, v, s)` of a face `f`: the point `y` of `[p, s]` at the height of `v`
      satisfies `y - v = k (n_f × d)` with `k > 0`
    * `Eu.asc_unique` : two ascending corners at the same vertex coincide (face and corner) -/
namespace G3D
open V3

/-- the hypotheses of Euler's formula -/
structure Eu.Hyp (B : Polyhedron) : Prop where
  valid : B.Valid
  faceLocal : B.FaceLocal
  nodup : (dirEdges (B.faces.map (·.pts))).Nodup

theorem Eu.Hyp.proper {B : Polyhedron} (H : Eu.Hyp B) : B.Proper := H.valid.proper H.faceLocal

/-- distinct entries of the face list have no common directed edge -/
theorem Eu.Hyp.disjoint {B : Polyhedron} (H : Eu.Hyp B) (f g : Polygon) (hf : f ∈ B.faces) (hg : g ∈ B.faces)
    (e : V3 × V3) (he1 : e ∈ closedPairs f.pts) (he2 : e ∈ closedPairs g.pts) : f = g := by
  by_contra hne
  have h := H.nodup
  rw [K4.FacetBody.dirEdges_eq, List.nodup_flatMap] at h
  have : Std.Symm (Function.onFun List.Disjoint fun f : Polygon => closedPairs f.pts) := ⟨fun _ _ h => h.symm⟩
  exact h.2.forall hf hg hne he1 he2

theorem Eu.exists_edge (f : Polygon) (hv : f.Valid) : ∃ e, e ∈ closedPairs f.pts := by
  obtain ⟨p0, _, _, _, hp, _, _⟩ := hv
  obtain ⟨⟨s, hs⟩, _⟩ := K3.vertex_edges f.pts p0 (by rw [hp]; simp)
  exact ⟨_, hs⟩

theorem Eu.Hyp.faces_nodup {B : Polyhedron} (H : Eu.Hyp B) : B.faces.Nodup := by
  have h := H.nodup
  rw [K4.FacetBody.dirEdges_eq, List.nodup_flatMap] at h
  refine List.Pairwise.imp_of_mem ?_ h.2
  intro f g hf _ hd heq
  subst heq
  obtain ⟨e, he⟩ := Eu.exists_edge f (H.valid.faces_valid f hf)
  exact hd he he

/-- a vertex of a face lies in its plane and in the body -/
theorem Eu.Hyp.vertex {B : Polyhedron} (H : Eu.Hyp B) (f : Polygon) (hf : f ∈ B.faces) (v : V3) (hv : v ∈ f.pts) :
    f.side v = 0 ∧ B.contains v = true :=
  ⟨H.proper.side_of_face f hf v (vertex_in_hull _ _ hv), H.proper.face_sub f hf v (vertex_in_hull _ _ hv)⟩

theorem Eu.Hyp.side_le {B : Polyhedron} (_H : Eu.Hyp B) (f : Polygon) (hf : f ∈ B.faces) (x : V3)
    (hx : B.contains x = true) : f.side x ≤ 0 := (B.contains_iff_side x).mp hx f hf

/-- two faces with the same hull are the same entry of the face list -/
theorem Eu.face_eq_of_same_hull {B : Polyhedron} (H : Eu.Hyp B) (f g : Polygon) (hf : f ∈ B.faces)
    (hg : g ∈ B.faces) (h : ∀ x, InHull f.pts x ↔ InHull g.pts x) : f = g := by
  have hP := H.proper
  have hfv := H.valid.faces_valid f hf
  have hgv := H.valid.faces_valid g hg
  obtain ⟨o, ho⟩ := H.valid.interior
  have hall : ∀ v ∈ f.pts, g.side v = 0 := fun v hv =>
    hP.side_of_face g hg v ((h v).mp (vertex_in_hull _ _ hv))
  obtain ⟨k, hk, hn, _⟩ := coplanar_neighbour f g hfv (H.valid.center_in_plane f hf) o (ho f hf) (ho g hg) hall
  have hmem : ∀ p, p ∈ g.pts ↔ p ∈ f.pts := fun p =>
    ⟨SameSet.mem_of_same_hull hgv.strictConvexPos (fun x => (h x).symm) p,
      SameSet.mem_of_same_hull hfv.strictConvexPos h p⟩
  obtain ⟨p0, p1, p2, rest, hp, _, htp⟩ := id hfv
  obtain ⟨q0, q1, q2, rest', hq, _, htq⟩ := id hgv
  have htq' : triplesPos f.plane.n g.pts := by
    rw [hn] at htq; exact (triplesPos_smul_pos k hk _ _).mp htq
  obtain ⟨l1, l2, e1, e2⟩ := cycle_unique f.plane.n f.pts g.pts (by rw [hp]; simp) (by rw [hq]; simp)
    htp htq' hmem
  have hperm : List.Perm (closedPairs f.pts) (closedPairs g.pts) := by
    rw [e1, e2]; exact closedPairs_rotate l1 l2
  obtain ⟨e, he⟩ := Eu.exists_edge f hfv
  exact H.disjoint f g hf hg e he (hperm.mem_iff.mp he)

/-- a face whose plane contains a corner of the face `g` has the same hull as `g` -/
theorem Eu.coplanar_of_corner {B : Polyhedron} (H : Eu.Hyp B) (f g : Polygon) (hf : f ∈ B.faces)
    (hg : g ∈ B.faces) (t : V3 × V3 × V3) (ht : t ∈ Eu.cycTriples g.pts)
    (h1 : f.side t.1 = 0) (h2 : f.side t.2.1 = 0) (h3 : f.side t.2.2 = 0) :
    ∀ x, InHull f.pts x ↔ InHull g.pts x := by
  have hP := H.proper
  have hgv := H.valid.faces_valid g hg
  have c := Eu.corner g hgv t ht
  have hN : cross (sub t.2.2 t.2.1) (sub t.1 t.2.1) ≠ zero := by
    intro hz
    have hD := c.pos
    rw [Eu.orient_corner, hz] at hD
    simp [dot, zero] at hD
  obtain ⟨l, hl, hside⟩ := K4.side_prop_of_three g f _ _ _ hN (Polygon.plane_WF g hgv) (H.vertex g hg _ c.mid).1
    (H.vertex g hg _ c.succ).1 (H.vertex g hg _ c.pred).1 h2 h3 h1
  have hl0 : l ≠ 0 := smul_ne_zero_left (by rw [← hl]; exact Polygon.plane_WF f (H.valid.faces_valid f hf))
  exact fun x => (K4.same_hull_of_side_prop g f (hP.face_iff g hg) (hP.face_iff f hf) l hl0 hside x).symm

/-! ### the horizontal ray of an ascending corner -/

theorem Eu.level_point (d b a v : V3) (hb : dot d (sub b v) < 0) (ha : 0 < dot d (sub a v)) :
    ∃ τ : Rat, 0 < τ ∧ τ < 1 ∧
      (∀ m, dot m (sub (add b (smul τ (sub a b))) v) = (1 - τ) * dot m (sub b v) + τ * dot m (sub a v)) ∧
      dot d (sub (add b (smul τ (sub a b))) v) = 0 := by
  have hden : 0 < dot d (sub a v) - dot d (sub b v) := by linarith
  have lerp : ∀ (m : V3) (τ : Rat), dot m (sub (add b (smul τ (sub a b))) v) =
      (1 - τ) * dot m (sub b v) + τ * dot m (sub a v) := by
    intro m τ; simp only [dot, add, smul, sub]; ring
  refine ⟨- dot d (sub b v) / (dot d (sub a v) - dot d (sub b v)), div_pos (neg_pos.mpr hb) hden,
    by rw [div_lt_one hden]; linarith, fun m => lerp m _, ?_⟩
  rw [lerp]; field_simp; ring

/-- an ascending corner `(p, v, s)` of a valid polygon: the point `y` of the chord `[p, s]` at the height of `v` lies
    on the ray from `v` along `n × d`, stated for the scalar products with an arbitrary `m` -/
theorem Eu.asc_ray (f : Polygon) (hv : f.Valid) (d : V3) (t : V3 × V3 × V3) (ht : t ∈ Eu.cycTriples f.pts)
    (h1 : dot d t.1 < dot d t.2.1) (h2 : dot d t.2.1 < dot d t.2.2) :
    ∃ y, InHull f.pts y ∧ (∃ τ : Rat, 0 < τ ∧ τ < 1 ∧ y = add t.1 (smul τ (sub t.2.2 t.1))) ∧
      ∃ k : Rat, 0 < k ∧ ∀ m, dot m (sub y t.2.1) = k * dot m (cross f.plane.n d) := by
  have c := Eu.corner f hv t ht
  obtain ⟨_, _, _, _, _, hpl, _⟩ := id hv
  have na : dot f.plane.n (sub t.2.2 t.2.1) = 0 := inPlane_diff (hpl _ c.mid) (hpl _ c.succ)
  have nb : dot f.plane.n (sub t.1 t.2.1) = 0 := inPlane_diff (hpl _ c.mid) (hpl _ c.pred)
  have hα : 0 < dot d (sub t.2.2 t.2.1) := by rw [dot_sub_right]; linarith
  obtain ⟨τ, hτ0, hτ1, hy, dw⟩ := Eu.level_point d t.1 t.2.2 t.2.1 (by rw [dot_sub_right]; linarith) hα
  refine ⟨_, between_in_hull c.pred c.succ ⟨τ, hτ0.le, hτ1.le, rfl⟩, ⟨τ, hτ0, hτ1, rfl⟩, ?_⟩
  have hT : dot f.plane.n (cross (sub t.2.2 t.2.1) (sub (add t.1 (smul τ (sub t.2.2 t.1))) t.2.1)) =
      (1 - τ) * orient f.plane.n t.1 t.2.1 t.2.2 := by
    simp only [orient, dot, cross, add, smul, sub]; ring
  generalize add t.1 (smul τ (sub t.2.2 t.1)) = y at hy dw hT
  have nw : dot f.plane.n (sub y t.2.1) = 0 := by rw [hy, na, nb]; ring
  have hNα := mul_pos (normSq_pos (Polygon.plane_WF f hv)) hα
  refine ⟨(1 - τ) * orient f.plane.n t.1 t.2.1 t.2.2 / (normSq f.plane.n * dot d (sub t.2.2 t.2.1)),
    div_pos (mul_pos (by linarith) c.pos) hNα, fun m => ?_⟩
  have g := K4.triple_gram f.plane.n d m _ _ na nw dw
  rw [hT] at g
  rw [div_mul_eq_mul_div, eq_div_iff hNα.ne', ← g]

/-- **at most one ascending corner at a vertex**: two ascending corners with the same middle vertex belong to the
    same face and coincide.  Each chord point passes the test of the other face, so `n_g . (n_f × d) = 0`; then the
    chord point of `g` lies in the plane of `f`, and with it the whole corner of `g` -/
theorem Eu.asc_unique {B : Polyhedron} (H : Eu.Hyp B) (d : V3) (f g : Polygon) (hf : f ∈ B.faces)
    (hg : g ∈ B.faces) (t t' : V3 × V3 × V3) (ht : t ∈ Eu.cycTriples f.pts) (ht' : t' ∈ Eu.cycTriples g.pts)
    (hmid : t.2.1 = t'.2.1) (ha : Eu.amT d t = true) (ha' : Eu.amT d t' = true) : f = g ∧ t = t' := by
  have hP := H.proper
  have hfv := H.valid.faces_valid f hf
  have hgv := H.valid.faces_valid g hg
  simp only [Eu.amT, decide_eq_true_iff] at ha ha'
  obtain ⟨y, hy, _, k, hk, hray⟩ := Eu.asc_ray f hfv d t ht ha.1 ha.2
  obtain ⟨y', hy', ⟨τ, hτ0, hτ1, hyτ⟩, k', hk', hray'⟩ := Eu.asc_ray g hgv d t' ht' ha'.1 ha'.2
  rw [← hmid] at hray'
  have c' := Eu.corner g hgv t' ht'
  have fv := (H.vertex f hf _ (Eu.corner f hfv t ht).mid).1
  have gv : g.side t.2.1 = 0 := by rw [hmid]; exact (H.vertex g hg _ c'.mid).1
  have e : k * dot g.plane.n (cross f.plane.n d) = g.side y := by rw [← hray, K4.side_diff, gv, sub_zero]
  have c1 := nonpos_of_mul_nonpos_right (e ▸ H.side_le g hg y (hP.face_sub f hf y hy)) hk
  have e' : k' * dot f.plane.n (cross g.plane.n d) = f.side y' := by rw [← hray', K4.side_diff, fv, sub_zero]
  have c2 := nonpos_of_mul_nonpos_right (e' ▸ H.side_le f hf y' (hP.face_sub g hg y' hy')) hk'
  rw [K4.triple_swap] at c1
  have hs : f.side y' = 0 := by rw [← e', le_antisymm c2 (by linarith), mul_zero]
  rw [hyτ, K4.side_between] at hs
  obtain ⟨z1, z2⟩ := K4.zero_of_comb hτ0 hτ1 (H.side_le f hf _ (H.vertex g hg _ c'.pred).2)
    (H.side_le f hf _ (H.vertex g hg _ c'.succ).2) hs
  have hfg := Eu.face_eq_of_same_hull H f g hf hg
    (Eu.coplanar_of_corner H f g hf hg t' ht' z1 (hmid ▸ fv) z2)
  subst hfg
  exact ⟨rfl, List.inj_on_of_nodup_map (Eu.cycTriples_mid_nodup f.pts hfv.nodup) ht ht' hmid⟩
#print axioms Eu.asc_unique

end G3D
