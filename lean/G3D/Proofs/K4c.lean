import G3D.Proofs.K4b
import G3D.Proofs.Equality
import G3D.Proofs.SameSet

/-! # Kernel K4, part c: structure of `interPolyhedronPolyhedron`, and the case without interior point

    * `K4.InK A B` : the common part (both membership tests); `K4.IsPiece` : the clips of the faces of one body by the
      other; every clip denotes `K ∩ plane(face)` (`K4.IsPiece.spec`)
    * `K4.Parts2`, `K4.finish`, `K4.handler_eq` : the handler never fails inside the two clipping loops, and its result
      is `K4.finish p` of parts `p` that are exactly the clips
    * `K4.flat_of_no_interior` : if no point is strictly inside all face half-spaces of both bodies, the common part
      lies in the plane of one face
    * `K4.finish_of_flat`, `K4.exact_of_flat` : in that case the handler returns `None` / a Point / a Segment / a ConvexPolygon denoting
      exactly the common part (in particular the two "Bug detected" branches are not taken) -/
namespace G3D
open V3

/-- the common part of two bodies: both membership tests pass -/
def K4.InK (A B : Polyhedron) (x : V3) : Prop := A.contains x = true ∧ B.contains x = true

theorem K4.InK_iff_hull {A B : Polyhedron} (hA : A.ExactHyp) (hB : B.ExactHyp) (x : V3) :
    K4.InK A B x ↔ (InHull A.verts x ∧ InHull B.verts x) :=
  and_congr (hA.proper.contains_iff_hull x) (hB.proper.contains_iff_hull x)

theorem K4.InK_iff_side (A B : Polyhedron) (x : V3) :
    K4.InK A B x ↔ ∀ f ∈ A.faces ++ B.faces, f.side x ≤ 0 := by
  unfold K4.InK
  rw [A.contains_iff_side, B.contains_iff_side]
  constructor
  · rintro ⟨h1, h2⟩ f hf
    rcases List.mem_append.mp hf with h | h
    · exact h1 f h
    · exact h2 f h
  · intro h
    exact ⟨fun f hf => h f (List.mem_append_left _ hf), fun f hf => h f (List.mem_append_right _ hf)⟩

theorem K4.InK_between {A B : Polyhedron} {a b x : V3} (ha : K4.InK A B a) (hb : K4.InK A B b)
    (hx : Between a b x) : K4.InK A B x :=
  ⟨Polyhedron.contains_between A ha.1 hb.1 hx, Polyhedron.contains_between B ha.2 hb.2 hx⟩

/-- `o` is the clip of a face of one body by the other body -/
def K4.IsPiece (A B : Polyhedron) (f : Polygon) (o : Option Obj) : Prop :=
  (f ∈ A.faces ∧ interPolygonPolyhedron B f = .ok o) ∨ (f ∈ B.faces ∧ interPolygonPolyhedron A f = .ok o)

theorem K4.IsPiece.mem {A B : Polyhedron} {f : Polygon} {o : Option Obj} (h : K4.IsPiece A B f o) :
    f ∈ A.faces ++ B.faces := by
  rcases h with h | h
  · exact List.mem_append_left _ h.1
  · exact List.mem_append_right _ h.1

theorem K4.spec_of_clip {A B : Polyhedron} (hA : A.ExactHyp) (hB : B.ExactHyp) {f : Polygon} {o : Option Obj}
    (hf : f ∈ A.faces) (ho : interPolygonPolyhedron B f = .ok o) :
    K4.Shape o ∧ ∀ x, denOptB o x ↔ (K4.InK A B x ∧ f.side x = 0) := by
  obtain ⟨o', hp⟩ := K4.piece B hB f (hA.proper.core.faces_valid f hf)
  have : o' = o := by have := hp.eq; rw [ho] at this; cases this; rfl
  subst this
  refine ⟨hp.shape, fun x => ?_⟩
  rw [hp.den x, hA.proper.face_iff f hf x, ← hB.proper.contains_iff_hull x]
  unfold K4.InK
  tauto

/-- every clip is `None`, a Point, a well-formed Segment or a Valid polygon and denotes `K ∩ plane(face)` -/
theorem K4.IsPiece.spec {A B : Polyhedron} (hA : A.ExactHyp) (hB : B.ExactHyp) {f : Polygon} {o : Option Obj}
    (h : K4.IsPiece A B f o) : K4.Shape o ∧ ∀ x, denOptB o x ↔ (K4.InK A B x ∧ f.side x = 0) := by
  rcases h with ⟨hf, ho⟩ | ⟨hf, ho⟩
  · exact K4.spec_of_clip hA hB hf ho
  · obtain ⟨hs, hd⟩ := K4.spec_of_clip hB hA hf ho
    exact ⟨hs, fun x => (hd x).trans (and_congr_left' and_comm)⟩

theorem K4.face_valid {A B : Polyhedron} (hA : A.ExactHyp) (hB : B.ExactHyp) (f : Polygon)
    (hf : f ∈ A.faces ++ B.faces) : f.Valid := by
  rcases List.mem_append.mp hf with h | h
  · exact hA.proper.core.faces_valid f h
  · exact hB.proper.core.faces_valid f h

theorem K4.exists_piece {A B : Polyhedron} (hA : A.ExactHyp) (hB : B.ExactHyp) (f : Polygon)
    (hf : f ∈ A.faces ++ B.faces) : ∃ o, K4.IsPiece A B f o := by
  rcases List.mem_append.mp hf with h | h
  · obtain ⟨o, hp⟩ := K4.piece B hB f (hA.proper.core.faces_valid f h)
    exact ⟨o, Or.inl ⟨h, hp.eq⟩⟩
  · obtain ⟨o, hp⟩ := K4.piece A hA f (hB.proper.core.faces_valid f h)
    exact ⟨o, Or.inr ⟨h, hp.eq⟩⟩

/-! ### the handler = the two loops + `finish` -/

/-- the parts after both loops: exactly the clips, polygons and segments up to `same`, no repetitions -/
structure K4.Parts2 (A B : Polyhedron) (p : Parts) : Prop where
  gons_sub : ∀ g ∈ p.gons, ∃ f, K4.IsPiece A B f (some (.polygon g))
  gons_rep : ∀ f g, K4.IsPiece A B f (some (.polygon g)) → ∃ g' ∈ p.gons, g' = g ∨ g'.same g = true
  gons_pw : p.gons.Pairwise (fun a b => a.same b = false)
  segs_sub : ∀ s ∈ p.segs, ∃ f, K4.IsPiece A B f (some (.flat (.seg s)))
  segs_rep : ∀ f s, K4.IsPiece A B f (some (.flat (.seg s))) → ∃ s' ∈ p.segs, s' = s ∨ s'.same s = true
  segs_pw : p.segs.Pairwise (fun a b => a.same b = false)
  pts_mem : ∀ q, q ∈ p.pts ↔ ∃ f, K4.IsPiece A B f (some (.flat (.point q)))
  pts_nodup : p.pts.Nodup

/-- the final case distinction of the handler -/
def K4.finish (p2 : Parts) : ResB :=
  match p2.gons, p2.segs, p2.pts with
  | _ :: _ :: _, _, _ => do let R ← liftC (Polyhedron.mk? p2.gons); pure (some (.polyhedron R))
  | [Q], _, _ => pure (some (.polygon Q))
  | [], _ :: _ :: _, _ => throw .bug
  | [], [s], _ => seg? s
  | [], [], _ :: _ :: _ => throw .bug
  | [], [], [p] => pt? p
  | [], [], [] => pure none

/-- **no failure inside the loops**: the handler is `finish` of parts that are exactly the clips -/
theorem K4.handler_eq (A B : Polyhedron) (hA : A.ExactHyp) (hB : B.ExactHyp) :
    ∃ p, K4.Parts2 A B p ∧ interPolyhedronPolyhedron A B = K4.finish p := by
  have ok : ∀ {X Y : Polyhedron}, X.ExactHyp → Y.ExactHyp → ∀ f ∈ Y.faces, ∃ o, interPolygonPolyhedron X f = .ok o :=
    fun hX hY f hf => (K4.piece _ hX f (hY.proper.core.faces_valid f hf)).imp fun _ h => h.eq
  obtain ⟨p1, h1, c1⟩ := K4.clipFaces_clipped B A.faces {} (ok hB hA)
  obtain ⟨p2, h2, c2⟩ := K4.clipFaces_clipped A B.faces p1 (ok hA hB)
  -- the clips of the faces of `A` by `B` and of the faces of `B` by `A` are the pieces
  have pc : ∀ o, (K4.ClipIn B A.faces o ∨ K4.ClipIn A B.faces o) ↔ ∃ f, K4.IsPiece A B f o := fun o => exists_or.symm
  have eg := (c1.gons.trans c2.gons).congr fun _ => pc _
  have es := (c1.segs.trans c2.segs).congr fun _ => pc _
  have ep := (c1.pts.trans c2.pts).congr fun _ => pc _
  refine ⟨p2, ⟨fun g hg => (eg.sub g hg).resolve_left List.not_mem_nil, fun f g h => eg.rep g ⟨f, h⟩, eg.pw .nil,
    fun s hs => (es.sub s hs).resolve_left List.not_mem_nil, fun f s h => es.rep s ⟨f, h⟩, es.pw .nil,
    fun q => (ep.mem_iff q).trans (or_iff_right List.not_mem_nil), ep.nodup .nil⟩, ?_⟩
  · unfold interPolyhedronPolyhedron
    rw [h1]
    simp only [bind, Except.bind]
    rw [h2]
    rfl

/-! ### small geometric facts -/

theorem K4.side_between (f : Polygon) (a b : V3) (t : Rat) :
    f.side (add a (smul t (sub b a))) = (1 - t) * f.side a + t * f.side b := by
  simp only [Polygon.side, dot, sub, add, smul]; ring

theorem K4.zero_of_comb {τ A B : Rat} (h0 : 0 < τ) (h1 : τ < 1) (hA : A ≤ 0) (hB : B ≤ 0)
    (h : (1 - τ) * A + τ * B = 0) : A = 0 ∧ B = 0 := by
  have a := mul_nonpos_of_nonneg_of_nonpos h0.le hB
  have b := mul_nonpos_of_nonneg_of_nonpos (by linarith : (0 : Rat) ≤ 1 - τ) hA
  exact ⟨(mul_eq_zero.mp (by linarith : (1 - τ) * A = 0)).resolve_left (by linarith),
    (mul_eq_zero.mp (by linarith : τ * B = 0)).resolve_left h0.ne'⟩

theorem K4.side_diff (f : Polygon) (x y : V3) : dot f.plane.n (sub y x) = f.side y - f.side x := by
  simp only [Polygon.side, dot, sub]; ring

theorem K4.side_affine (f : Polygon) (o x : V3) : f.side x = f.side o + dot (sub x o) f.plane.n := by
  simp only [Polygon.side, dot, sub]; ring

theorem K4.side_prop_of_cross_zero (f1 f2 : Polygon) (a : V3) (h1a : f1.side a = 0) (h2a : f2.side a = 0)
    (hn1 : f1.plane.n ≠ zero) (hc : cross f2.plane.n f1.plane.n = zero) :
    ∃ l : Rat, f2.plane.n = smul l f1.plane.n ∧ ∀ x, f2.side x = l * f1.side x := by
  have hs := eq_smul_of_cross_eq_zero hn1 hc
  refine ⟨_, hs, fun x => ?_⟩
  rw [K4.side_affine f2 a x, K4.side_affine f1 a x, h1a, h2a]
  generalize dot f2.plane.n f1.plane.n / normSq f1.plane.n = l at hs ⊢
  rw [hs]; simp only [dot, smul]; ring

theorem K4.side_prop_of_three (f g : Polygon) (a b c : V3) (hN : cross (sub b a) (sub c a) ≠ zero)
    (hf : f.plane.n ≠ zero) (fa : f.side a = 0) (fb : f.side b = 0) (fc : f.side c = 0)
    (ga : g.side a = 0) (gb : g.side b = 0) (gc : g.side c = 0) :
    ∃ l : Rat, g.plane.n = smul l f.plane.n ∧ ∀ x, g.side x = l * f.side x := by
  obtain ⟨k1, hk1⟩ := parallel_of_perp _ _ f.plane.n hN
    (by rw [K4.side_diff, fa, fb]; ring) (by rw [K4.side_diff, fa, fc]; ring)
  obtain ⟨k2, hk2⟩ := parallel_of_perp _ _ g.plane.n hN
    (by rw [K4.side_diff, ga, gb]; ring) (by rw [K4.side_diff, ga, gc]; ring)
  exact K4.side_prop_of_cross_zero f g a fa ga hf
    (by rw [hk1, hk2]; apply V3.ext' <;> simp only [cross, smul, zero] <;> ring)

theorem K4.same_hull_of_side_prop {K : V3 → Prop} (h1 h2 : Polygon)
    (d1 : ∀ x, InHull h1.pts x ↔ (K x ∧ h1.side x = 0)) (d2 : ∀ x, InHull h2.pts x ↔ (K x ∧ h2.side x = 0))
    (l : Rat) (hl : l ≠ 0) (hside : ∀ x, h2.side x = l * h1.side x) (x : V3) :
    InHull h1.pts x ↔ InHull h2.pts x := by
  rw [d1 x, d2 x, hside, mul_eq_zero_iff_left hl]

/-- three points of a segment are collinear -/
theorem K4.seg_collinear (s : Seg) (a b c : V3) (ha : s.den a) (hb : s.den b) (hc : s.den c) :
    cross (sub b a) (sub c a) = zero := by
  obtain ⟨ta, _, _, rfl⟩ := ha
  obtain ⟨tb, _, _, rfl⟩ := hb
  obtain ⟨tc, _, _, rfl⟩ := hc
  apply V3.ext' <;> simp only [cross, sub, add, smul, zero] <;> ring

/-- an affine functional vanishing at two distinct points of a segment vanishes on the segment -/
theorem K4.side_zero_on_seg (f : Polygon) (s0 : Seg) (a b : V3) (hab : a ≠ b) (ha : s0.den a) (hb : s0.den b)
    (fa : f.side a = 0) (fb : f.side b = 0) (x : V3) (hx : s0.den x) : f.side x = 0 := by
  obtain ⟨ta, _, _, rfl⟩ := ha
  obtain ⟨tb, _, _, rfl⟩ := hb
  obtain ⟨t, _, _, rfl⟩ := hx
  have hne : ta ≠ tb := fun e => hab (by rw [e])
  exact K3.side_zero_of_two f s0.a (sub s0.b s0.a) hne fa fb t

/-- a list without `R`-related pairs in which all elements are `R`-related has at most one element -/
theorem K4.le_one_of_pw {α : Type} (R : α → α → Bool) (l : List α) (hpw : l.Pairwise (fun a b => R a b = false))
    (hall : ∀ a ∈ l, ∀ b ∈ l, R a b = true) : l = [] ∨ ∃ a, l = [a] := by
  match l, hpw, hall with
  | [], _, _ => exact Or.inl rfl
  | [a], _, _ => exact Or.inr ⟨a, rfl⟩
  | a :: b :: t, hpw, hall =>
    have h1 := (List.pairwise_cons.mp hpw).1 b (by simp)
    have h2 := hall a (by simp) b (by simp)
    rw [h1] at h2; cases h2

/-! ### no interior point: the common part lies in a face plane -/

theorem K4.interior_of_strict (A B : Polyhedron) : ∀ (L : List Polygon), (∀ f ∈ L, f ∈ A.faces ++ B.faces) →
    (∃ x, K4.InK A B x) → (∀ f ∈ L, ∃ x, K4.InK A B x ∧ f.side x < 0) →
    ∃ o, K4.InK A B o ∧ ∀ f ∈ L, f.side o < 0 := by
  intro L
  induction L with
  | nil => intro _ ⟨x, hx⟩ _; exact ⟨x, hx, fun f hf => by cases hf⟩
  | cons f L ih =>
    intro hsub hne h
    obtain ⟨o', ho', hs'⟩ := ih (fun g hg => hsub g (by simp [hg])) hne (fun g hg => h g (by simp [hg]))
    obtain ⟨xf, hxf, hsf⟩ := h f (by simp)
    have hb : Between xf o' (add xf (smul (1/2) (sub o' xf))) := ⟨1/2, by norm_num, by norm_num, rfl⟩
    refine ⟨_, K4.InK_between hxf ho' hb, ?_⟩
    intro g hg
    rw [K4.side_between]
    have h1 : g.side xf ≤ 0 := (K4.InK_iff_side A B xf).mp hxf g (hsub g hg)
    have h2 : g.side o' ≤ 0 := (K4.InK_iff_side A B o').mp ho' g (hsub g hg)
    rcases List.mem_cons.mp hg with rfl | hg'
    · linarith
    · have := hs' g hg'; linarith

/-- if no point lies strictly inside all face half-spaces of both bodies, the common part lies in the plane of one
    of the faces -/
theorem K4.flat_of_no_interior (A B : Polyhedron) (hne : A.faces ≠ [])
    (hno : ¬ ∃ o, ∀ f ∈ A.faces ++ B.faces, f.side o < 0) :
    ∃ f0 ∈ A.faces ++ B.faces, ∀ x, K4.InK A B x → f0.side x = 0 := by
  by_contra hcon
  push Not at hcon
  obtain ⟨f1, hf1⟩ := List.exists_mem_of_ne_nil _ hne
  obtain ⟨x1, hx1, _⟩ := hcon f1 (List.mem_append_left _ hf1)
  apply hno
  obtain ⟨o, _, ho⟩ := K4.interior_of_strict A B (A.faces ++ B.faces) (fun f hf => hf) ⟨x1, hx1⟩
    (fun f hf => by
      obtain ⟨x, hx, hs⟩ := hcon f hf
      exact ⟨x, hx, lt_of_le_of_ne ((K4.InK_iff_side A B x).mp hx f hf) hs⟩)
  exact ⟨o, ho⟩

/-! ### evaluation of `finish` -/
theorem K4.finish_nil (p : Parts) (h1 : p.gons = []) (h2 : p.segs = []) (h3 : p.pts = []) :
    K4.finish p = .ok none := by
  unfold K4.finish; rw [h1, h2, h3]; rfl

theorem K4.finish_pt (p : Parts) (q : V3) (h1 : p.gons = []) (h2 : p.segs = []) (h3 : p.pts = [q]) :
    K4.finish p = pt? q := by
  unfold K4.finish; rw [h1, h2, h3]

theorem K4.finish_seg (p : Parts) (s : Seg) (h1 : p.gons = []) (h2 : p.segs = [s]) :
    K4.finish p = seg? s := by
  unfold K4.finish; rw [h1, h2]

theorem K4.finish_gon (p : Parts) (Q : Polygon) (h1 : p.gons = [Q]) :
    K4.finish p = .ok (some (.polygon Q)) := by
  unfold K4.finish; rw [h1]; rfl

theorem K4.finish_many (p : Parts) (Q1 Q2 : Polygon) (t : List Polygon) (h1 : p.gons = Q1 :: Q2 :: t) :
    K4.finish p = (do let R ← liftC (Polyhedron.mk? p.gons); pure (some (.polyhedron R))) := by
  unfold K4.finish; rw [h1]

theorem K4.mk_bind_ok {gons : List Polygon} {o : Option Obj}
    (h : (do let R ← liftC (Polyhedron.mk? gons); pure (some (.polyhedron R)) : ResB) = .ok o) :
    ∃ R, Polyhedron.mk? gons = .ok R ∧ o = some (.polyhedron R) := by
  cases hm : Polyhedron.mk? gons with
  | error e => rw [hm] at h; cases h
  | ok R => rw [hm] at h; cases h; exact ⟨R, rfl, rfl⟩

theorem K4.mk_bind_error {gons : List Polygon} {e : BErr}
    (h : (do let R ← liftC (Polyhedron.mk? gons); pure (some (.polyhedron R)) : ResB) = .error e) :
    ∃ ce, Polyhedron.mk? gons = .error ce ∧ e = .ctor ce := by
  cases hm : Polyhedron.mk? gons with
  | error ce => rw [hm] at h; cases h; exact ⟨ce, rfl, rfl⟩
  | ok R => rw [hm] at h; cases h

/-! ### the flat case -/

/-- **the common part lies in a face plane ⇒ exact, no "Bug" branch**: the handler returns `None`, a Point, a
    well-formed Segment or a ConvexPolygon denoting exactly the common part -/
theorem K4.finish_of_flat (A B : Polyhedron) (hA : A.ExactHyp) (hB : B.ExactHyp) (p : Parts)
    (hp : K4.Parts2 A B p) (f0 : Polygon)
    (hf0 : f0 ∈ A.faces ++ B.faces) (hflat : ∀ x, K4.InK A B x → f0.side x = 0) :
    ∃ o, K4.finish p = .ok o ∧ K4.Shape o ∧ ∀ x, denOptB o x ↔ K4.InK A B x := by
  obtain ⟨o0, hpc0⟩ := K4.exists_piece hA hB f0 hf0
  obtain ⟨hsh0, hd0⟩ := hpc0.spec hA hB
  have hd0' : ∀ x, denOptB o0 x ↔ K4.InK A B x := fun x => by
    rw [hd0 x]; exact ⟨fun h => h.1, fun h => ⟨h, hflat x h⟩⟩
  have hsubK : ∀ {f : Polygon} {o : Option Obj}, K4.IsPiece A B f o → ∀ x, denOptB o x → K4.InK A B x :=
    fun h x hx => (((h.spec hA hB).2 x).mp hx).1
  -- the handler looks at the polygons first: each denotes the whole common part, so there is at most one
  have hgden : ∀ g ∈ p.gons, g.Valid ∧ ∀ x, InHull g.pts x ↔ K4.InK A B x := by
    intro g hg
    obtain ⟨f, hf⟩ := hp.gons_sub g hg
    obtain ⟨hsh, hd⟩ := hf.spec hA hB
    cases hsh with
    | gon _ hv =>
      refine ⟨hv, fun x => ⟨fun h => ((hd x).mp h).1, fun h => (hd x).mpr ⟨h, ?_⟩⟩⟩
      obtain ⟨a, ha, b, hb, c, hc, hor⟩ := hv.nondeg
      have hN : cross (sub b a) (sub c a) ≠ zero := by
        intro e; apply hor; simp only [orient, e, dot, zero]; ring
      have hva := (hd a).mp (vertex_in_hull _ _ ha)
      have hvb := (hd b).mp (vertex_in_hull _ _ hb)
      have hvc := (hd c).mp (vertex_in_hull _ _ hc)
      obtain ⟨l, _, hl⟩ := K4.side_prop_of_three f0 f a b c hN (Polygon.plane_WF f0 (K4.face_valid hA hB f0 hf0))
        (hflat a hva.1) (hflat b hvb.1) (hflat c hvc.1) hva.2 hvb.2 hvc.2
      rw [hl, hflat x h, mul_zero]
  rcases K4.le_one_of_pw Polygon.same p.gons hp.gons_pw (fun a ha b hb =>
    (Polygon.same_iff_same_hull a b (hgden a ha).1 (hgden b hb).1).mpr
      (fun x => by rw [(hgden a ha).2 x, (hgden b hb).2 x]))
    with hg | ⟨g1, hg1⟩
  swap
  · have h1 := hgden g1 (by rw [hg1]; simp)
    exact ⟨_, K4.finish_gon p g1 hg1, .gon g1 h1.1, h1.2⟩
  -- no polygon: the common part is not 2-dimensional, and every collected segment denotes all of it
  have hsden : ∀ s ∈ p.segs, s.WF ∧ ∀ x, s.den x ↔ K4.InK A B x := by
    intro s hs
    obtain ⟨f, hf⟩ := hp.segs_sub s hs
    obtain ⟨hsh, hd⟩ := hf.spec hA hB
    cases hsh with
    | seg _ hw =>
      refine ⟨hw, fun x => ⟨fun h => ((hd x).mp h).1, fun h => (hd x).mpr ⟨h, ?_⟩⟩⟩
      have ha := (hd s.a).mp s.a_mem_den
      have hb := (hd s.b).mp s.b_mem_den
      cases hsh0 with
      | none => exact ((hd0' x).mpr h).elim
      | point q0 => exact absurd (((hd0' _).mpr ha.1 : s.a = q0).trans ((hd0' _).mpr hb.1 : s.b = q0).symm) hw.1
      | seg s0 _ =>
        exact K4.side_zero_on_seg f s0 s.a s.b hw.1 ((hd0' _).mpr ha.1) ((hd0' _).mpr hb.1) ha.2 hb.2 x
          ((hd0' x).mpr h)
      | gon Q0 _ => obtain ⟨g', hg', _⟩ := hp.gons_rep f0 Q0 hpc0; rw [hg] at hg'; cases hg'
  rcases K4.le_one_of_pw Seg.same p.segs hp.segs_pw (fun a ha b hb =>
    (Seg.eqv_iff a b (hsden a ha).1 (hsden b hb).1).mpr (fun x => by rw [(hsden a ha).2 x, (hsden b hb).2 x]))
    with hs | ⟨s1, hs1⟩
  swap
  · have h1 := hsden s1 (by rw [hs1]; simp)
    exact ⟨_, K4.finish_seg p s1 hg hs1, .seg s1 h1.1, h1.2⟩
  -- neither polygon nor segment: the collected points are the points of the common part
  have hall : ∀ q ∈ p.pts, K4.InK A B q := fun q hq => by
    obtain ⟨f, hf⟩ := (hp.pts_mem q).mp hq
    exact hsubK hf q rfl
  cases hsh0 with
  | none =>
    have hpt : p.pts = [] := List.eq_nil_iff_forall_not_mem.mpr (fun q hq => (hd0' q).mpr (hall q hq))
    exact ⟨none, K4.finish_nil p hg hs hpt, .none, fun x => (hd0' x)⟩
  | point q0 =>
    have hall' : ∀ q ∈ p.pts, q = q0 := fun q hq => (hd0' q).mpr (hall q hq)
    have hmem : q0 ∈ p.pts := (hp.pts_mem q0).mpr ⟨f0, hpc0⟩
    have hpt : p.pts = [q0] := by
      have hnd := hp.pts_nodup
      match hpp : p.pts, hall', hmem, hnd with
      | [], _, hmem, _ => cases hmem
      | [a], hall', _, _ => rw [hall' a (by simp)]
      | a :: b :: t, hall', _, hnd =>
        rw [hall' a (by simp), hall' b (by simp)] at hnd
        simp at hnd
    exact ⟨_, K4.finish_pt p q0 hg hs hpt, .point q0, hd0'⟩
  | seg s0 _ => obtain ⟨s', hs', _⟩ := hp.segs_rep f0 s0 hpc0; rw [hs] at hs'; cases hs'
  | gon Q0 _ => obtain ⟨g', hg', _⟩ := hp.gons_rep f0 Q0 hpc0; rw [hg] at hg'; cases hg'
#print axioms K4.finish_of_flat

theorem K4.exact_of_flat (A B : Polyhedron) (hA : A.ExactHyp) (hB : B.ExactHyp) (f0 : Polygon)
    (hf0 : f0 ∈ A.faces ++ B.faces) (hflat : ∀ x, K4.InK A B x → f0.side x = 0) :
    ∃ o, interPolyhedronPolyhedron A B = .ok o ∧ K4.Shape o ∧ ∀ x, denOptB o x ↔ K4.InK A B x := by
  obtain ⟨p, hp, heq⟩ := K4.handler_eq A B hA hB
  rw [heq]
  exact K4.finish_of_flat A B hA hB p hp f0 hf0 hflat

/-- **items 2 + 3 without interior point**: if no point lies strictly inside all face half-spaces of both bodies, the
    handler returns `None`, a Point, a well-formed Segment or a Valid ConvexPolygon denoting exactly `A ∩ B` -/
theorem K4.exact_of_no_interior (A B : Polyhedron) (hA : A.ExactHyp) (hB : B.ExactHyp)
    (hno : ¬ ∃ o, ∀ f ∈ A.faces ++ B.faces, f.side o < 0) :
    ∃ o, interPolyhedronPolyhedron A B = .ok o ∧ K4.Shape o ∧ ∀ x, denOptB o x ↔ K4.InK A B x := by
  obtain ⟨f0, hf0, hflat⟩ := K4.flat_of_no_interior A B hA.proper.core.nonempty hno
  exact K4.exact_of_flat A B hA hB f0 hf0 hflat
#print axioms K4.exact_of_no_interior

end G3D
