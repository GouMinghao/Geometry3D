import G3D.Proofs.XCPolygon
import G3D.Model.PlaneForms
import G3D.Model.Move

/-! # C13, constructors of the flat types commute with every `T : Xf`

    `Line(point, vector)`, `Line(point, point)`, `Segment(point, point)`, `Segment(point, vector)`,
    `HalfLine(point, point)`, `HalfLine(point, vector)`, `Plane(point, normal)`: the constructor applied to the
    transformed arguments (points by `T.pt`, direction vectors by `T.dir`, normals by `T.nrm`) raises the same
    exception, and otherwise returns exactly the transformed object (`T.line`, `T.seg`, `T.halfline`, `T.plane`).
    `Plane(point, point, point)` and `Plane(point, vector, vector)` compute the normal as a cross product, which
    transforms as a pseudo-vector scaled by `k²`: the result is `XC.planeImg T P` (normal `det σ·k²·σ n`), the same
    plane as `T.plane P` (`eqv`, same membership test, same denotation). -/
namespace G3D
open V3
open XfAux

theorem XC.pt_eq_iff (T : Xf) (hk : 0 < T.k) (a b : V3) : T.pt a = T.pt b ↔ a = b := (T.pt_inj hk).eq_iff

theorem XC.normSq_dir_eq_zero (T : Xf) (hk : 0 < T.k) (v : V3) : normSq (T.dir v) = 0 ↔ normSq v = 0 := by
  rw [normSq_eq_zero, normSq_eq_zero, T.dir_eq_zero hk]

/-! Each constructor is one test followed by a record: the test on the transformed arguments is equivalent to the test
    on the original ones, and the record is the transformed record. -/

/-- `Line(Point, Vector)` -/
theorem XC.line_mk? (T : Xf) (hk : 0 < T.k) (a dv : V3) :
    Line.mk? (T.pt a) (T.dir dv) = (Line.mk? a dv).map T.line := by
  unfold Line.mk?
  rw [apply_ite (Except.map T.line)]
  exact if_congr (T.dir_eq_zero hk dv) rfl rfl

/-- `Line(Point, Point)` -/
theorem XC.line_ofPoints? (T : Xf) (hk : 0 < T.k) (a b : V3) :
    Line.ofPoints? (T.pt a) (T.pt b) = (Line.ofPoints? a b).map T.line := by
  unfold Line.ofPoints?
  rw [Xf.pt_sub]; exact XC.line_mk? T hk a (sub b a)

/-- `Segment(Point, Point)` -/
theorem XC.seg_mk? (T : Xf) (hk : 0 < T.k) (a b : V3) :
    Seg.mk? (T.pt a) (T.pt b) = (Seg.mk? a b).map T.seg := by
  unfold Seg.mk?
  rw [apply_ite (Except.map T.seg)]
  exact if_congr (XC.pt_eq_iff T hk a b) rfl rfl

/-- `Segment(Point, Vector)` -/
theorem XC.seg_ofVec? (T : Xf) (hk : 0 < T.k) (a v : V3) :
    Seg.ofVec? (T.pt a) (T.dir v) = (Seg.ofVec? a v).map T.seg := by
  unfold Seg.ofVec?
  rw [apply_ite (Except.map T.seg), ← T.pt_add_dir]
  exact if_congr (XC.normSq_dir_eq_zero T hk v) rfl rfl

/-- `HalfLine(Point, Point)` -/
theorem XC.halfline_mk? (T : Xf) (hk : 0 < T.k) (a b : V3) :
    HalfLine.mk? (T.pt a) (T.pt b) = (HalfLine.mk? a b).map T.halfline := by
  unfold HalfLine.mk?
  rw [apply_ite (Except.map T.halfline), Xf.pt_sub]
  exact if_congr (XC.pt_eq_iff T hk a b) rfl rfl

/-- `HalfLine(Point, Vector)` -/
theorem XC.halfline_ofVec? (T : Xf) (hk : 0 < T.k) (a v : V3) :
    HalfLine.ofVec? (T.pt a) (T.dir v) = (HalfLine.ofVec? a v).map T.halfline := by
  unfold HalfLine.ofVec?
  rw [apply_ite (Except.map T.halfline)]
  exact if_congr (XC.normSq_dir_eq_zero T hk v) rfl rfl

/-- `Plane(Point, normal Vector)` -/
theorem XC.plane_ofPN (T : Xf) (p n : V3) :
    Plane.ofPN (T.pt p) (T.nrm n) = (Plane.ofPN p n).map T.plane := by
  unfold Plane.ofPN
  rw [apply_ite (Except.map T.plane)]
  exact if_congr (T.s.apply_eq_zero n) rfl rfl

/-- the plane a cross-product constructor stores for transformed arguments: normal `det σ·k²·σ n` -/
def XC.planeImg (T : Xf) (P : Plane) : Plane := ⟨T.pt P.p, XC.cnrm T P.n⟩

/-- `Plane(Point, Point, Point)` -/
theorem XC.plane_ofPoints (T : Xf) (hk : 0 < T.k) (a b c : V3) :
    Plane.ofPoints (T.pt a) (T.pt b) (T.pt c) = (Plane.ofPoints a b c).map (XC.planeImg T) := by
  unfold Plane.ofPoints
  simp only [Xf.pt_sub, XC.cross_dir]
  rw [apply_ite (Except.map (XC.planeImg T))]
  exact if_congr (XC.cnrm_eq_zero T hk _) rfl rfl

/-- `Plane(Point, Vector, Vector)` -/
theorem XC.plane_ofPVV (T : Xf) (hk : 0 < T.k) (u v w : V3) :
    Plane.ofPVV (T.pt u) (T.dir v) (T.dir w) = (Plane.ofPVV u v w).map (XC.planeImg T) := by
  unfold Plane.ofPVV
  simp only [XC.cross_dir]
  rw [apply_ite (Except.map (XC.planeImg T))]
  exact if_congr (XC.cnrm_eq_zero T hk _) rfl rfl

/-- `XC.planeImg T P` passes the same membership test as the transformed plane … -/
theorem XC.planeImg_contains (T : Xf) (hk : 0 < T.k) (P : Plane) (x : V3) :
    (XC.planeImg T P).contains (T.pt x) = P.contains x := XC.plane_contains T hk P.p P.n x

/-- … and IS the transformed plane (`Plane.__eq__`) -/
theorem XC.planeImg_eqv (T : Xf) (hk : 0 < T.k) (P : Plane) : (XC.planeImg T P).eqv (T.plane P) = true := by
  unfold Plane.eqv
  rw [Bool.and_eq_true]
  constructor
  · show (T.plane P).contains (T.pt P.p) = true
    rw [T.plane_contains hk]
    simp [Plane.contains]
  · exact parallel_smul _ _

theorem XC.planeImg_WF (T : Xf) (hk : 0 < T.k) (P : Plane) (h : P.WF) : (XC.planeImg T P).WF :=
  fun h' => h ((XC.cnrm_eq_zero T hk P.n).mp h')

/-- same denotation as the transformed plane -/
theorem XC.planeImg_den (T : Xf) (hk : 0 < T.k) (P : Plane) (x : V3) :
    (XC.planeImg T P).den (T.pt x) ↔ P.den x := by
  rw [← Plane.contains_iff, ← Plane.contains_iff, XC.planeImg_contains T hk]

#print axioms XC.line_mk?
#print axioms XC.seg_mk?
#print axioms XC.halfline_ofVec?
#print axioms XC.plane_ofPN
#print axioms XC.plane_ofPoints
#print axioms XC.planeImg_eqv
end G3D
