import G3D.Proofs.Measure
import G3D.Proofs.Clip2
import Mathlib.Algebra.BigOperators.Group.List.Lemmas

/-! C06, volume: discrete divergence theorem for a closed polyhedral surface given by vertex cycles. -/
namespace G3D
open V3

/-- twice the vector area of a vertex cycle -/
def vecArea2 (l : List V3) : V3 := vsum ((closedPairs l).map (fun e => cross e.1 e.2))

def dirEdges (fs : List (List V3)) : List (V3 × V3) := fs.flatMap closedPairs

/-- every directed edge occurs as often as its reverse (each edge is shared by two faces with opposite
    orientation) -/
def ClosedSurface (fs : List (List V3)) : Prop := List.Perm (dirEdges fs) ((dirEdges fs).map Prod.swap)

theorem vsum_append (a b : List V3) : vsum (a ++ b) = add (vsum a) (vsum b) := by
  induction a with
  | nil => simp [vsum_nil]; apply V3.ext' <;> simp [add, zero]
  | cons x a ih => rw [List.cons_append, vsum_cons, vsum_cons, ih]; apply V3.ext' <;> simp only [add] <;> ring

theorem vsum_perm {a b : List V3} (h : List.Perm a b) : vsum a = vsum b := by
  apply V3.ext' <;> simp only [vsum]
  · exact (h.map V3.x).sum_eq
  · exact (h.map V3.y).sum_eq
  · exact (h.map V3.z).sum_eq

theorem vsum_map_neg (l : List V3) : vsum (l.map neg) = neg (vsum l) := by
  induction l with
  | nil => simp [vsum_nil]; apply V3.ext' <;> simp [neg, zero]
  | cons a l ih => rw [List.map_cons, vsum_cons, vsum_cons, ih]; apply V3.ext' <;> simp only [add, neg] <;> ring

theorem vsum_flatMap (fs : List (List V3)) (g : V3 × V3 → V3) :
    vsum ((dirEdges fs).map g) = vsum (fs.map (fun l => vsum ((closedPairs l).map g))) := by
  induction fs with
  | nil => simp [dirEdges, vsum_nil]
  | cons f fs ih =>
    simp only [dirEdges, List.flatMap_cons, List.map_append, List.map_cons] at ih ⊢
    rw [vsum_append, vsum_cons, ih]

/-- the vector areas of the faces of a closed surface sum to zero -/
theorem closed_vecArea_zero (fs : List (List V3)) (hc : ClosedSurface fs) : vsum (fs.map vecArea2) = zero := by
  have h1 : vsum (fs.map vecArea2) = vsum ((dirEdges fs).map (fun e => cross e.1 e.2)) :=
    (vsum_flatMap fs _).symm
  have h2 : vsum ((dirEdges fs).map (fun e => cross e.1 e.2)) =
      vsum (((dirEdges fs).map Prod.swap).map (fun e => cross e.1 e.2)) := vsum_perm (hc.map _)
  have h3 : ((dirEdges fs).map Prod.swap).map (fun e => cross e.1 e.2) =
      ((dirEdges fs).map (fun e => cross e.1 e.2)).map neg := by
    rw [List.map_map, List.map_map]
    apply List.map_congr_left
    intro e _
    simp only [Function.comp, Prod.swap]
    rw [cross_anticomm]
  rw [h3, vsum_map_neg] at h2
  rw [h1]
  set S := vsum ((dirEdges fs).map (fun e => cross e.1 e.2)) with hS
  have hx := congrArg V3.x h2; have hy := congrArg V3.y h2; have hz := congrArg V3.z h2
  simp only [neg] at hx hy hz
  apply V3.ext' <;> simp only [zero] <;> linarith

/-- six times the signed volume seen from a reference point `q`, with one anchor point per face -/
def vol6 (fs : List (List V3)) (q : V3) : Rat :=
  (fs.map (fun l => dot (sub (l.headD zero) q) (vecArea2 l))).sum

/-- C06 (volume): the surface-integral volume of a closed surface does not depend on the reference
    point; in particular the code's apex (the vertex centroid) may be replaced by any point -/
theorem vol6_ref_independent (fs : List (List V3)) (hc : ClosedSurface fs) (q q' : V3) :
    vol6 fs q = vol6 fs q' := by
  have key : ∀ (gs : List (List V3)), vol6 gs q - vol6 gs q' = dot (sub q' q) (vsum (gs.map vecArea2)) := by
    intro gs
    induction gs with
    | nil => simp [vol6, vsum_nil, dot, zero]
    | cons g gs ih =>
      simp only [vol6, List.map_cons, List.sum_cons, vsum_cons] at ih ⊢
      have : dot (sub q' q) (add (vecArea2 g) (vsum (gs.map vecArea2))) =
          dot (sub q' q) (vecArea2 g) + dot (sub q' q) (vsum (gs.map vecArea2)) := by
        simp only [dot, add]; ring
      rw [this, ← ih]
      simp only [dot, sub]; ring
  have := key fs
  rw [closed_vecArea_zero fs hc] at this
  have hz : dot (sub q' q) zero = 0 := by simp [dot, zero]
  rw [hz] at this
  linarith
#print axioms closed_vecArea_zero
#print axioms vol6_ref_independent

/-! ### one face: the code's `h·A/3` is the cone term of the surface integral -/
theorem vsum_map_sub (l : List (V3 × V3)) (f g : V3 × V3 → V3) :
    vsum (l.map (fun e => sub (f e) (g e))) = sub (vsum (l.map f)) (vsum (l.map g)) := by
  induction l with
  | nil => simp [vsum_nil]; apply V3.ext' <;> simp [sub, zero]
  | cons e es ih =>
    simp only [List.map_cons, vsum_cons, ih]; apply V3.ext' <;> simp only [add, sub] <;> ring

/-- vector telescoping: the fan of cross products about any centre sums to the vector area -/
theorem vec_fan (c : V3) (l : List V3) :
    vsum ((closedPairs l).map (fun e => cross (sub e.1 c) (sub e.2 c))) = vecArea2 l := by
  have hterm : ∀ e : V3 × V3, cross (sub e.1 c) (sub e.2 c) = sub (cross e.1 e.2) (cross c (sub e.2 e.1)) := by
    intro e; apply V3.ext' <;> simp only [cross, sub] <;> ring
  have h1 : (closedPairs l).map (fun e => cross (sub e.1 c) (sub e.2 c)) =
      (closedPairs l).map (fun e => sub (cross e.1 e.2) (cross c (sub e.2 e.1))) :=
    List.map_congr_left (fun e _ => hterm e)
  rw [h1, vsum_map_sub]
  have h2 : vsum ((closedPairs l).map (fun e => cross c (sub e.2 e.1))) =
      cross c (vsum ((closedPairs l).map (fun e => sub e.2 e.1))) := by
    rw [cross_vsum, List.map_map]; rfl
  rw [h2, closed_diff_sum]
  unfold vecArea2
  apply V3.ext' <;> simp [sub, cross, zero]

theorem cross_n_vsum_zero (n : V3) (l : List V3) (h : ∀ v ∈ l, cross n v = zero) : cross n (vsum l) = zero := by
  rw [cross_vsum]
  have : l.map (cross n) = l.map (fun _ => zero) := List.map_congr_left (fun v hv => h v hv)
  rw [this]
  clear this h
  induction l with
  | nil => simp [vsum_nil]
  | cons a l ih => rw [List.map_cons, vsum_cons, ih]; apply V3.ext' <;> simp [add, zero]

/-- the vector area of a coplanar cycle is a multiple of the plane normal -/
theorem vecArea2_parallel (n pl : V3) (hn : n ≠ zero) (l : List V3)
    (hpl : ∀ p ∈ l, inPlane n pl p = true) :
    vecArea2 l = smul (dot n (vecArea2 l) / normSq n) n := by
  cases l with
  | nil =>
    simp only [vecArea2, closedPairs, List.map_nil, vsum_nil]
    apply V3.ext' <;> simp [smul, zero, dot]
  | cons c rest =>
    have hc := hpl c (by simp)
    have hz : cross n (vecArea2 (c :: rest)) = zero := by
      rw [← vec_fan c (c :: rest)]
      apply cross_n_vsum_zero
      intro v hv
      obtain ⟨e, he, rfl⟩ := List.mem_map.mp hv
      have hm := closedPairs_mem (c :: rest) e he
      exact cross_cross_perp (inPlane_diff hc (hpl e.1 hm.1)) (inPlane_diff hc (hpl e.2 hm.2))
    rw [dot_comm n]
    exact eq_smul_of_cross_eq_zero hn (cross_eq_zero_comm hz)

theorem absQ_mul_nonneg (a k : Rat) (hk : 0 ≤ k) : absQ a * k = absQ (a * k) := by
  unfold absQ
  by_cases ha : a < 0
  · rw [if_pos ha]
    rcases eq_or_lt_of_le hk with h0 | hpos
    · rw [← h0]; simp
    · have : a * k < 0 := mul_neg_of_neg_of_pos ha hpos
      rw [if_pos this]; ring
  · rw [if_neg ha]
    have : ¬ a * k < 0 := not_lt.mpr (mul_nonneg (not_lt.mp ha) hk)
    rw [if_neg this]

/-- per face: `heightNum · areaNum / (n·n) = |(apex - p0) . vecArea2|` -/
theorem pyramid_term (n pl : V3) (p0 p1 p2 : V3) (rest : List V3)
    (hpl : ∀ p ∈ p0 :: p1 :: p2 :: rest, inPlane n pl p = true)
    (htp : triplesPos n (p0 :: p1 :: p2 :: rest)) (apex : V3) :
    absQ (dot (sub apex p0) n) *
        ((closedPairs (p0 :: p1 :: p2 :: rest)).map
          (fun e => triNum n (meanV (p0 :: p1 :: p2 :: rest)) e.1 e.2)).sum / normSq n =
      absQ (dot (sub apex p0) (vecArea2 (p0 :: p1 :: p2 :: rest))) := by
  have hn : n ≠ zero := by
    intro h; have := htp.1 p1 p2 (by simp); rw [h] at this; simp [orient, dot, zero] at this
  have hN := normSq_pos hn
  rw [polygon_area_shoelace n pl p0 p1 p2 rest hpl htp]
  have harea : 0 ≤ dot n (vsum ((closedPairs (p0 :: p1 :: p2 :: rest)).map (fun e => cross e.1 e.2))) := by
    rw [← polygon_area_shoelace n pl p0 p1 p2 rest hpl htp]
    apply List.sum_nonneg
    intro x hx
    obtain ⟨e, _, rfl⟩ := List.mem_map.mp hx
    unfold triNum absQ; split <;> linarith
  have hpar := vecArea2_parallel n pl hn (p0 :: p1 :: p2 :: rest) hpl
  set A := vecArea2 (p0 :: p1 :: p2 :: rest) with hA
  have hA' : vsum ((closedPairs (p0 :: p1 :: p2 :: rest)).map (fun e => cross e.1 e.2)) = A := rfl
  rw [hA'] at harea ⊢
  set k := dot n A / normSq n with hk
  have hk0 : 0 ≤ k := div_nonneg harea (le_of_lt hN)
  have e1 : dot (sub apex p0) A = dot (sub apex p0) n * k := by
    conv_lhs => rw [hpar]
    simp only [dot, smul]; ring
  rw [e1, ← absQ_mul_nonneg _ _ hk0, hk, mul_div_assoc]
#print axioms pyramid_term
end G3D
