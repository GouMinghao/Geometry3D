import G3D.Proofs.Clip
import G3D.Model.InterBody

/-! Kernel K1, part 2: the edge loop of `inter_line_convexpolygon`. -/
namespace G3D
open V3

theorem interLineSeg_shape (l : Line) (s : Seg) (o : Option Geo) (h : interLineSeg l s = .ok o) :
    o = none ∨ (∃ q, o = some (.point q)) ∨ (o = some (.seg s) ∧ l.eqv s.line = true) := by
  unfold interLineSeg at h
  cases hr : interLineLine l s.line with
  | error e => rw [hr] at h; cases h
  | ok r =>
    rw [hr] at h
    rcases interLineLine_shape l s.line r hr with rfl | ⟨q, rfl⟩ | ⟨rfl, heq⟩
    · cases h; exact Or.inl rfl
    · simp only [interPointSeg] at h
      cases h
      by_cases hc : s.contains q = true
      · rw [if_pos hc]; exact Or.inr (Or.inl ⟨q, rfl⟩)
      · rw [if_neg hc]; exact Or.inl rfl
    · cases h; exact Or.inr (Or.inr ⟨rfl, heq⟩)

/-- what the edge loop returns -/
theorem lineEdgesLoop_spec (l : Line) (hl : l.WF) : ∀ (ss : List Seg) (acc : List V3), (∀ s ∈ ss, s.WF) →
    (∃ s0 ∈ ss, interLineSeg l s0 = .ok (some (.seg s0)) ∧ l.eqv s0.line = true ∧ lineEdgesLoop l ss acc = seg? s0) ∨
    ((∀ s ∈ ss, interLineSeg l s ≠ .ok (some (.seg s))) ∧
      ∃ acc', lineEdgesLoop l ss acc = ofPoints acc' ∧
        (∀ q, q ∈ acc' ↔ (q ∈ acc ∨ ∃ s ∈ ss, interLineSeg l s = .ok (some (.point q)))) ∧
        (acc.Nodup → acc'.Nodup)) := by
  intro ss
  induction ss with
  | nil =>
    intro acc _
    right
    exact ⟨by simp, acc, rfl, by simp, id⟩
  | cons s ss ih =>
    intro acc hw
    have hsw : s.WF := hw s (by simp)
    have hssw : ∀ s' ∈ ss, s'.WF := fun s' h => hw s' (by simp [h])
    obtain ⟨o, ho, _, _⟩ := interLineSeg_exact l s hl hsw
    -- unless the line runs along `s`, the loop goes on with an accumulator that has gained the point hit, if any
    have hstep : (o = some (.seg s) ∧ l.eqv s.line = true) ∨
        ∃ acc₁, lineEdgesLoop l (s :: ss) acc = lineEdgesLoop l ss acc₁ ∧ o ≠ some (.seg s) ∧
          (∀ q, q ∈ acc₁ ↔ q ∈ acc ∨ o = some (.point q)) ∧ (acc.Nodup → acc₁.Nodup) := by
      rcases interLineSeg_shape l s o ho with rfl | ⟨q, rfl⟩ | h
      · exact Or.inr ⟨acc, by simp only [lineEdgesLoop, ho], by simp, by simp, id⟩
      · exact Or.inr ⟨addNew acc q, by simp only [lineEdgesLoop, ho], by simp,
          fun q' => by simp [mem_addNew, eq_comm], nodup_addNew acc q⟩
      · exact Or.inl h
    rcases hstep with ⟨rfl, heq⟩ | ⟨acc₁, hstep, hns, hm₁, hnd₁⟩
    · -- the line runs along this edge: early return
      exact Or.inl ⟨s, by simp, ho, heq, by simp only [lineEdgesLoop, ho]⟩
    have hos : ∀ g, interLineSeg l s = .ok (some g) ↔ o = some g := fun g => by rw [ho]; simp
    rcases ih acc₁ hssw with ⟨s0, hs0, h1, h2, h3⟩ | ⟨hno, acc', h1, h2, h3⟩
    · exact Or.inl ⟨s0, by simp [hs0], h1, h2, by rw [hstep]; exact h3⟩
    · refine Or.inr ⟨?_, acc', by rw [hstep]; exact h1, ?_, fun hnd => h3 (hnd₁ hnd)⟩
      · intro s' hs'
        rcases List.mem_cons.mp hs' with rfl | hs'
        · rwa [Ne, hos]
        · exact hno s' hs'
      · intro q
        simp only [h2 q, hm₁ q, List.mem_cons, exists_eq_or_imp, hos, or_assoc]
#print axioms lineEdgesLoop_spec

/-! ### in-plane facts -/
theorem cross_eq_zero_comm {u v : V3} (h : cross u v = zero) : cross v u = zero := by
  rw [cross_anticomm, h]; rfl

theorem cross_cross_expand (m u w : V3) : cross m (cross u w) = sub (smul (dot m w) u) (smul (dot m u) w) := by
  apply V3.ext' <;> simp only [cross, sub, smul, dot] <;> ring

theorem cross_cross_perp {m u w : V3} (hu : dot m u = 0) (hw : dot m w = 0) : cross m (cross u w) = zero := by
  rw [cross_cross_expand, hu, hw]; apply V3.ext' <;> simp only [sub, smul, zero] <;> ring

theorem coplanar_cross_zero {n u v : V3} (hn : n ≠ zero) (hu : dot n u = 0) (hv : dot n v = 0)
    (hw : dot n (cross u v) = 0) : cross u v = zero := by
  -- `u × v` is both parallel and orthogonal to `n`
  have h := lagrange n (cross u v)
  rw [cross_cross_perp hu hv, hw, normSq_eq_zero.mpr rfl] at h
  exact normSq_eq_zero.mp ((mul_eq_zero.mp (by linarith only [h] : normSq n * normSq (cross u v) = 0)).resolve_left
    (ne_of_gt (normSq_pos hn)))

/-- in the plane, `orient n a b x = 0` puts `x` on the carrier line of `(a, b)` -/
theorem on_carrier_of_orient_zero {n pl a b x : V3} (hn : n ≠ zero) (hab : a ≠ b)
    (ha : inPlane n pl a = true) (hb : inPlane n pl b = true) (hx : inPlane n pl x = true)
    (h0 : orient n a b x = 0) : ∃ u : Rat, x = add a (smul u (sub b a)) := by
  have hd : sub b a ≠ zero := fun h => hab (sub_eq_zero_iff.mp h).symm
  have hc : cross (sub x a) (sub b a) = zero :=
    cross_eq_zero_comm (coplanar_cross_zero hn (inPlane_diff ha hb) (inPlane_diff ha hx) h0)
  exact ⟨_, by rw [← eq_smul_of_cross_eq_zero hd hc, add_sub_same]⟩

theorem orient_between_zero (n a b x : V3) (h : Between a b x) : orient n a b x = 0 := by
  obtain ⟨t, _, _, rfl⟩ := h
  simp only [orient, dot, cross, sub, add, smul]; ring

theorem orient_pt (n a b sv dv : V3) (t : Rat) :
    orient n a b (pt sv dv t) = orient n a b sv + dot n (cross (sub b a) dv) * t := by
  simp only [orient, pt, dot, cross, sub, add, smul]; ring

/-- the constraints `0 ≤ α + β t` that the edge tests of a vertex cycle put on the parameter of the line `c + t d` -/
def cycleCons (n : V3) (pts : List V3) (c d : V3) : List (Rat × Rat) :=
  (closedPairs pts).map (fun e => (orient n e.1 e.2 c, dot n (cross (sub e.2 e.1) d)))

theorem feas_cycleCons {n : V3} {pts : List V3} {c d : V3} {t : Rat} :
    Feas (cycleCons n pts c d) t ↔ ∀ e ∈ closedPairs pts, 0 ≤ orient n e.1 e.2 (pt c d t) := by
  simp only [Feas, cycleCons, List.forall_mem_map, orient_pt]

theorem inPlane_pt {n pl sv dv : V3} (hs : inPlane n pl sv = true) (hd : dot n dv = 0) (t : Rat) :
    inPlane n pl (pt sv dv t) = true := by
  simp only [inPlane, beq_iff_eq] at hs ⊢
  have : dot n (sub (pt sv dv t) pl) = dot n (sub sv pl) + t * dot n dv := by
    simp only [pt, dot, sub, add, smul]; ring
  rw [this, hs, hd]; ring

theorem closedPairs_mem : ∀ (l : List V3) (e : V3 × V3), e ∈ closedPairs l → e.1 ∈ l ∧ e.2 ∈ l := by
  intro l e he
  cases l with
  | nil => cases he
  | cons p ps =>
    have hs := (consec_sublist _ e.1 e.2 he).subset
    have hsub : p :: ps ++ [p] ⊆ p :: ps :=
      List.append_subset.mpr ⟨List.Subset.refl _, by simp⟩
    exact ⟨hsub (hs (List.mem_cons_self ..)), hsub (hs (List.mem_cons_of_mem _ (List.mem_cons_self ..)))⟩

/-- the two endpoints of an edge of a positively oriented cycle with ≥ 3 vertices differ -/
theorem edge_ne (n : V3) (p0 p1 p2 : V3) (rest : List V3) (htp : triplesPos n (p0 :: p1 :: p2 :: rest))
    (e : V3 × V3) (he : e ∈ closedPairs (p0 :: p1 :: p2 :: rest)) : e.1 ≠ e.2 := by
  intro heq
  -- some vertex is different from e.1 (= e.2); it gives a strictly positive orientation, but orient n a a v = 0
  have hpos := closed_edges_pos n _ htp e he
  have h01 : p0 ≠ p1 := by
    intro h; have := htp.1 p1 p2 (by simp); rw [h, orient_same] at this; exact lt_irrefl _ this
  have hv : ∃ v ∈ p0 :: p1 :: p2 :: rest, v ≠ e.1 := by
    by_cases h : p0 = e.1
    · exact ⟨p1, by simp, fun h' => h01 (h.trans h'.symm)⟩
    · exact ⟨p0, by simp, h⟩
  obtain ⟨v, hv, hne⟩ := hv
  rcases hpos v hv with h | h | h
  · rw [heq, orient_same] at h; exact lt_irrefl _ h
  · exact hne h
  · exact hne (h.trans heq.symm)
#print axioms on_carrier_of_orient_zero
#print axioms edge_ne
end G3D
