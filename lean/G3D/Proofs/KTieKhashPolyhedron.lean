import G3D.Extracted.Khash
import G3D.Proofs.KhashLemmas
/-! # khash, `ConvexPolyhedron.__hash__`, `_get_polygon_hash_sum`, `_get_point_hash_sum`: the STRUCTURE of the hashed tuple, for every
    reading of the comparisons  (C08)
    `G3D.Extracted.impl_hash_*` are regenerated on every run (tools/extract_khash.py, engine tools/khash_engine.py on tools/kernels_engine.py):
    the REAL `__hash__` bodies are run on symbolic numbers with `hash` / `round` / `get_sig_figures` / `get_eps` shimmed; `H` is the
    uninterpreted hash of a tuple, `rnd` / `rndI` the uninterpreted `round(., get_sig_figures())` on numbers / integers, `sig` / `neg`
    the uninterpreted answers to `abs(c) > get_eps()` / `c < 0`.  Every statement holds FOR ALL H, rnd, rndI.  Each kernel has its own
    `section` (marker `impl_<kernel>_EXTRACTION_FAILED` when its walk fails).
    The polyhedron is walked in two shapes: 4 triangular faces / 4 vertices (tetrahedron) and 1 quadrilateral + 4 triangular faces /
    5 vertices (square pyramid); the object is assembled from the attributes `convex_polygons`, `point_set` the bodies read (the
    constructor is not run; a tuple stands in for the set `point_set`, whose iteration order is arbitrary anyway — the vertex sum is
    order-independent, `Polyhedron.hashTupleAbs_eq_of_sameB`).  The face points and the vertices are independent symbolic triples:
    nothing is assumed about their relation.  The hash delegates to `ConvexPolygon.__hash__` and `Point.__hash__`: the extracted
    text calls `impl_hash_ConvexPolygon3/4` and `impl_hash_Point`.  End-to-end statements: `KTieKhashPolyhedronEq`. -/
namespace G3D.KTie.Khash
open G3D G3D.Extracted G3D.KTie

section hash_ConvexPolyhedron_tetra
/-- the extracted polygon hash on a vertex LIST (only triangles occur in this shape) -/
noncomputable def implFace3 (H : HFun) (rnd : ℝ → ℝ) (rndI : Int → Int) (sig neg : ℝ → Bool) (pts : List RVec) (pp pn : RVec) : Int :=
  match pts with
  | [a, b, c] => impl_hash_ConvexPolygon3 H rnd rndI sig neg a b c pp pn
  | _ => 0

/-- `_get_polygon_hash_sum`: the sum of the EXTRACTED polygon hashes over the face list -/
theorem polygonHashSum_tetra_tie (H : HFun) (rnd : ℝ → ℝ) (rndI : Int → Int) (sig neg : ℝ → Bool)
    (f0a f0b f0c f0p f0n f1a f1b f1c f1p f1n f2a f2b f2c f2p f2n f3a f3b f3c f3p f3n v0 v1 v2 v3 : RVec) :
    impl_polygonHashSum_ConvexPolyhedron_tetra H rnd rndI sig neg f0a f0b f0c f0p f0n f1a f1b f1c f1p f1n f2a f2b f2c f2p f2n
        f3a f3b f3c f3p f3n v0 v1 v2 v3
      = ([([f0a, f0b, f0c], f0p, f0n), ([f1a, f1b, f1c], f1p, f1n), ([f2a, f2b, f2c], f2p, f2n), ([f3a, f3b, f3c], f3p, f3n)].map
          (fun f => implFace3 H rnd rndI sig neg f.1 f.2.1 f.2.2)).sum := by
  simp only [impl_polygonHashSum_ConvexPolyhedron_tetra, implFace3, List.map, List.sum_eq_foldl, List.foldl]

/-- `_get_point_hash_sum`: the sum of the EXTRACTED point hashes over the vertex list -/
theorem pointHashSum_tetra_tie (H : HFun) (rnd : ℝ → ℝ)
    (f0a f0b f0c f0p f0n f1a f1b f1c f1p f1n f2a f2b f2c f2p f2n f3a f3b f3c f3p f3n v0 v1 v2 v3 : RVec) :
    impl_pointHashSum_ConvexPolyhedron_tetra H rnd f0a f0b f0c f0p f0n f1a f1b f1c f1p f1n f2a f2b f2c f2p f2n
        f3a f3b f3c f3p f3n v0 v1 v2 v3 = ([v0, v1, v2, v3].map (impl_hash_Point H rnd)).sum := by
  simp only [impl_pointHashSum_ConvexPolyhedron_tetra, List.map, List.sum_eq_foldl, List.foldl]

/-- **the extracted tuple is `("ConvexPolyhedron", round(Σ_faces hash(face)), round(Σ_vertices hash(vertex)))`** with the extracted
    polygon and point hashes; for EVERY reading of the comparisons -/
theorem hash_ConvexPolyhedron_tetra_shape (H : HFun) (rnd : ℝ → ℝ) (rndI : Int → Int) (sig neg : ℝ → Bool)
    (f0a f0b f0c f0p f0n f1a f1b f1c f1p f1n f2a f2b f2c f2p f2n f3a f3b f3c f3p f3n v0 v1 v2 v3 : RVec) :
    impl_hash_ConvexPolyhedron_tetra H rnd rndI sig neg f0a f0b f0c f0p f0n f1a f1b f1c f1p f1n f2a f2b f2c f2p f2n
        f3a f3b f3c f3p f3n v0 v1 v2 v3
      = polyhedronHashAbs H rndI (impl_hash_Point H rnd) (implFace3 H rnd rndI sig neg)
          [([f0a, f0b, f0c], f0p, f0n), ([f1a, f1b, f1c], f1p, f1n), ([f2a, f2b, f2c], f2p, f2n), ([f3a, f3b, f3c], f3p, f3n)]
          [v0, v1, v2, v3] := by
  simp only [impl_hash_ConvexPolyhedron_tetra, polyhedronHashAbs, implFace3, List.map, List.sum_eq_foldl, List.foldl]

theorem hash_ConvexPolyhedron_tetra_paths :
    impl_hash_ConvexPolyhedron_tetra_oracles = [("sig", "abs(R) > eps"), ("neg", "R < 0")] ∧
    impl_hash_ConvexPolyhedron_tetra_paths = [[]] ∧ impl_polygonHashSum_ConvexPolyhedron_tetra_paths = [[]] ∧
    impl_pointHashSum_ConvexPolyhedron_tetra_oracles = [] ∧ impl_pointHashSum_ConvexPolyhedron_tetra_paths = [[]] := ⟨rfl, rfl, rfl, rfl, rfl⟩

/-- (C19) every `round` of the body takes its digit count from the LIVE `get_sig_figures()` (offset 0) -/
theorem hash_ConvexPolyhedron_tetra_roundings :
    impl_hash_ConvexPolyhedron_tetra_roundings = [0] ∧ impl_polygonHashSum_ConvexPolyhedron_tetra_roundings = [] ∧
    impl_pointHashSum_ConvexPolyhedron_tetra_roundings = [] := ⟨rfl, rfl, rfl⟩
end hash_ConvexPolyhedron_tetra

section hash_ConvexPolyhedron_pyramid
/-- the extracted polygon hash on a vertex LIST (triangles and quadrilaterals) -/
noncomputable def implFace34 (H : HFun) (rnd : ℝ → ℝ) (rndI : Int → Int) (sig neg : ℝ → Bool) (pts : List RVec) (pp pn : RVec) : Int :=
  match pts with
  | [a, b, c] => impl_hash_ConvexPolygon3 H rnd rndI sig neg a b c pp pn
  | [a, b, c, d] => impl_hash_ConvexPolygon4 H rnd rndI sig neg a b c d pp pn
  | _ => 0

theorem hash_ConvexPolyhedron_pyramid_shape (H : HFun) (rnd : ℝ → ℝ) (rndI : Int → Int) (sig neg : ℝ → Bool)
    (f0a f0b f0c f0d f0p f0n f1a f1b f1c f1p f1n f2a f2b f2c f2p f2n f3a f3b f3c f3p f3n f4a f4b f4c f4p f4n v0 v1 v2 v3 v4 : RVec) :
    impl_hash_ConvexPolyhedron_pyramid H rnd rndI sig neg f0a f0b f0c f0d f0p f0n f1a f1b f1c f1p f1n f2a f2b f2c f2p f2n
        f3a f3b f3c f3p f3n f4a f4b f4c f4p f4n v0 v1 v2 v3 v4
      = polyhedronHashAbs H rndI (impl_hash_Point H rnd) (implFace34 H rnd rndI sig neg)
          [([f0a, f0b, f0c, f0d], f0p, f0n), ([f1a, f1b, f1c], f1p, f1n), ([f2a, f2b, f2c], f2p, f2n), ([f3a, f3b, f3c], f3p, f3n),
           ([f4a, f4b, f4c], f4p, f4n)] [v0, v1, v2, v3, v4] := by
  simp only [impl_hash_ConvexPolyhedron_pyramid, polyhedronHashAbs, implFace34, List.map, List.sum_eq_foldl, List.foldl]

theorem hash_ConvexPolyhedron_pyramid_paths :
    impl_hash_ConvexPolyhedron_pyramid_oracles = [("sig", "abs(R) > eps"), ("neg", "R < 0")] ∧
    impl_hash_ConvexPolyhedron_pyramid_paths = [[]] := ⟨rfl, rfl⟩

/-- (C19) every `round` of the body takes its digit count from the LIVE `get_sig_figures()` (offset 0) -/
theorem hash_ConvexPolyhedron_pyramid_roundings : impl_hash_ConvexPolyhedron_pyramid_roundings = [0] := rfl
end hash_ConvexPolyhedron_pyramid

#print axioms hash_ConvexPolyhedron_tetra_shape
#print axioms hash_ConvexPolyhedron_pyramid_shape
end G3D.KTie.Khash
