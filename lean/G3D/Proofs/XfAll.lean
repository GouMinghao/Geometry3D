import G3D.Proofs.Xf2
import G3D.Proofs.ExactAll

/-! # C13 for intersections with composite operands: a transformed operand denotes the transformed set and stays
    admissible; with exactness this gives equivariance (`Props.C13.intersection_equivariant_admissible`) -/
namespace G3D
open V3

/-- a symmetry / translation / scaling applied to an operand (polygons keep their vertex order with the pseudo-vector
    normal; polyhedra carry outward normals, so their face cycles are reversed under reflections) -/
def Xf.obj (T : Xf) : Obj → Obj
  | .flat g => .flat (T.geo g)
  | .polygon P => .polygon (T.polygon P)
  | .polyhedron B => .polyhedron (T.body B)

theorem Xf.objDen (T : Xf) (hk : 0 < T.k) (a : Obj) (x : V3) : ObjDen (T.obj a) (T.pt x) ↔ ObjDen a x := by
  cases a with
  | flat g => exact T.den_geo hk g x
  | polygon P => exact T.InHull_pts hk P.pts x
  | polyhedron B => exact T.InHull_pts hk B.verts x

/-- flats and polygons stay admissible -/
theorem Xf.opOK (T : Xf) (hk : 0 < T.k) (a : Obj) (ha : OpOK a) (hnb : NotBothBodies a a) : OpOK (T.obj a) := by
  cases a with
  | flat g => exact T.geo_WF hk g ha
  | polygon P => exact T.polygon_valid hk P ha
  | polyhedron _ => exact hnb.elim

theorem Xf.notBoth (T : Xf) (a b : Obj) (h : NotBothBodies a b) : NotBothBodies (T.obj a) (T.obj b) := by
  cases a <;> cases b <;> first | trivial | exact h

end G3D
