import G3D.Proofs.BodySoundBase
import G3D.Model.Judge
import G3D.Proofs.Judge
import G3D.Model.ExactHyp

/-! # Decidable forms of the hypotheses of the soundness theorems

    `Polygon.validB` (Model/Judge.lean) decides `Polygon.Valid`; `Polyhedron.goodB` (here) decides
    `Polyhedron.Good`.  So the hypotheses of `inter_result_vertices_in_both` / `inter_result_subset` can be
    CHECKED on every concrete operand (e.g. on objects the implementation produced). -/
namespace G3D
open V3

/-- the executable judge decides `Polygon.Valid` -/
theorem Polygon.validB_iff_bs (P : Polygon) : P.validB = true ↔ P.Valid := P.validB_iff

theorem Seg.wfB_iff (s : Seg) : s.wfB = true ↔ s.WF := by
  unfold Seg.wfB Seg.WF
  simp [Bool.and_eq_true, bne_iff_ne]

/-- executable judge for `Polyhedron.Good` -/
def Polyhedron.goodB (B : Polyhedron) : Bool :=
  B.faces.all (·.validB) &&
  B.faces.all (fun f => B.verts.all (fun v => decide (dot (sub v f.center) f.plane.n ≤ 0))) &&
  B.faces.all (fun f => f.plane.contains f.center) &&
  B.faces.all (fun f => f.pts.all (fun v => decide (v ∈ B.verts))) &&
  B.edges.all (·.wfB) &&
  B.edges.all (fun s => decide (s.a ∈ B.verts) && decide (s.b ∈ B.verts))

/-- the executable judge decides `Polyhedron.Good` -/
theorem Polyhedron.goodB_iff (B : Polyhedron) : B.goodB = true ↔ B.Good := by
  unfold Polyhedron.goodB
  simp only [Bool.and_eq_true, List.all_eq_true, decide_eq_true_eq]
  constructor
  · rintro ⟨⟨⟨⟨⟨h1, h2⟩, h3⟩, h4⟩, h5⟩, h6⟩
    exact ⟨fun f hf => (Polygon.validB_iff_bs f).mp (h1 f hf), fun f hf v hv => h2 f hf v hv, h3, h4,
      fun s hs => (Seg.wfB_iff s).mp (h5 s hs), h6⟩
  · intro hg
    exact ⟨⟨⟨⟨⟨fun f hf => (Polygon.validB_iff_bs f).mpr (hg.faceValid f hf), fun f hf v hv => hg.vertsInside f hf v hv⟩,
      hg.centerInPlane⟩, hg.faceVerts⟩, fun s hs => (Seg.wfB_iff s).mpr (hg.edgeWF s hs)⟩, hg.edgeVerts⟩
#print axioms Polyhedron.goodB_iff

instance (P : Polygon) : Decidable P.Valid := decidable_of_iff _ (Polygon.validB_iff_bs P)
instance (B : Polyhedron) : Decidable B.Good := decidable_of_iff _ (Polyhedron.goodB_iff B)

end G3D
