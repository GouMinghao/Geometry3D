import G3D.Extracted.Mmeas
import G3D.Proofs.MeasTieBase
import G3D.Proofs.MeasTiePolygon
/-! # mmeas, the function `volume(arg)` of calc/volume.py  (C06)
    `G3D.Extracted.m_volume_body` / `m_volume` are regenerated on every run by tools/extract_mmeas.py from the BODY of
    `volume`: the `isinstance` chain (Pyramid / ConvexPolyhedron / else `raise ValueError`), the Pyramid branch that
    recomputes the height through `distance(arg.point, arg.convex_polygon.plane)` and multiplies `1 / 3 * height * area`,
    the ConvexPolyhedron branch that sums `volume(pyramid)` over `pyramid_set` by RECURSION.  The recursion is cut at a
    depth `fuel` (`m_volume : ℕ → ..`, `RecursionError` at 0); every theorem holds for EVERY sufficient fuel
    (≥ 1 for a pyramid, ≥ 2 for a polyhedron).
    Imports the tie of `ConvexPolygon.area` (the Python delegates to it); `MeasTieVolumeEq` adds "`volume(x)` equals
    `x.volume()`" from the ties of the two methods. -/
namespace G3D.MeasTie.Volume
open G3D G3D.MeasRt G3D.KTie G3D.Extracted G3D.MeasTie Real

section volume
theorem m_volume_zero (arg : MObj) : m_volume 0 arg = .error "RecursionError" := rfl

theorem m_volume_succ (k : ℕ) (arg : MObj) : m_volume (k + 1) arg = m_volume_body (m_volume k) arg := rfl

/-- **anything that is neither a Pyramid nor a ConvexPolyhedron raises ValueError** -/
theorem m_volume_other (k : ℕ) : m_volume (k + 1) MObj.other = .error "ValueError" := by
  rw [m_volume_succ]
  simp only [m_volume_body, MObj.asPyramid?, MObj.asPolyhedron?]
  rfl

/-- the Pyramid branch: `1 / 3 * distance(point, plane) * area` -/
theorem m_volume_pyramid_real (k : ℕ) (M : MPyramid) :
    m_volume (k + 1) (MObj.pyramid M)
      = .ok (1 / 3 * distPointPlane M.point M.convex_polygon.plane * m_ConvexPolygon_area M.convex_polygon) := by
  rw [m_volume_succ]
  simp only [m_volume_body, MObj.asPyramid?]
  rfl

theorem pyramid_branch_value (f : Polygon) (apex : V3) (h : MeasOK f) :
    1 / 3 * distPointPlane apex.toR (polyToM f).plane * m_ConvexPolygon_area (polyToM f)
      = ((pyramidVolume f apex : ℚ) : ℝ) := by
  have hd : distPointPlane apex.toR (polyToM f).plane = _ := distPointPlane_model f apex h.1
  rw [hd, Polygon.m_ConvexPolygon_area_tie f h, third_height_area _ _ (nn_pos (Polygon.plane_WF f h.1))]
  unfold pyramidVolume
  push_cast
  rfl

/-- **`volume(pyramid)` is the model's exact rational `pyramidVolume`** -/
theorem m_volume_pyramid_tie (k : ℕ) (f : Polygon) (apex : V3) (h : MeasOK f) :
    m_volume (k + 1) (MObj.pyramid (pyrToM (f, apex))) = .ok (((pyramidVolume f apex : ℚ) : ℝ)) :=
  (m_volume_pyramid_real k _).trans (congrArg _ (pyramid_branch_value f apex h))

/-- the ConvexPolyhedron branch: the accumulator loop over `pyramid_set` with the recursive calls -/
theorem m_volume_polyhedron_real (k : ℕ) (M : MPolyhedron) (h : MPyramid → ℝ)
    (hr : ∀ p ∈ M.pyramid_set, m_volume k (MObj.pyramid p) = .ok (h p)) :
    m_volume (k + 1) (MObj.polyhedron M) = .ok ((M.pyramid_set.map h).sum) := by
  rw [m_volume_succ]
  simp only [m_volume_body, MObj.asPyramid?, MObj.asPolyhedron?]
  have := foldlM_add_sum M.pyramid_set (fun p => m_volume k (MObj.pyramid p)) h hr 0
  rw [zero_add] at this
  simp only [bind_pure_comp] at this ⊢
  rw [this]

/-- **`volume(polyhedron)` is the model's exact rational `Polyhedron.volume`**, for every iteration order of `pyramid_set`
    and every recursion allowance ≥ 2 -/
theorem m_volume_polyhedron_tie (k : ℕ) (B : Polyhedron) (hp : ∀ pa ∈ B.pyramids, MeasOK pa.1) (M : MPolyhedron)
    (hs : List.Perm M.pyramid_set (B.pyramids.map pyrToM)) :
    m_volume (k + 2) (MObj.polyhedron M) = .ok (((B.volume : ℚ) : ℝ)) := by
  rw [m_volume_polyhedron_real (k + 1) M _ (fun p _ => m_volume_pyramid_real k p)]
  exact congrArg _ (sum_pyramid_set B hs _ fun pa hpa => pyramid_branch_value pa.1 pa.2 (hp pa hpa))
end volume

#print axioms m_volume_other
#print axioms m_volume_pyramid_real
#print axioms m_volume_pyramid_tie
#print axioms m_volume_polyhedron_real
#print axioms m_volume_polyhedron_tie
end G3D.MeasTie.Volume
