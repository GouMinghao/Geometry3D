import G3D.Proofs.CtorPolyhedron

/-! C07, `ConvexPolyhedron.move` on a `Polyhedron.Valid` body: the call does not raise (Euler's formula assumed in
    the constructor's counting), the receiver after the call and the returned object coincide and are the translate:
    `Valid`, every face is the translate of the face rebuilt from its own vertex cycle (same cycle, plane through the
    first vertex, normal a positive multiple, centre the vertex mean), vertex / edge lists are the translated lists
    of the face vertices / face edges, membership is the translated membership and the volume is unchanged. -/
namespace G3D
open V3

theorem addPt_map (φ : V3 → V3) (hφ : Function.Injective φ) (acc : List V3) (p : V3) :
    addPt (acc.map φ) (φ p) = (addPt acc p).map φ := by
  unfold addPt
  by_cases h : p ∈ acc
  · rw [if_pos h, if_pos (List.mem_map_of_mem h)]
  · have h' : φ p ∉ acc.map φ := by
      intro hm
      obtain ⟨q, hq, hqp⟩ := List.mem_map.mp hm
      exact h (hφ hqp ▸ hq)
    rw [if_neg h, if_neg h']; simp

theorem collectVerts_map (φ : V3 → V3) (hφ : Function.Injective φ) (ψ : Polygon → Polygon) (fs : List Polygon)
    (hψ : ∀ f ∈ fs, (ψ f).pts = f.pts.map φ) : collectVerts (fs.map ψ) = (collectVerts fs).map φ := by
  rw [collectVerts_eq_foldl, collectVerts_eq_foldl, List.flatMap_map, List.flatMap_congr hψ, ← List.map_flatMap,
    List.foldl_map]
  exact List.foldl_hom (List.map φ) (init := []) (fun acc p => addPt_map φ hφ acc p)

/-- the translate of a stored segment (`Segment.move`) -/
def segT (v : V3) (s : Seg) : Seg := (s.move v).1

theorem segT_mk' (v a b : V3) : segT v (Seg.mk' a b) = Seg.mk' (add a v) (add b v) := rfl

/-- `σ` rebuilds a segment on the `φ`-images of its endpoints and `φ` is injective: `Seg.same` cannot tell `σ` from the
    identity, so adding an edge commutes with `σ` -/
theorem addSeg_image {φ : V3 → V3} (hφ : Function.Injective φ) {σ : Seg → Seg}
    (hσ : ∀ s, σ s = Seg.mk' (φ s.a) (φ s.b)) (acc : List Seg) (s : Seg) :
    addSeg (acc.map σ) (σ s) = (addSeg acc s).map σ := by
  have hsame : ∀ x, (σ x).same (σ s) = x.same s := fun x => by
    simp only [hσ, Seg.same, Seg.mk', hφ.beq_eq]
  unfold addSeg
  rw [List.any_map, show (fun x : Seg => x.same (σ s)) ∘ σ = (·.same s) from funext hsame]
  split <;> simp

/-- … hence so does the edge list of faces whose vertex cycles are mapped by `φ` -/
theorem edgesOf_image {φ : V3 → V3} (hφ : Function.Injective φ) {σ : Seg → Seg}
    (hσ : ∀ s, σ s = Seg.mk' (φ s.a) (φ s.b)) (ψ : Polygon → Polygon) (fs : List Polygon)
    (hψ : ∀ f ∈ fs, (ψ f).pts = f.pts.map φ) : edgesOf (fs.map ψ) [] = (edgesOf fs []).map σ := by
  have hsegs : ∀ f ∈ fs, (ψ f).segs = f.segs.map σ := fun f hf => by
    unfold Polygon.segs
    rw [hψ f hf, closedPairs_map, List.map_map, List.map_map]
    exact List.map_congr_left fun e _ => (hσ (Seg.mk' e.1 e.2)).symm
  rw [edgesOf_eq_foldl, edgesOf_eq_foldl, List.flatMap_map, List.flatMap_congr hsegs, ← List.map_flatMap,
    List.foldl_map]
  exact List.foldl_hom (List.map σ) (init := []) (fun acc s => addSeg_image hφ hσ acc s)

theorem edgesOf_map (v : V3) (ψ : Polygon → Polygon) (fs : List Polygon)
    (hψ : ∀ f ∈ fs, (ψ f).pts = f.pts.map (fun p => add p v)) :
    edgesOf (fs.map ψ) [] = (edgesOf fs []).map (segT v) :=
  edgesOf_image (add_injective v) (fun _ => rfl) ψ fs hψ

/-- `ConvexPolygon(f.points)`: the polygon rebuilt from the stored vertex cycle (`f` itself if that raised) -/
def rebuild (f : Polygon) : Polygon :=
  match Polygon.mk? f.pts with
  | .ok Q => Q
  | .error _ => f

/-- everything about the face `cp.move(v)` returns for a valid face `f` -/
theorem moved_face (f : Polygon) (hf : f.Valid) (hcf : G3D.inPlane f.plane.n f.plane.p f.center = true) (v : V3) :
    (f.move v).2 = .ok ((rebuild f).translate v) ∧ ((rebuild f).translate v).Valid ∧
    G3D.inPlane ((rebuild f).translate v).plane.n ((rebuild f).translate v).plane.p
      ((rebuild f).translate v).center = true ∧
    ((rebuild f).translate v).pts = f.pts.map (fun p => add p v) ∧
    ((rebuild f).translate v).center = add (meanV f.pts) v ∧
    ∃ t : Rat, 0 < t ∧ ((rebuild f).translate v).plane.n = smul t f.plane.n ∧
      (∀ x, ((rebuild f).translate v).side (add x v) = t * f.side x) ∧
      (∀ c, dot (sub ((rebuild f).translate v).plane.p (add c v)) ((rebuild f).translate v).plane.n =
        t * (- f.side c)) ∧
      (∀ c, dot (sub (add c v) (((rebuild f).translate v).pts.headD zero)) ((rebuild f).translate v).plane.n =
        t * dot (sub c (f.pts.headD zero)) f.plane.n) := by
  obtain ⟨Q, q0, rest, hp, hQ, hvQ, hQpl, hQc, ⟨t, ht, hQn⟩, hQp⟩ := Polygon.mk?_pts_of_valid f hf false
  simp only [Bool.false_eq_true, if_false] at hQn hQp
  have hreb : rebuild f = Q := by unfold rebuild; rw [hQ]
  have hret : (f.move v).2 = .ok (Q.translate v) := by
    rw [Polygon.move_returned f hf.good v, hQ]; rfl
  have hcQ : G3D.inPlane Q.plane.n Q.plane.p Q.center = true :=
    hvQ.mean_inPlane f.pts (by rw [hp]; simp) (fun p hpm => by rw [hQp]; exact hpm) hQc
  have hq0f : q0 ∈ f.pts := by rw [hp]; simp
  obtain ⟨hside, htest⟩ := side_proportional f Q t hQn hcf hcQ q0 (hf.pts_inPlane _ hq0f)
    (hvQ.pts_inPlane _ (by rw [hQp]; exact hq0f))
  rw [hreb]
  refine ⟨hret, Polygon.translate_valid Q hvQ v, ?_, by simp only [Polygon.translate, hQp],
    by simp only [Polygon.translate, hQc], t, ht, by simp only [Polygon.translate, hQn], ?_, ?_, ?_⟩
  · simpa only [Polygon.translate, G3D.inPlane, sub_add_add] using hcQ
  · intro x
    rw [← hside]
    simp only [Polygon.side, Polygon.translate, sub_add_add]
  · intro c
    have := htest c
    rw [f.side_eq_neg_planeTest hcf] at this
    rw [← this]
    simp only [Polygon.translate, sub_add_add]
  · intro c
    simp only [Polygon.translate, hQp, hp, List.map_cons, List.headD_cons, sub_add_add, hQn]
    simp only [dot, smul]; ring

theorem moved_face_side (f : Polygon) (hf : f.Valid) (hcf : G3D.inPlane f.plane.n f.plane.p f.center = true)
    (v x : V3) : (((rebuild f).translate v).side (add x v) < 0 ↔ f.side x < 0) ∧
      (((rebuild f).translate v).side (add x v) ≤ 0 ↔ f.side x ≤ 0) := by
  obtain ⟨_, _, _, _, _, t, ht, _, hside, _⟩ := moved_face f hf hcf v
  rw [hside, Rat.mul_neg_iff_of_pos_left ht, ← not_lt, ← not_lt, mul_pos_iff_of_pos_left ht]
  exact ⟨Iff.rfl, Iff.rfl⟩

/-- the volume of the pyramid over the moved face with the moved apex -/
theorem moved_pyramidVolume (f : Polygon) (hf : f.Valid) (hcf : G3D.inPlane f.plane.n f.plane.p f.center = true)
    (hctr : ∀ e ∈ closedPairs f.pts, 0 ≤ orient f.plane.n e.1 e.2 f.center) (v c : V3) :
    pyramidVolume ((rebuild f).translate v) (add c v) = pyramidVolume f c := by
  obtain ⟨_, _, _, hpts, hcen, t, ht, hn, _, _, hhead⟩ := moved_face f hf hcf v
  have harea : ((rebuild f).translate v).areaNum = t * f.areaNum :=
    Polygon.areaNum_translate_smul hf hctr v t ht.le hpts hn hcen
  have hheight : pyramidHeightNum ((rebuild f).translate v) (add c v) = t * pyramidHeightNum f c := by
    unfold pyramidHeightNum
    rw [hhead c, mul_comm t, ← absQ_mul_nonneg _ t (le_of_lt ht)]
    exact mul_comm _ _
  have hN : normSq ((rebuild f).translate v).plane.n = t * t * normSq f.plane.n := by
    rw [hn]; simp only [normSq, dot, smul]; ring
  unfold pyramidVolume
  rw [harea, hheight, hN]
  have htt : t * t ≠ 0 := ne_of_gt (mul_pos ht ht)
  have e1 : t * pyramidHeightNum f c * (t * f.areaNum) = t * t * (pyramidHeightNum f c * f.areaNum) := by ring
  have e2 : 6 * (t * t * normSq f.plane.n) = t * t * (6 * normSq f.plane.n) := by ring
  rw [e1, e2, mul_div_mul_left _ _ htt]

/-- the state `ConvexPolyhedron.move(v)` leaves behind (and returns) on a valid body -/
def Polyhedron.moved (B : Polyhedron) (v : V3) : Polyhedron :=
  ⟨B.faces.map (fun f => (rebuild f).translate v),
   (collectVerts B.faces).map (fun p => add p v),
   (edgesOf B.faces []).map (segT v),
   B.faces.map (fun f => ((rebuild f).translate v, add (meanV (collectVerts B.faces)) v)),
   add (meanV (collectVerts B.faces)) v⟩

/-- **C07 for ConvexPolyhedron.**  `move` on a `Valid` body whose face vertices / face edges / faces satisfy Euler's
    formula (ASSUMED, in the constructor's counting) does not raise; receiver-after and returned object are both
    `B.moved v`. -/
theorem Polyhedron.move_valid_ok (B : Polyhedron) (hV : B.Valid)
    (hEuler : ((collectVerts B.faces).length : Int) - (edgesOf B.faces []).length + B.faces.length = 2) (v : V3) :
    B.move v = .ok (B.moved v, B.moved v) := by
  have hfacts : ∀ f ∈ B.faces, _ := fun f hf => moved_face f (hV.faces_valid f hf) (hV.center_in_plane f hf) v
  have hpts : ∀ f ∈ B.faces, ((rebuild f).translate v).pts = f.pts.map (fun p => add p v) :=
    fun f hf => (hfacts f hf).2.2.2.1
  have hverts : collectVerts (B.moved v).faces = (B.moved v).verts :=
    collectVerts_map _ (add_injective v) _ B.faces hpts
  have hedges : edgesOf (B.moved v).faces [] = (B.moved v).edges := edgesOf_map v _ B.faces hpts
  have hc : meanV (B.moved v).verts = (B.moved v).center := meanV_translate v _ hV.collectVerts_ne_nil
  refine (Polyhedron.move_ok_iff B v _ _).mpr ⟨(B.moved v).faces, (B.moved v).edges,
    Forall₂.map_self _ _ (fun f hf => (hfacts f hf).1), ?_, ?_, ?_, ?_, ?_, rfl⟩
  · rw [← hedges]
    exact collectEdges_of_valid _ (List.forall_mem_map.mpr fun f hf => (hfacts f hf).2.1)
  · rw [hverts]
    exact fun h0 => hV.collectVerts_ne_nil (List.map_eq_nil_iff.mp h0)
  · -- every moved face looks away from the moved centre, strictly
    rw [hverts, hc]
    refine List.forall_mem_map.mpr fun f hf => ?_
    have hpos : 0 < dot (sub ((rebuild f).translate v).plane.p (B.moved v).center) ((rebuild f).translate v).plane.n := by
      obtain ⟨_, _, _, _, _, t, ht, _, _, hts, _⟩ := hfacts f hf
      rw [show (B.moved v).center = add (meanV (collectVerts B.faces)) v from rfl, hts]
      exact mul_pos ht (neg_pos.mpr (hV.mean_interior f hf))
    exact ⟨not_lt.mpr hpos.le, Plane.not_contains_of_test_ne _ _ hpos.ne'⟩
  · rw [hverts]
    simp only [Polyhedron.moved, List.length_map]
    exact hEuler
  · rw [hverts, hc]
    simp only [Polyhedron.moved, List.map_map, Function.comp_def]
#print axioms Polyhedron.move_valid_ok

/-- the moved body is `Valid`, its faces are the moved faces, membership is translated -/
theorem Polyhedron.moved_valid (B : Polyhedron) (hV : B.Valid) (v : V3) :
    (B.moved v).Valid ∧ (∀ x, (B.moved v).contains (add x v) = B.contains x) ∧
    (∀ f' ∈ (B.moved v).faces, f'.side (B.moved v).center < 0) ∧
    (B.moved v).center = meanV (B.moved v).verts := by
  have hfacts : ∀ f ∈ B.faces, _ := fun f hf => moved_face f (hV.faces_valid f hf) (hV.center_in_plane f hf) v
  have hside := fun f hf => moved_face_side f (hV.faces_valid f hf) (hV.center_in_plane f hf) v
  have hinner : ∀ f' ∈ (B.moved v).faces, f'.side (B.moved v).center < 0 :=
    List.forall_mem_map.mpr fun f hf => ((hside f hf _).1).mpr (hV.mean_interior f hf)
  refine ⟨⟨?_, ?_, ?_, ?_, ?_, ?_, ⟨(B.moved v).center, hinner⟩⟩, ?_, hinner, ?_⟩
  · intro h0
    exact hV.nonempty (List.map_eq_nil_iff.mp h0)
  · exact List.forall_mem_map.mpr fun f hf => (hfacts f hf).2.1
  · exact List.forall_mem_map.mpr fun f hf => (hfacts f hf).2.2.1
  · refine List.forall_mem_map.mpr fun f hf p hp => ?_
    rw [(hfacts f hf).2.2.2.1] at hp
    obtain ⟨q, hq, rfl⟩ := List.mem_map.mp hp
    exact List.mem_map_of_mem ((mem_collectVerts _ q).mpr ⟨f, hf, hq⟩)
  · refine List.forall_mem_map.mpr fun f hf => List.forall_mem_map.mpr fun u hu => ?_
    obtain ⟨g, hg, hug⟩ := (mem_collectVerts _ u).mp hu
    exact (hside f hf u).2.mpr (hV.verts_inside f hf u (hV.pts_sub g hg u hug))
  · have : (B.moved v).faces.map (·.pts) = (B.faces.map (·.pts)).map (List.map fun p => add p v) := by
      simp only [Polyhedron.moved, List.map_map]
      exact List.map_congr_left fun f hf => (hfacts f hf).2.2.2.1
    show ClosedSurface ((B.moved v).faces.map (·.pts))
    rw [this]
    exact hV.closed.map_faces _ (fun e => (add e.1 v, add e.2 v)) (fun _ => rfl)
      fun l => List.Perm.of_eq (closedPairs_map _ l)
  · intro x
    rw [Bool.eq_iff_iff, Polyhedron.contains_iff_side, Polyhedron.contains_iff_side]
    exact List.forall_mem_map.trans (forall₂_congr fun f hf => (hside f hf x).2)
  · exact (meanV_translate v _ hV.collectVerts_ne_nil).symm
#print axioms Polyhedron.moved_valid

/-- volume of the moved body: the sum of the pyramids over the ORIGINAL faces with apex the vertex mean.
    `hctr`: every stored face centre passes the edge tests of its face (true when it is the vertex mean). -/
theorem Polyhedron.moved_volume (B : Polyhedron) (hV : B.Valid)
    (hctr : ∀ f ∈ B.faces, ∀ e ∈ closedPairs f.pts, 0 ≤ orient f.plane.n e.1 e.2 f.center) (v : V3) :
    (B.moved v).volume = (B.faces.map (fun f => pyramidVolume f (meanV (collectVerts B.faces)))).sum := by
  unfold Polyhedron.volume
  simp only [Polyhedron.moved, List.map_map, Function.comp_def]
  congr 1
  apply List.map_congr_left
  intro f hf
  exact moved_pyramidVolume f (hV.faces_valid f hf) (hV.center_in_plane f hf) (hctr f hf) v _

/-- **C07, all in one** for a body in the state the constructor / a previous `move` leaves behind
    (`hverts`, `hcen`, `hpyr`: the cached fields are the ones computed from the faces): `move` succeeds, the
    result is `Valid`, membership is translated, the volume is unchanged, the returned object is the receiver. -/
theorem Polyhedron.move_valid (B : Polyhedron) (hV : B.Valid)
    (hEuler : ((collectVerts B.faces).length : Int) - (edgesOf B.faces []).length + B.faces.length = 2)
    (hcen : B.center = meanV (collectVerts B.faces))
    (hpyr : B.pyramids = B.faces.map (fun f => (f, B.center)))
    (hctr : ∀ f ∈ B.faces, ∀ e ∈ closedPairs f.pts, 0 ≤ orient f.plane.n e.1 e.2 f.center) (v : V3) :
    ∃ B', B.move v = .ok (B', B') ∧ B'.Valid ∧ (∀ x, B'.contains (add x v) = B.contains x) ∧
      B'.volume = B.volume ∧ B'.center = add B.center v ∧
      B'.verts = (collectVerts B.faces).map (fun p => add p v) ∧
      B'.edges = (edgesOf B.faces []).map (segT v) ∧
      List.Forall₂ (fun f f' => f'.Valid ∧ f'.pts = f.pts.map (fun p => add p v) ∧
        ∃ t : Rat, 0 < t ∧ f'.plane.n = smul t f.plane.n) B.faces B'.faces := by
  obtain ⟨hval, hcon, _, _⟩ := B.moved_valid hV v
  refine ⟨B.moved v, B.move_valid_ok hV hEuler v, hval, hcon, ?_, by rw [hcen]; rfl, rfl, rfl, ?_⟩
  · rw [B.moved_volume hV hctr v]
    unfold Polyhedron.volume
    rw [hpyr, List.map_map, hcen]
    rfl
  · apply Forall₂.map_self
    intro f hf
    obtain ⟨_, h2, _, h4, _, t, ht, hn, _⟩ := moved_face f (hV.faces_valid f hf) (hV.center_in_plane f hf) v
    exact ⟨h2, h4, t, ht, hn⟩
#print axioms Polyhedron.move_valid

/-- the same properties for ANY successful `move` of a valid body (no Euler hypothesis: success implies it) -/
theorem Polyhedron.move_ok_valid (B : Polyhedron) (hV : B.Valid) (v : V3) (B' R : Polyhedron)
    (h : B.move v = .ok (B', R)) :
    R = B' ∧ B' = B.moved v ∧ B'.Valid ∧ (∀ x, B'.contains (add x v) = B.contains x) := by
  obtain ⟨faces, edges, hF, he, _, _, _, rfl, rfl⟩ := (Polyhedron.move_ok_iff B v B' R).mp h
  have hfacts : ∀ f ∈ B.faces, _ := fun f hf => moved_face f (hV.faces_valid f hf) (hV.center_in_plane f hf) v
  have hpts : ∀ f ∈ B.faces, ((rebuild f).translate v).pts = f.pts.map (fun p => add p v) :=
    fun f hf => (hfacts f hf).2.2.2.1
  obtain rfl : B.faces.map (fun f => (rebuild f).translate v) = faces :=
    (forall₂_eq_map_iff _ _ _).mp (Forall₂.imp_mem hF (fun f hf f' _ hff' => by
      rw [(hfacts f hf).1] at hff'; exact Except.ok.inj hff'))
  obtain ⟨rfl, _⟩ := (collectEdges_ok_iff _ [] _).mp he
  rw [collectVerts_map _ (add_injective v) _ B.faces hpts, edgesOf_map v _ B.faces hpts,
    meanV_translate v _ hV.collectVerts_ne_nil, List.map_map]
  obtain ⟨hval, hcon, _, _⟩ := B.moved_valid hV v
  exact ⟨rfl, rfl, hval, hcon⟩
#print axioms Polyhedron.move_ok_valid
end G3D
