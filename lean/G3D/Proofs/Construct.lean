import G3D.Proofs.Polyhedron

/-! C09, polyhedron half: what a successful `ConvexPolyhedron(...)` guarantees. -/
namespace G3D
open V3

theorem mapM_length {α β ε : Type} (f : α → Except ε β) : ∀ (l : List α) (out : List β),
    l.mapM f = .ok out → out.length = l.length := by
  intro l
  induction l with
  | nil => intro out h; simp [List.mapM_nil, pure, Except.pure] at h; cases h; rfl
  | cons a l ih =>
    intro out h
    rw [List.mapM_cons] at h
    simp only [bind, Except.bind, pure, Except.pure] at h
    split at h
    · cases h
    split at h
    · cases h
    rename_i bs hl
    cases h
    rw [List.length_cons, List.length_cons, ih bs hl]

theorem Polyhedron.mk?_ok (input : List Polygon) (B : Polyhedron) (h : Polyhedron.mk? input = .ok B) :
    -- every stored face is oriented away from the centre (so `_check_normal` passed)
    (∀ f ∈ B.faces, 0 ≤ dot (sub f.plane.p B.center) f.plane.n) ∧
    -- Euler's formula
    ((B.verts.length : Int) - B.edges.length + B.faces.length = 2) ∧
    -- the centre is the mean of the (deduplicated) vertices, and there is at least one vertex
    (B.center = meanV B.verts ∧ B.verts = collectVerts input ∧ B.verts ≠ []) ∧
    -- one face and one pyramid per input polygon
    (B.faces.length = input.length ∧ B.pyramids.length = input.length) := by
  unfold Polyhedron.mk? at h
  simp only [bind, Except.bind] at h
  split at h
  · cases h
  split at h
  · cases h
  rename_i hv
  split at h
  · cases h
  rename_i fp hf
  split at h
  · cases h
  rename_i hnorm
  split at h
  · cases h
  rename_i heul
  cases h
  simp only [Bool.not_eq_true', Bool.not_eq_false, List.all_eq_true, decide_eq_true_eq] at hnorm
  exact ⟨hnorm, by simpa using heul, ⟨rfl, rfl, fun h0 => hv (congrArg List.length h0)⟩,
    by simp [mapM_length _ input fp hf]⟩

/-- C09: the centre of a successfully constructed polyhedron passes its own membership test, provided
    each face's centroid lies in the face plane (true for every constructed polygon) -/
theorem Polyhedron.center_inside (input : List Polygon) (B : Polyhedron) (h : Polyhedron.mk? input = .ok B)
    (hc : ∀ f ∈ B.faces, f.plane.contains f.center = true) : B.contains B.center = true := by
  obtain ⟨hout, _, _, _⟩ := Polyhedron.mk?_ok input B h
  unfold Polyhedron.contains
  rw [List.all_eq_true]
  intro f hf
  simp only [decide_eq_true_eq]
  have h1 := hout f hf
  have h2 := (Plane.contains_iff f.plane f.center).mp (hc f hf)
  simp only [Plane.den] at h2
  have : dot (sub B.center f.center) f.plane.n =
      - dot (sub f.plane.p B.center) f.plane.n - dot f.plane.n (sub f.center f.plane.p) := by
    simp only [dot, sub]; ring
  rw [this, h2]; linarith
#print axioms Polyhedron.mk?_ok
#print axioms Polyhedron.center_inside

/-! ### C09 / C15, polygon constructor -/
theorem angInsert_mem (k : Rat × Rat) (p : V3) : ∀ (l : List ((Rat × Rat) × V3)) (q : V3),
    q ∈ (angInsert k p l).map (·.2) → q = p ∨ q ∈ l.map (·.2) := by
  intro l
  induction l with
  | nil => intro q h; simp [angInsert] at h; exact Or.inl h
  | cons e rest ih =>
    intro q h
    obtain ⟨k', p'⟩ := e
    simp only [angInsert] at h
    split at h
    · simp only [List.map_cons, List.mem_cons] at h ⊢
      exact h.imp_right Or.inr
    · split at h
      · simp only [List.map_cons, List.mem_cons] at h ⊢
        exact h
      · simp only [List.map_cons, List.mem_cons] at h ⊢
        rcases h with h | h
        · exact Or.inr (Or.inl h)
        · exact (ih q h).imp_right Or.inr

theorem foldl_angInsert_mem (key : V3 → Rat × Rat) : ∀ (ded : List V3) (acc : List ((Rat × Rat) × V3)) (q : V3),
    q ∈ (ded.foldl (fun acc p => angInsert (key p) p acc) acc).map (·.2) → q ∈ ded ∨ q ∈ acc.map (·.2) := by
  intro ded
  induction ded with
  | nil => intro acc q h; exact Or.inr h
  | cons d ds ih =>
    intro acc q h
    rw [List.foldl_cons] at h
    rcases ih _ q h with h' | h'
    · exact Or.inl (List.mem_cons_of_mem _ h')
    · exact (angInsert_mem (key d) d acc q h').imp_left (fun (e : q = d) => e ▸ List.mem_cons_self ..)

theorem foldl_angInsert_sub (key : V3 → Rat × Rat) (ded : List V3) (q : V3)
    (h : q ∈ (ded.foldl (fun acc p => angInsert (key p) p acc) []).map (·.2)) : q ∈ ded :=
  (foldl_angInsert_mem key ded [] q h).resolve_right List.not_mem_nil

theorem dedupV_mem : ∀ (l : List V3) (q : V3), q ∈ dedupV l → q ∈ l := by
  intro l
  induction l with
  | nil => intro q h; simp [dedupV] at h
  | cons a l ih =>
    intro q h
    simp only [dedupV, List.mem_cons, List.mem_filter] at h ⊢
    rcases h with h | h
    · exact Or.inl h
    · exact Or.inr (ih q h.1)

/-- what a successful `ConvexPolygon(points)` guarantees -/
theorem Polygon.mk?_ok (input : List V3) (rev : Bool) (P : Polygon) (h : Polygon.mk? input rev = .ok P) :
    3 ≤ input.length ∧ P.plane.WF ∧ (∀ p ∈ P.pts, p ∈ input) ∧ (∀ p ∈ P.pts, P.plane.contains p = true) ∧
    P.center = meanV (dedupV input) := by
  unfold Polygon.mk? at h
  simp only at h
  by_cases hlen : input.length < 3
  · rw [if_pos hlen] at h; cases h
  · rw [if_neg hlen] at h
    cases hded : dedupV input with
    | nil => rw [hded] at h; cases h
    | cons p0 r1 =>
      cases r1 with
      | nil => rw [hded] at h; cases h
      | cons p1 r2 =>
        cases r2 with
        | nil => rw [hded] at h; cases h
        | cons p2 rest =>
          rw [hded] at h
          simp only at h
          by_cases hn0 : cross (sub p1 p0) (sub p2 p0) = zero
          · rw [if_pos hn0] at h; cases h
          · rw [if_neg hn0] at h
            generalize hn : (if rev = true then neg (cross (sub p1 p0) (sub p2 p0)) else cross (sub p1 p0) (sub p2 p0)) = n at h
            have hnW : n ≠ zero := by
              rw [← hn]
              cases rev
              · simpa using hn0
              · intro hz
                have hx := congrArg V3.x hz; have hy := congrArg V3.y hz; have hz' := congrArg V3.z hz
                simp only [neg, zero, if_true] at hx hy hz'
                exact hn0 (V3.ext' (neg_eq_zero.mp hx) (neg_eq_zero.mp hy) (neg_eq_zero.mp hz'))
            by_cases hv0 : sub p0 (meanV (p0 :: p1 :: p2 :: rest)) = zero
            · rw [if_pos hv0] at h; cases h
            · rw [if_neg hv0] at h
              by_cases hall : (!(p0 :: p1 :: p2 :: rest).all (⟨p0, n⟩ : Plane).contains) = true
              · rw [if_pos hall] at h; cases h
              · rw [if_neg hall] at h
                cases h
                simp only [Bool.not_eq_true', Bool.not_eq_false, List.all_eq_true] at hall
                exact ⟨by omega, hnW, fun p hp => dedupV_mem input p (hded ▸ foldl_angInsert_sub _ _ p hp),
                  fun p hp => hall p (foldl_angInsert_sub _ _ p hp), rfl⟩
#print axioms Polygon.mk?_ok
end G3D
