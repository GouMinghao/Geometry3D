import G3D.Model.Judge
import G3D.Proofs.FlatPolygon

/-! The Bool judges of `G3D.Model.Judge` are sound and complete for the Prop-level definitions
    (`triplesPos`, `Polygon.Valid`). -/
namespace G3D
open V3

theorem mem_orderedPairs_iff (b c : V3) : ∀ l : List V3, (b, c) ∈ orderedPairs l ↔ List.Sublist [b, c] l := by
  intro l
  induction l with
  | nil => simp [orderedPairs]
  | cons a l ih =>
    simp only [orderedPairs, List.mem_append, List.mem_map, Prod.mk.injEq, ih]
    rw [List.sublist_cons_iff]
    constructor
    · rintro (⟨c', hc', rfl, rfl⟩ | h)
      · exact Or.inr ⟨[c'], rfl, List.singleton_sublist.mpr hc'⟩
      · exact Or.inl h
    · rintro (h | ⟨r, hr, hs⟩)
      · exact Or.inr h
      · simp only [List.cons.injEq] at hr
        obtain ⟨rfl, rfl⟩ := hr
        exact Or.inl ⟨c, List.singleton_sublist.mp hs, rfl, rfl⟩

theorem sublist_pair_iff_mem_orderedPairs (b c : V3) (l : List V3) :
    List.Sublist [b, c] l ↔ (b, c) ∈ orderedPairs l := (mem_orderedPairs_iff b c l).symm

/-- the Bool judge `triplesPosB` decides `triplesPos` -/
theorem triplesPosB_iff (n : V3) : ∀ l : List V3, triplesPosB n l = true ↔ triplesPos n l := by
  intro l
  induction l with
  | nil => simp [triplesPosB, triplesPos]
  | cons a l ih =>
    simp only [triplesPosB, triplesPos, Bool.and_eq_true, List.all_eq_true, decide_eq_true_eq, ih]
    constructor
    · rintro ⟨h1, h2⟩
      exact ⟨fun b c hbc => h1 (b, c) ((mem_orderedPairs_iff b c l).mpr hbc), h2⟩
    · rintro ⟨h1, h2⟩
      exact ⟨fun bc hbc => h1 bc.1 bc.2 ((mem_orderedPairs_iff bc.1 bc.2 l).mp hbc), h2⟩

theorem three_le_length_iff (l : List V3) : 3 ≤ l.length ↔ ∃ p0 p1 p2 rest, l = p0 :: p1 :: p2 :: rest := by
  constructor
  · intro h
    match l, h with
    | p0 :: p1 :: p2 :: rest, _ => exact ⟨p0, p1, p2, rest, rfl⟩
  · rintro ⟨p0, p1, p2, rest, rfl⟩
    simp

/-- the Bool judge `Polygon.validB` decides `Polygon.Valid` -/
theorem Polygon.validB_iff (P : Polygon) : P.validB = true ↔ P.Valid := by
  unfold Polygon.validB Polygon.Valid
  simp only [Bool.and_eq_true, decide_eq_true_eq, List.all_eq_true, triplesPosB_iff, three_le_length_iff, and_assoc,
    exists_and_right]

/-- the list-level judge `polygonValidB` (plane through the first vertex) -/
theorem polygonValidB_iff (n : V3) (pts : List V3) :
    polygonValidB n pts = true ↔
      ∃ p0 p1 p2 rest, pts = p0 :: p1 :: p2 :: rest ∧ (∀ p ∈ pts, inPlane n p0 p = true) ∧ triplesPos n pts := by
  unfold polygonValidB
  simp only [Bool.and_eq_true, decide_eq_true_eq, List.all_eq_true, triplesPosB_iff, three_le_length_iff]
  constructor
  · rintro ⟨⟨⟨p0, p1, p2, rest, hp⟩, h2⟩, h3⟩
    subst hp
    exact ⟨p0, p1, p2, rest, rfl, h2, h3⟩
  · rintro ⟨p0, p1, p2, rest, hp, h2, h3⟩
    subst hp
    exact ⟨⟨⟨p0, p1, p2, rest, rfl⟩, h2⟩, h3⟩

/-- `polygonValidB` on the fields of a polygon whose plane point is its first vertex is `Valid` -/
theorem Polygon.valid_of_polygonValidB (P : Polygon) (hp : P.plane.p = P.pts.headD zero)
    (h : polygonValidB P.plane.n P.pts = true) : P.Valid := by
  obtain ⟨p0, p1, p2, rest, hpts, h2, h3⟩ := (polygonValidB_iff _ _).mp h
  refine ⟨p0, p1, p2, rest, hpts, ?_, h3⟩
  intro p hpm
  rw [hp, hpts]
  exact h2 p hpm

#print axioms triplesPosB_iff
#print axioms Polygon.validB_iff
#print axioms polygonValidB_iff
end G3D
