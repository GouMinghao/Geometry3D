import G3D.Extracted.Mmeas
import G3D.Proofs.MeasTieBase
import G3D.Proofs.MeasTiePolygon
import G3D.Proofs.MeasTiePyramidHeight
/-! # mmeas, `Pyramid.volume`  (C06)
    `G3D.Extracted.m_Pyramid_volume` is regenerated on every run by tools/extract_mmeas.py from the BODY in
    geometry/pyramid.py: `h = self.height(); return 1 / 3 * h * self.convex_polygon.area()` (Python's evaluation order
    `(1/3 · h) · A`).  It is the model's EXACT RATIONAL `heightNum · areaNum / (6 · n·n)`: the two square roots cancel.
    Needs `MeasOK` of the base polygon (through `area`).  Imports the ties of `Pyramid.height` and `ConvexPolygon.area`
    because the Python delegates to them. -/
namespace G3D.MeasTie.Pyramid
open G3D G3D.MeasRt G3D.KTie G3D.Extracted G3D.MeasTie Real

section volume
set_option linter.unusedTactic false in
set_option linter.unreachableTactic false in
/-- the body: `1 / 3 * self.height() * self.convex_polygon.area()`  (closed with `ring`: over ℝ the order of the
    multiplications is immaterial, so `h * A / 3` would pass as well — `1 / 2` would not) -/
theorem m_Pyramid_volume_unfold (M : MPyramid) :
    m_Pyramid_volume M = 1 / 3 * m_Pyramid_height M * m_ConvexPolygon_area M.convex_polygon := by
  simp only [m_Pyramid_volume] <;> ring

/-- **`Pyramid.volume()` is the model's exact rational `heightNum·areaNum / (6·n·n)`** -/
theorem m_Pyramid_volume_tie (f : Polygon) (apex : V3) (h : MeasOK f) :
    m_Pyramid_volume (pyrToM (f, apex)) = ((pyramidVolume f apex : ℚ) : ℝ) := by
  have hn : f.plane.n ≠ V3.zero := Polygon.plane_WF f h.1
  have ha : m_ConvexPolygon_area (pyrToM (f, apex)).convex_polygon = _ := Polygon.m_ConvexPolygon_area_tie f h
  rw [m_Pyramid_volume_unfold, m_Pyramid_height_tie f apex hn, ha, third_height_area _ _ (nn_pos hn)]
  unfold pyramidVolume
  push_cast
  rfl
end volume

#print axioms m_Pyramid_volume_unfold
#print axioms m_Pyramid_volume_tie
end G3D.MeasTie.Pyramid
