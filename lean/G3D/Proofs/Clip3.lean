import G3D.Proofs.Clip2
import G3D.Proofs.Measure

/-! Kernel K1, part 3: assembly. -/
namespace G3D
open V3

def ObjDen : Obj → V3 → Prop
  | .flat g => g.den
  | .polygon P => InHull P.pts
  | .polyhedron B => InHull B.verts

def denOptB : Option Obj → V3 → Prop
  | none => fun _ => False
  | some o => ObjDen o

/-- flat results (what the flat×polygon handlers may return) are well formed -/
def ObjFlatWF : Option Obj → Prop
  | none => True
  | some (.flat (.point _)) => True
  | some (.flat (.seg s)) => s.WF
  | _ => False

def ExactB (r : ResB) (A B : V3 → Prop) : Prop :=
  ∃ o, r = .ok o ∧ ∀ x, denOptB o x ↔ (A x ∧ B x)

/-- exact, and the result is `None`, a Point or a well-formed Segment -/
def ExactPS (r : ResB) (A B : V3 → Prop) : Prop :=
  ∃ o, r = .ok o ∧ ObjFlatWF o ∧ ∀ x, denOptB o x ↔ (A x ∧ B x)

theorem ExactPS.toExactB {r : ResB} {A B : V3 → Prop} (h : ExactPS r A B) : ExactB r A B := by
  obtain ⟨o, ho, _, hd⟩ := h; exact ⟨o, ho, hd⟩

theorem ExactB.mk_none {A B : V3 → Prop} (h : ∀ x, A x → B x → False) : ExactB (.ok none) A B :=
  ⟨none, rfl, fun x => ⟨False.elim, fun hx => h x hx.1 hx.2⟩⟩

theorem ExactPS.mk_none {A B : V3 → Prop} (h : ∀ x, A x → B x → False) : ExactPS (.ok none) A B :=
  ⟨none, rfl, trivial, fun x => ⟨False.elim, fun hx => h x hx.1 hx.2⟩⟩

theorem ExactB.congr {r : ResB} {A B A' B' : V3 → Prop} (h : ExactB r A' B')
    (hc : ∀ x, (A' x ∧ B' x) ↔ (A x ∧ B x)) : ExactB r A B := by
  obtain ⟨o, ho, hd⟩ := h; exact ⟨o, ho, fun x => (hd x).trans (hc x)⟩

theorem ExactPS.congr {r : ResB} {A B A' B' : V3 → Prop} (h : ExactPS r A' B')
    (hc : ∀ x, (A' x ∧ B' x) ↔ (A x ∧ B x)) : ExactPS r A B := by
  obtain ⟨o, ho, hw, hd⟩ := h; exact ⟨o, ho, hw, fun x => (hd x).trans (hc x)⟩

theorem ExactB_of_liftFlat {r : Res} {A B : V3 → Prop} (h : Exact r A B) : ExactB (liftFlat r) A B := by
  obtain ⟨o, ho, _, hd⟩ := h
  rw [ho]
  cases o with
  | none => exact ⟨none, rfl, fun x => by simpa [denOptB, denOpt] using hd x⟩
  | some g => exact ⟨some (.flat g), rfl, fun x => by simpa [denOptB, denOpt, ObjDen] using hd x⟩

/-- a flat result that is `None`, a Point or a Segment -/
def IsPS : Option Geo → Prop
  | none => True
  | some (.point _) => True
  | some (.seg _) => True
  | _ => False

theorem ExactPS_of_liftFlat {r : Res} {A B : V3 → Prop} (h : Exact r A B)
    (hps : ∀ o, r = .ok o → IsPS o) : ExactPS (liftFlat r) A B := by
  obtain ⟨o, ho, hw, hd⟩ := h
  have hps := hps o ho
  rw [ho]
  unfold IsPS at hps
  split at hps
  · exact ⟨none, rfl, trivial, fun x => by simpa [denOptB, denOpt] using hd x⟩
  · exact ⟨_, rfl, trivial, fun x => by simpa [denOptB, denOpt, ObjDen] using hd x⟩
  · exact ⟨_, rfl, hw _ rfl, fun x => by simpa [denOptB, denOpt, ObjDen] using hd x⟩
  · exact hps.elim

theorem ofPointSet_IsPS (ps : List V3) (o : Option Geo) (h : ofPointSet ps = .ok o) : IsPS o := by
  match ps, h with
  | [], h => cases h; trivial
  | [p], h => cases h; trivial
  | [p, q], h =>
    simp only [ofPointSet, mkSeg] at h
    by_cases hpq : p = q
    · rw [if_pos hpq] at h; cases h
    · rw [if_neg hpq] at h; cases h; trivial
  | _ :: _ :: _ :: _, h => cases h

theorem Feas_convex (C : List (Rat × Rat)) (a b t : Rat) (ha : Feas C a) (hb : Feas C b) (h1 : a ≤ t) (h2 : t ≤ b) :
    Feas C t := by
  intro c hc
  have e1 := ha c hc; have e2 := hb c hc
  rcases le_total 0 c.2 with h | h
  · linarith [mul_le_mul_of_nonneg_left h1 h]
  · linarith [mul_le_mul_of_nonpos_left h2 h]

theorem cross_vsum_left (d : V3) (l : List V3) : cross (vsum l) d = vsum (l.map (fun v => cross v d)) := by
  induction l with
  | nil => simp only [List.map_nil, vsum_nil]; apply V3.ext' <;> simp [cross, zero]
  | cons a l ih =>
    rw [vsum_cons, List.map_cons, vsum_cons, ← ih]
    apply V3.ext' <;> simp only [cross, add] <;> ring

/-- along a direction `d ≠ 0` of the plane, a positively oriented cycle has edges of both slopes: the edge vectors
    sum to zero, and the first two edges are not both parallel to `d` -/
theorem edge_slopes (n p0 p1 p2 : V3) (rest : List V3) (htp : triplesPos n (p0 :: p1 :: p2 :: rest))
    (d : V3) (hd0 : d ≠ zero) (hd : dot n d = 0) :
    (∃ e ∈ closedPairs (p0 :: p1 :: p2 :: rest), 0 < dot n (cross (sub e.2 e.1) d)) ∧
    (∃ e ∈ closedPairs (p0 :: p1 :: p2 :: rest), dot n (cross (sub e.2 e.1) d) < 0) := by
  have hsum : ((closedPairs (p0 :: p1 :: p2 :: rest)).map (fun e => dot n (cross (sub e.2 e.1) d))).sum = 0 := by
    have := congrArg (fun v => dot n (cross v d)) (closed_diff_sum (p0 :: p1 :: p2 :: rest))
    simp only [cross_vsum_left, dot_vsum, List.map_map] at this
    exact this.trans (by simp only [dot, cross, zero]; ring)
  have hnz : ∃ b ∈ (closedPairs (p0 :: p1 :: p2 :: rest)).map (fun e => dot n (cross (sub e.2 e.1) d)), b ≠ 0 := by
    by_contra hall
    push Not at hall
    have hb1 : dot n (cross (sub p1 p0) d) = 0 := hall _ (List.mem_map.mpr ⟨(p0, p1), List.mem_cons_self .., rfl⟩)
    have hb2 : dot n (cross (sub p2 p1) d) = 0 :=
      hall _ (List.mem_map.mpr ⟨(p1, p2), List.mem_cons_of_mem _ (List.mem_cons_self ..), rfl⟩)
    have hpos := htp.1 p1 p2 (by simp)
    have e : orient n p0 p1 p2 = dot n (cross (sub p1 p0) (sub p2 p1)) := by
      simp only [orient, dot, cross, sub]; ring
    rw [e, cross_trans_of_perp hd hd0 hb1 hb2] at hpos
    exact lt_irrefl _ hpos
  obtain ⟨⟨bp, hbp, hbpos⟩, ⟨bn, hbn, hbneg⟩⟩ := exists_pos_neg_of_sum_zero _ hsum hnz
  obtain ⟨ep, hep, rfl⟩ := List.mem_map.mp hbp
  obtain ⟨en, hen, rfl⟩ := List.mem_map.mp hbn
  exact ⟨⟨ep, hep, hbpos⟩, ⟨en, hen, hbneg⟩⟩

/-- on a line `c + t d` of the plane of a convex cycle, the hull is cut out by the edge constraints -/
theorem feas_cycleCons_iff_hull {n pl p0 p1 p2 : V3} {rest : List V3}
    (hpl : ∀ p ∈ p0 :: p1 :: p2 :: rest, inPlane n pl p = true) (htp : triplesPos n (p0 :: p1 :: p2 :: rest))
    {c d : V3} (hc : inPlane n pl c = true) (hd : dot n d = 0) (t : Rat) :
    Feas (cycleCons n (p0 :: p1 :: p2 :: rest) c d) t ↔ InHull (p0 :: p1 :: p2 :: rest) (pt c d t) := by
  rw [← polyContains_iff_hull n pl p0 p1 p2 rest hpl htp, feas_cycleCons]
  unfold polyContains
  simp only [Bool.and_eq_true, List.all_eq_true, decide_eq_true_eq, inPlane_pt hc hd t, true_and]

/-- a point hit of a line of the plane with an edge `(a, b)`: the edge is not parallel to the line (else the
    line would run along the edge and the handler would return the edge) -/
theorem point_hit_slope {n pl a b : V3} (hn : n ≠ zero)
    (ha : inPlane n pl a = true) (hb : inPlane n pl b = true) (l : Line) (hl : l.WF) (hld : dot n l.dv = 0)
    (t : Rat) (hbt : Between a b (pt l.sv l.dv t))
    (hq : interLineSeg l (Seg.mk' a b) ≠ .ok (some (.seg (Seg.mk' a b)))) :
    dot n (cross (sub b a) l.dv) ≠ 0 := by
  intro hb0
  apply hq
  obtain ⟨u, _, _, hu⟩ := hbt
  obtain ⟨k, hk⟩ : ∃ k, sub b a = smul k l.dv :=
    ⟨_, eq_smul_of_cross_eq_zero hl (coplanar_cross_zero hn (inPlane_diff ha hb) hld hb0)⟩
  have heqv : l.eqv (Seg.mk' a b).line = true := by
    unfold Line.eqv
    rw [Bool.and_eq_true]
    constructor
    · rw [Line.contains_iff l hl]
      refine ⟨t - u * k, ?_⟩
      rw [hk] at hu
      have hx := congrArg V3.x hu; have hy := congrArg V3.y hu; have hz := congrArg V3.z hu
      simp only [pt, add, smul] at hx hy hz
      show a = _
      apply V3.ext' <;> simp only [add, smul]
      · linear_combination (-1 : ℚ) * hx
      · linear_combination (-1 : ℚ) * hy
      · linear_combination (-1 : ℚ) * hz
    · show V3.parallel (sub b a) l.dv = true
      rw [hk]; exact parallel_smul _ _
  unfold interLineSeg interLineLine; rw [if_pos heqv]

theorem lineClip_exact (n pl : V3) (p0 p1 p2 : V3) (rest : List V3)
    (hpl : ∀ p ∈ p0 :: p1 :: p2 :: rest, inPlane n pl p = true)
    (htp : triplesPos n (p0 :: p1 :: p2 :: rest))
    (l : Line) (hl : l.WF) (hls : inPlane n pl l.sv = true) (hld : dot n l.dv = 0) :
    ExactPS (lineEdgesLoop l ((closedPairs (p0 :: p1 :: p2 :: rest)).map (fun e => Seg.mk' e.1 e.2)) [])
      l.den (InHull (p0 :: p1 :: p2 :: rest)) := by
  set pts := p0 :: p1 :: p2 :: rest with hpts
  have hn : n ≠ zero := by
    rintro rfl
    have := htp.1 p1 p2 (by simp)
    simp only [orient, dot, zero, zero_mul, add_zero, lt_self_iff_false] at this
  have hne : ∀ e ∈ closedPairs pts, e.1 ≠ e.2 := edge_ne n p0 p1 p2 rest htp
  set segs := (closedPairs pts).map (fun e => Seg.mk' e.1 e.2) with hsegs
  have hsegW : ∀ s ∈ segs, s.WF := by
    intro s hs
    obtain ⟨e, he, rfl⟩ := List.mem_map.mp hs
    exact Seg.mk'_WF (hne e he)
  -- the points of the line in the polygon are those whose parameter satisfies the edge constraints
  set C := cycleCons n pts l.sv l.dv with hC
  have hfeas : ∀ t, Feas C t ↔ InHull pts (pt l.sv l.dv t) := feas_cycleCons_iff_hull hpl htp hls hld
  have hcommon : ∀ x, (l.den x ∧ InHull pts x) ↔ ∃ t, Feas C t ∧ x = pt l.sv l.dv t := by
    intro x; constructor
    · rintro ⟨⟨t, rfl⟩, hh⟩; exact ⟨t, (hfeas t).mpr hh, rfl⟩
    · rintro ⟨t, hf, rfl⟩; exact ⟨⟨t, rfl⟩, (hfeas t).mp hf⟩
  -- every edge result denotes line ∩ edge
  have hedge : ∀ e ∈ closedPairs pts, Exact (interLineSeg l (Seg.mk' e.1 e.2)) l.den (Between e.1 e.2) :=
    fun e he => interLineSeg_exact l _ hl (Seg.mk'_WF (hne e he))
  rcases lineEdgesLoop_spec l hl segs [] hsegW with ⟨s0, hs0, hr0, heq0, hret⟩ | ⟨hnoseg, acc', hret, hmem, hnd⟩
  · -- the line runs along an edge
    rw [hret]
    obtain ⟨e, he, rfl⟩ := List.mem_map.mp hs0
    have hW := Seg.mk'_WF (hne e he)
    have hmemv := closedPairs_mem pts e he
    have hline := (Line.eqv_iff l _ hl (Seg.line_WF _ hW)).mp heq0
    refine ⟨some (.flat (.seg (Seg.mk' e.1 e.2))), rfl, hW, fun x => ?_⟩
    simp only [denOptB, ObjDen, Geo.den, Seg.mk'_den]
    constructor
    · intro hb
      exact ⟨(hline x).mpr (Seg.den_sub_line (Seg.mk' e.1 e.2) hW x hb), between_in_hull hmemv.1 hmemv.2 hb⟩
    · rintro ⟨hxl, hxh⟩
      obtain ⟨u, rfl⟩ := (hline x).mp hxl
      refine on_edge_of_tight n pts htp e he _ hxh ?_
      simp only [Seg.mk', orient, dot, cross, sub, add, smul]; ring
  · -- no edge along the line: collected hit points
    rw [hret]
    refine ExactPS_of_liftFlat ?_ (fun o ho => ofPointSet_IsPS acc' o ho)
    have hmem' : ∀ q, q ∈ acc' ↔ ∃ e ∈ closedPairs pts, interLineSeg l (Seg.mk' e.1 e.2) = .ok (some (.point q)) := by
      intro q
      simp only [hmem q, List.not_mem_nil, false_or, hsegs, List.mem_map, exists_exists_and_eq_and]
    -- a hit is a common point, tight on its edge, with non-zero slope
    have hhit : ∀ q e, e ∈ closedPairs pts → interLineSeg l (Seg.mk' e.1 e.2) = .ok (some (.point q)) →
        ∃ t, q = pt l.sv l.dv t ∧ Feas C t ∧
          orient n e.1 e.2 l.sv + dot n (cross (sub e.2 e.1) l.dv) * t = 0 ∧
          dot n (cross (sub e.2 e.1) l.dv) ≠ 0 := by
      intro q e he hq
      obtain ⟨o, ho, _, hd⟩ := hedge e he
      rw [hq] at ho; cases ho
      obtain ⟨⟨t, rfl⟩, hbt⟩ := (hd q).mp rfl
      have hmemv := closedPairs_mem pts e he
      refine ⟨t, rfl, (hfeas t).mpr (between_in_hull hmemv.1 hmemv.2 hbt), ?_,
        point_hit_slope hn (hpl _ hmemv.1) (hpl _ hmemv.2) l hl hld t hbt (hnoseg _ (List.mem_map_of_mem he))⟩
      rw [← orient_pt]; exact orient_between_zero n e.1 e.2 _ hbt
    by_cases hS : ∃ t0, Feas C t0
    · obtain ⟨t0, ht0⟩ := hS
      obtain ⟨⟨ep, hep, hppos⟩, ⟨en, hen, hnneg⟩⟩ := edge_slopes n p0 p1 p2 rest htp l.dv hl hld
      obtain ⟨tlo, hflo, hlo, clo, hclo, hclop, hclot⟩ := lp_lo C t0 ht0 ⟨_, List.mem_map_of_mem hep, hppos⟩
      obtain ⟨thi, hfhi, hhi, chi, hchi, hchin, hchit⟩ := lp_hi C t0 ht0 ⟨_, List.mem_map_of_mem hen, hnneg⟩
      have hlohi : tlo ≤ thi := hlo thi hfhi
      -- a tight constraint at a feasible parameter produces a collected hit
      have htight_hit : ∀ c ∈ C, ∀ t, Feas C t → c.1 + c.2 * t = 0 → pt l.sv l.dv t ∈ acc' := by
        intro c hc t hft hct
        obtain ⟨e, he, rfl⟩ := List.mem_map.mp hc
        have hbt := on_edge_of_tight n pts htp e he _ ((hfeas t).mp hft) (by rw [orient_pt]; exact hct)
        obtain ⟨o, ho, _, hd⟩ := hedge e he
        have hden := (hd (pt l.sv l.dv t)).mpr ⟨⟨t, rfl⟩, hbt⟩
        rcases interLineSeg_shape l _ o ho with rfl | ⟨q, rfl⟩ | ⟨rfl, _⟩
        · exact hden.elim
        · exact (hmem' _).mpr ⟨e, he, by rw [ho, show q = _ from hden.symm]⟩
        · exact absurd ho (hnoseg _ (List.mem_map_of_mem he))
      refine ofPointSet_pair_exact acc' (pt l.sv l.dv tlo) (pt l.sv l.dv thi) (hnd List.nodup_nil) ?_ ?_ ?_ ?_
      · -- a hit with negative slope is the upper end, one with positive slope the lower end
        intro q hq
        obtain ⟨e, he, hqe⟩ := (hmem' q).mp hq
        obtain ⟨t, rfl, hft, htt, hbne⟩ := hhit q e he hqe
        rcases lt_or_gt_of_ne hbne with hneg | hpos
        · right; congr 1
          have h2 : 0 ≤ _ + _ * thi := hfhi _ (List.mem_map_of_mem he)
          exact le_antisymm (hhi t hft)
            (sub_nonpos.mp (nonpos_of_mul_nonneg_right (by linarith only [htt, h2] : 0 ≤ _ * (thi - t)) hneg))
        · left; congr 1
          have h2 : 0 ≤ _ + _ * tlo := hflo _ (List.mem_map_of_mem he)
          exact le_antisymm
            (sub_nonneg.mp (nonneg_of_mul_nonneg_right (by linarith only [htt, h2] : 0 ≤ _ * (tlo - t)) hpos)) (hlo t hft)
      · exact htight_hit clo hclo tlo hflo hclot
      · exact htight_hit chi hchi thi hfhi hchit
      · intro x
        rw [hcommon, Between_pt hlohi]
        constructor
        · rintro ⟨t, hft, rfl⟩; exact ⟨t, hlo t hft, hhi t hft, rfl⟩
        · rintro ⟨t, h1, h2, rfl⟩; exact ⟨t, Feas_convex C tlo thi t hflo hfhi h1 h2, rfl⟩
    · -- the line misses the polygon
      have hempty : acc' = [] := by
        apply List.eq_nil_iff_forall_not_mem.mpr
        intro q hq
        obtain ⟨e, he, hqe⟩ := (hmem' q).mp hq
        obtain ⟨t, _, hft, _, _⟩ := hhit q e he hqe
        exact hS ⟨t, hft⟩
      rw [hempty]
      refine ofPointSet_nil_exact (fun x hx => ?_)
      obtain ⟨t, hft, _⟩ := (hcommon x).mp hx
      exact hS ⟨t, hft⟩
#print axioms lineClip_exact
end G3D
