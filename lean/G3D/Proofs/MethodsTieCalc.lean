import G3D.Extracted.Mcalc
import G3D.Proofs.MethodsTieBase
/-! # Tie, group `mcalc` (property C11): the non-dispatch predicates `parallel`, `orthogonal` of calc/angle.py —
    extracted body (`G3D.Extracted.Mcalc`, tools/extract_mcalc.py over tools/mextract.py) = hand-written model
    (`G3D.Model.Angle`: `parallelG`, `orthogonalG`), for every pair of Line / Plane / Vector operands.
    The recursive call with swapped operands (`parallel(b, a)` for Plane/Line) is read as the model's function, like every
    inner generic call; the model's table is symmetric there by definition, so the induction on the call depth is trivial.
    `pyGeo_parallel`, which `Plane.__contains__(Line)` uses (`G3D.Proofs.MethodsTieFlatMember`), is thereby tied to the code. -/
set_option linter.style.nameCheck false
namespace G3D.Tie
open V3 PyRt Extracted

def aVal : AObj → Val
  | .line l => .obj (lnObj l)
  | .plane a => .obj (plObj a)
  | .vec v => .vec v

theorem toAObj_toVal (x : AObj) : toAObj? (aVal x) = some x := by cases x <;> rfl

/-- `parallel(a, b)` of calc/angle.py on Line / Plane / Vector operands -/
theorem m_angle_parallel_eq (x y : AObj) :
    m_angle_parallel (aVal x) (aVal y) = match parallelG x y with | some r => .ok (.bool r) | none => .error .notImpl := by
  cases x <;> cases y <;> rfl

/-- `orthogonal(a, b)` of calc/angle.py on Line / Plane / Vector operands -/
theorem m_angle_orthogonal_eq (x y : AObj) :
    m_angle_orthogonal (aVal x) (aVal y) = match orthogonalG x y with | some r => .ok (.bool r) | none => .error .notImpl := by
  cases x <;> cases y <;> rfl

/-- the runtime primitives used for `self.parallel(o)` / `self.orthogonal(o)` are these functions -/
theorem pyGeo_parallel_eq (x y : AObj) : pyGeo_parallel (aVal x) (aVal y) = m_angle_parallel (aVal x) (aVal y) := by
  rw [m_angle_parallel_eq, pyGeo_parallel, toAObj_toVal, toAObj_toVal]; rfl

theorem pyGeo_orthogonal_eq (x y : AObj) : pyGeo_orthogonal (aVal x) (aVal y) = m_angle_orthogonal (aVal x) (aVal y) := by
  rw [m_angle_orthogonal_eq, pyGeo_orthogonal, toAObj_toVal, toAObj_toVal]; rfl

theorem mcalc_complete : mcalcFailed = [] := rfl

end G3D.Tie
