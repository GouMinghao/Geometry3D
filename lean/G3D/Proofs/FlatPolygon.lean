import G3D.Proofs.Clip3

/-! C02, polygon half: Point / Line / Plane / Segment / HalfLine × ConvexPolygon are exact. -/
namespace G3D
open V3

/-- well-formedness of a constructed polygon (decidable content: coplanar, all ordered triples
    positively oriented about the stored normal, at least three vertices) -/
def Polygon.Valid (P : Polygon) : Prop :=
  ∃ p0 p1 p2 rest, P.pts = p0 :: p1 :: p2 :: rest ∧
    (∀ p ∈ P.pts, G3D.inPlane P.plane.n P.plane.p p = true) ∧ triplesPos P.plane.n P.pts

theorem Polygon.Valid.pts_inPlane {P : Polygon} (hv : P.Valid) :
    ∀ p ∈ P.pts, G3D.inPlane P.plane.n P.plane.p p = true := by
  obtain ⟨_, _, _, _, _, h, _⟩ := hv; exact h

theorem Polygon.Valid.pos {P : Polygon} (hv : P.Valid) : triplesPos P.plane.n P.pts := by
  obtain ⟨_, _, _, _, _, _, h⟩ := hv; exact h

theorem Polygon.Valid.nondeg {P : Polygon} (hv : P.Valid) :
    ∃ a ∈ P.pts, ∃ b ∈ P.pts, ∃ c ∈ P.pts, orient P.plane.n a b c ≠ 0 := by
  obtain ⟨p0, p1, p2, rest, hp, _, htp⟩ := hv
  rw [hp] at htp ⊢
  exact ⟨p0, by simp, p1, by simp, p2, by simp, ne_of_gt (htp.1 p1 p2 (by simp))⟩

theorem Polygon.Valid.edge_ne {P : Polygon} (hv : P.Valid) (e : V3 × V3) (he : e ∈ closedPairs P.pts) : e.1 ≠ e.2 := by
  obtain ⟨p0, p1, p2, rest, hp, _, htp⟩ := hv
  rw [hp] at htp he
  exact G3D.edge_ne P.plane.n p0 p1 p2 rest htp e he

theorem Plane.contains_eq_inPlane (pl : Plane) (x : V3) : pl.contains x = inPlane pl.n pl.p x := by
  simp only [Plane.contains, inPlane]
  congr 1
  simp only [dot, sub]; ring

theorem edgeSide_eq_orient (n a b x : V3) : edgeSide n a b x = orient n a b x := by
  simp only [edgeSide, orient, dot, cross, sub]; ring

theorem Polygon.contains_eq (P : Polygon) (x : V3) :
    P.contains x = polyContains P.plane.n P.plane.p P.pts x := by
  simp only [Polygon.contains, polyContains, Plane.contains_eq_inPlane, edgeSide_eq_orient]

theorem Polygon.contains_iff (P : Polygon) (hv : P.Valid) (x : V3) : P.contains x = true ↔ InHull P.pts x := by
  obtain ⟨p0, p1, p2, rest, hp, hpl, htp⟩ := hv
  rw [Polygon.contains_eq, hp]
  rw [hp] at hpl htp
  exact polyContains_iff_hull _ _ p0 p1 p2 rest hpl htp x

theorem Polygon.hull_in_plane (P : Polygon) (hv : P.Valid) (x : V3) (hx : InHull P.pts x) : P.plane.den x := by
  have := (Polygon.contains_iff P hv x).mpr hx
  unfold Polygon.contains at this
  rw [Bool.and_eq_true] at this
  exact (Plane.contains_iff P.plane x).mp this.1

theorem Polygon.plane_WF (P : Polygon) (hv : P.Valid) : P.plane.WF := by
  obtain ⟨p0, p1, p2, rest, hp, _, htp⟩ := hv
  intro h
  rw [hp] at htp
  have := htp.1 p1 p2 (by simp)
  rw [h] at this; simp [orient, dot, zero] at this

theorem Polygon.segments_eq (P : Polygon) (hv : P.Valid) :
    P.segments? = .ok ((closedPairs P.pts).map (fun e => Seg.mk' e.1 e.2)) := by
  obtain ⟨p0, p1, p2, rest, hp, _, htp⟩ := hv
  unfold Polygon.segments?
  rw [hp] at htp ⊢
  have hne : ∀ e ∈ closedPairs (p0 :: p1 :: p2 :: rest), e.1 ≠ e.2 := edge_ne _ p0 p1 p2 rest htp
  generalize closedPairs (p0 :: p1 :: p2 :: rest) = es at hne
  induction es with
  | nil => rfl
  | cons e es ih =>
    have h1 := hne e (by simp)
    have h2 := ih (fun e' he' => hne e' (by simp [he']))
    simp only [List.mapM_cons, if_neg h1, h2, List.map_cons]
    rfl

theorem interPointPolygon_exact (p : V3) (P : Polygon) (hv : P.Valid) :
    ExactPS (interPointPolygon p P) (· = p) (InHull P.pts) := by
  unfold interPointPolygon
  by_cases hc : P.contains p = true
  · rw [if_pos hc]
    refine ⟨_, rfl, trivial, fun x => ?_⟩
    simp only [denOptB, ObjDen, Geo.den]
    constructor
    · rintro rfl; exact ⟨rfl, (Polygon.contains_iff P hv x).mp hc⟩
    · exact fun h => h.1
  · rw [if_neg hc]
    exact ExactPS.mk_none (fun x hx h => hc (hx ▸ (Polygon.contains_iff P hv x).mpr h))

theorem interLinePolygon_exact (l : Line) (hl : l.WF) (P : Polygon) (hv : P.Valid) :
    ExactPS (interLinePolygon l P) l.den (InHull P.pts) := by
  have hinp := Polygon.hull_in_plane P hv
  obtain ⟨o, ho, _, hd⟩ := interLinePlane_exact l P.plane hl
  unfold interLinePolygon
  rcases interLinePlane_shape l P.plane o ho with rfl | ⟨q, rfl⟩ | ⟨rfl, hc⟩
  · rw [ho]
    exact ExactPS.mk_none (fun x h1 h2 => (hd x).mpr ⟨h1, hinp x h2⟩)
  · rw [ho]
    refine (interPointPolygon_exact q P hv).congr (fun x => and_congr_left (fun h2 => ?_))
    exact ⟨fun h => ((hd x).mp h).1, fun h1 => (hd x).mpr ⟨h1, hinp x h2⟩⟩
  · rw [ho]
    simp only [Polygon.segments_eq P hv, liftC]
    obtain ⟨p0, p1, p2, rest, hp, hpl, htp⟩ := hv
    unfold Plane.containsLine at hc
    rw [Bool.and_eq_true] at hc
    have hls : inPlane P.plane.n P.plane.p l.sv = true := by rw [← Plane.contains_eq_inPlane]; exact hc.1
    have hld : dot P.plane.n l.dv = 0 := by
      have := hc.2; simp only [V3.orthogonal, beq_iff_eq] at this
      simp only [dot] at this ⊢; linarith
    rw [hp] at hpl htp ⊢
    exact lineClip_exact P.plane.n P.plane.p p0 p1 p2 rest hpl htp l hl hls hld
#print axioms interLinePolygon_exact

theorem interPlanePlane_shape (a b : Plane) (ha : a.WF) (hb : b.WF) (o : Option Geo)
    (h : interPlanePlane a b = .ok o) :
    o = none ∨ (o = some (.plane a) ∧ a.eqv b = true) ∨ (∃ L : Line, o = some (.line L) ∧ L.WF) := by
  obtain ⟨o', ho', hw, _⟩ := interPlanePlane_exact a b ha hb
  rw [h] at ho'; cases ho'
  unfold interPlanePlane at h
  split at h
  · rename_i heq
    cases h; exact Or.inr (Or.inl ⟨rfl, heq⟩)
  split at h
  · cases h; exact Or.inl rfl
  simp only at h
  split at h
  · cases h; exact Or.inr (Or.inr ⟨_, rfl, hw _ rfl⟩)
  · cases h

theorem interPlanePolygon_exact (a : Plane) (ha : a.WF) (P : Polygon) (hv : P.Valid) :
    ExactB (interPlanePolygon a P) a.den (InHull P.pts) := by
  have hinp := Polygon.hull_in_plane P hv
  have hpW := Polygon.plane_WF P hv
  obtain ⟨o, ho, _, hd⟩ := interPlanePlane_exact a P.plane ha hpW
  unfold interPlanePolygon
  rcases interPlanePlane_shape a P.plane ha hpW o ho with rfl | ⟨rfl, heq⟩ | ⟨L, rfl, hLW⟩
  · rw [ho]
    exact ExactB.mk_none (fun x h1 h2 => (hd x).mpr ⟨h1, hinp x h2⟩)
  · rw [ho]
    refine ⟨some (.polygon P), rfl, fun x => ?_⟩
    simp only [denOptB, ObjDen]
    constructor
    · intro h; exact ⟨((Plane.eqv_den a P.plane ha hpW heq) x).mpr (hinp x h), h⟩
    · exact fun h => h.2
  · rw [ho]
    refine (interLinePolygon_exact L hLW P hv).toExactB.congr (fun x => and_congr_left (fun h2 => ?_))
    exact ⟨fun h => ((hd x).mp h).1, fun h1 => (hd x).mpr ⟨h1, hinp x h2⟩⟩

theorem ObjFlatWF_cases (o : Option Obj) (h : ObjFlatWF o) :
    o = none ∨ (∃ q, o = some (.flat (.point q))) ∨ (∃ s, o = some (.flat (.seg s)) ∧ s.WF) := by
  unfold ObjFlatWF at h
  split at h
  · exact Or.inl rfl
  · exact Or.inr (Or.inl ⟨_, rfl⟩)
  · exact Or.inr (Or.inr ⟨_, rfl, h⟩)
  · exact h.elim

/-- segment / half-line against a polygon through the shared carrier routine -/
theorem interCarrierPolygon_exact {X : V3 → Prop} (ln : Line) (hln : ln.WF) (hX : ∀ x, X x → ln.den x)
    (mem : V3 → Bool) (hmem : ∀ q, mem q = true ↔ X q)
    (withPoint : V3 → Res) (hwp : ∀ q, Exact (withPoint q) (· = q) X)
    (withSeg : Seg → Res) (hws : ∀ s : Seg, s.WF → Exact (withSeg s) s.den X)
    (P : Polygon) (hv : P.Valid) :
    ExactB (interCarrierPolygon ln mem withPoint withSeg P) X (InHull P.pts) := by
  have hinp := Polygon.hull_in_plane P hv
  obtain ⟨o, ho, _, hd⟩ := interLinePlane_exact ln P.plane hln
  unfold interCarrierPolygon
  rcases interLinePlane_shape ln P.plane o ho with rfl | ⟨q, rfl⟩ | ⟨rfl, hc⟩
  · rw [ho]
    exact ExactB.mk_none (fun x h1 h2 => (hd x).mpr ⟨hX x h1, hinp x h2⟩)
  · rw [ho]
    simp only
    by_cases hc : (mem q && P.contains q) = true
    · rw [if_pos hc]
      rw [Bool.and_eq_true] at hc
      refine ⟨_, rfl, fun x => ?_⟩
      simp only [denOptB, ObjDen, Geo.den]
      constructor
      · rintro rfl; exact ⟨(hmem x).mp hc.1, (Polygon.contains_iff P hv x).mp hc.2⟩
      · rintro ⟨h1, h2⟩; exact (hd x).mpr ⟨hX x h1, hinp x h2⟩
    · rw [if_neg hc]
      refine ExactB.mk_none (fun x h1 h2 => hc ?_)
      have : x = q := (hd x).mpr ⟨hX x h1, hinp x h2⟩
      subst this
      exact Bool.and_eq_true_iff.mpr ⟨(hmem x).mpr h1, (Polygon.contains_iff P hv x).mpr h2⟩
  · rw [ho]
    simp only
    obtain ⟨o', ho', hw', hd'⟩ := interLinePolygon_exact ln hln P hv
    rw [ho']
    -- the result `o'` for the carrier line denotes `ln ∩ P`; cutting it with `X ⊆ ln` gives `X ∩ P`
    have hcut : ∀ x, (denOptB o' x ∧ X x) ↔ (X x ∧ InHull P.pts x) := fun x =>
      ⟨fun h => ⟨h.2, ((hd' x).mp h.1).2⟩, fun h => ⟨(hd' x).mpr ⟨hX x h.1, h.2⟩, h.1⟩⟩
    rcases ObjFlatWF_cases o' hw' with rfl | ⟨q, rfl⟩ | ⟨s, rfl, hsW⟩
    · exact ExactB.mk_none (fun x h1 h2 => ((hcut x).mpr ⟨h1, h2⟩).1)
    · exact (ExactB_of_liftFlat (hwp q)).congr hcut
    · exact (ExactB_of_liftFlat (hws s hsW)).congr hcut

theorem interSegPolygon_exact (a : Seg) (ha : a.WF) (P : Polygon) (hv : P.Valid) :
    ExactB (interSegPolygon a P) a.den (InHull P.pts) :=
  interCarrierPolygon_exact a.line (a.line_WF ha) (a.den_sub_line ha) a.contains (Seg.contains_iff a ha)
    (fun q => interPointSeg q a) (fun q => interPointSeg_exact q a ha)
    (fun s => interSegSeg s a) (fun s hs => interSegSeg_exact s a hs ha) P hv

theorem interPolygonHalfLine_exact (P : Polygon) (hv : P.Valid) (h : HalfLine) (hh : h.WF) :
    ExactB (interPolygonHalfLine P h) h.den (InHull P.pts) :=
  interCarrierPolygon_exact h.line (h.line_WF hh) (h.den_sub_line hh) h.contains (HalfLine.contains_iff h hh)
    (fun q => interPointHalfLine q h) (fun q => interPointHalfLine_exact q h hh)
    (fun s => interSegHalfLine s h) (fun s hs => interSegHalfLine_exact s h hs hh) P hv
#print axioms interPlanePolygon_exact
#print axioms interSegPolygon_exact
#print axioms interPolygonHalfLine_exact
end G3D
