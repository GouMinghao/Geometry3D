import G3D.Proofs.FlatPolygon

/-! C05, polyhedron half (the provable direction): every point of the hull of the vertices passes the
    face tests of `ConvexPolyhedron.__contains__`; composite membership by convexity. -/
namespace G3D
open V3

/-- decidable content of a well-formed polyhedron that the membership theorem needs: every vertex is on
    the inner side of every (outward oriented) face -/
def Polyhedron.VertsInside (B : Polyhedron) : Prop :=
  ∀ f ∈ B.faces, ∀ v ∈ B.verts, dot (sub v f.center) f.plane.n ≤ 0

theorem affine_comb (n c : V3) (ws : List Rat) (ps : List V3) (h : ws.length = ps.length) :
    dot (sub (add (comb ws ps) (smul (1 - ws.sum) c)) c) n =
      (List.zipWith (fun w p => w * dot (sub p c) n) ws ps).sum := by
  simp only [dot_comm _ n]; exact dot_comb n c ws ps h

theorem sum_zipWith_neg : ∀ (ws : List Rat) (ps : List V3) (f : V3 → Rat),
    (List.zipWith (fun w p => w * - f p) ws ps).sum = - (List.zipWith (fun w p => w * f p) ws ps).sum := by
  intro ws
  induction ws with
  | nil => intro ps f; simp
  | cons w ws ih =>
    intro ps f
    cases ps with
    | nil => simp
    | cons p ps => simp only [List.zipWith_cons_cons, List.sum_cons, ih ps f]; ring

theorem Polyhedron.hull_subset_contains (B : Polyhedron) (hv : B.VertsInside) (x : V3)
    (hx : InHull B.verts x) : B.contains x = true := by
  obtain ⟨ws, hlen, hnn, hsum, rfl⟩ := hx
  unfold Polyhedron.contains
  rw [List.all_eq_true]
  intro f hf
  rw [decide_eq_true_eq, dot_comm, dot_comb_hull hlen hsum]
  have := sum_zipWith_nonneg ws B.verts (fun p => - dot f.plane.n (sub p f.center)) hnn
    (fun p hp => by have := hv f hf p hp; rw [dot_comm] at this; linarith)
  rw [sum_zipWith_neg ws B.verts (fun p => dot f.plane.n (sub p f.center))] at this
  linarith

/-- a segment whose endpoints are in a convex body lies in it (used for `Segment in X`) -/
theorem seg_sub_of_endpoints {D : V3 → Prop}
    (hconv : ∀ x y t, D x → D y → 0 ≤ t → t ≤ 1 → D (add x (smul t (sub y x))))
    (s : Seg) (ha : D s.a) (hb : D s.b) : ∀ x, s.den x → D x := by
  rintro x ⟨t, h0, h1, rfl⟩
  exact hconv _ _ t ha hb h0 h1
#print axioms Polyhedron.hull_subset_contains
end G3D
