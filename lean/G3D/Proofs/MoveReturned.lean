import G3D.Proofs.Move2
import G3D.Proofs.SortCycle

/-! `ConvexPolygon.move` on a `Valid` polygon: the returned object (`ConvexPolygon(self.points)`) IS the moved
    receiver — the full `move_returned_eq_receiver` that `Polygon.move_returned_partial` left open (it needed the
    theory of `angInsert` as a sort: re-sorting an already sorted cycle returns the same cycle). -/
namespace G3D
open V3

/-- `move` on a `Valid` polygon does not raise and returns a polygon equal (field by field) to the moved receiver -/
theorem Polygon.move_returned_eq_receiver (P : Polygon) (hv : P.Valid) (v : V3) :
    (P.move v).2 = .ok (P.move v).1 := by
  have hM := Polygon.move_valid P hv v
  obtain ⟨q0, q1, q2, r, hq, _, hpl, hce⟩ := Polygon.move_canon P hv.good v
  have hin : ∀ p ∈ q0 :: q1 :: q2 :: r, dot (P.move v).1.plane.n (sub p (P.move v).1.plane.p) = 0 := by
    intro p hp
    simpa [G3D.inPlane] using hM.pts_inPlane p (hq ▸ hp)
  -- re-sorting the strictly convex cycle of the moved receiver returns the same cycle
  obtain ⟨Q, hQ, _, h1, h2, _, h3, h4⟩ := Polygon.mk?_of_cycle _ _ q0 q1 q2 r hin (hq ▸ hM.pos) false
  rw [Polygon.move_snd P hv.good v, hq, hQ]
  congr 1
  obtain ⟨pts, ⟨pp, pn⟩, center⟩ := Q
  simp only [Bool.false_eq_true, if_false] at h1 h2 h3 h4
  rw [h1, h2, h3, h4]
  generalize (P.move v).1 = M at hq hpl hce
  obtain ⟨_, _, _⟩ := M
  simp only at hq hpl hce
  rw [hq, hpl, hce, hq]; rfl

#print axioms Polygon.move_returned_eq_receiver
end G3D
