import G3D.Extracted.Mmeas
import G3D.Proofs.MeasTieBase
import G3D.Proofs.MeasTiePyramid
/-! # mmeas, `ConvexPolyhedron.volume`  (C06)
    `G3D.Extracted.m_ConvexPolyhedron_volume` is regenerated on every run by tools/extract_mmeas.py from the BODY in
    geometry/polyhedron.py: `v = 0; for pyramid in self.pyramid_set: v += pyramid.volume(); return v`.
    For a body whose pyramids stand on `MeasOK` polygons it is the model's EXACT RATIONAL `Polyhedron.volume`, in whatever
    order the set is iterated.  Imports the tie of `Pyramid.volume` because the Python delegates to it. -/
namespace G3D.MeasTie.Polyhedron
open G3D G3D.MeasRt G3D.KTie G3D.Extracted G3D.MeasTie Real

section volume
/-- the accumulator loop is the sum of the pyramid volumes -/
theorem m_ConvexPolyhedron_volume_sum (M : MPolyhedron) :
    m_ConvexPolyhedron_volume M = (M.pyramid_set.map m_Pyramid_volume).sum := by
  simp only [m_ConvexPolyhedron_volume]
  rw [foldl_add_sum, zero_add]

/-- **`ConvexPolyhedron.volume()` = the model's rational `B.volume`**, for every iteration order of `pyramid_set` -/
theorem m_ConvexPolyhedron_volume_tie (B : Polyhedron) (hp : ∀ pa ∈ B.pyramids, MeasOK pa.1) (M : MPolyhedron)
    (hs : List.Perm M.pyramid_set (B.pyramids.map pyrToM)) :
    m_ConvexPolyhedron_volume M = ((B.volume : ℚ) : ℝ) := by
  rw [m_ConvexPolyhedron_volume_sum]
  exact sum_pyramid_set B hs _ fun pa hpa => Pyramid.m_Pyramid_volume_tie pa.1 pa.2 (hp pa hpa)

/-- in the model's own order -/
theorem m_ConvexPolyhedron_volume_model (B : Polyhedron) (hp : ∀ pa ∈ B.pyramids, MeasOK pa.1) :
    m_ConvexPolyhedron_volume (bodyToM B) = ((B.volume : ℚ) : ℝ) :=
  m_ConvexPolyhedron_volume_tie B hp (bodyToM B) (List.Perm.refl _)
end volume

#print axioms m_ConvexPolyhedron_volume_sum
#print axioms m_ConvexPolyhedron_volume_tie
#print axioms m_ConvexPolyhedron_volume_model
end G3D.MeasTie.Polyhedron
