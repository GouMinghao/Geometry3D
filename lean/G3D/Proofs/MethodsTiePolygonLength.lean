import G3D.Extracted.Mpolygon
import G3D.Proofs.MethodsTiePolygonShared
import G3D.Proofs.MethodsTiePolygonSegments
/-! # Tie, group `mpolygon`, role LENGTH (C06): `length` = the list of squared edge lengths `Polygon.edgeLenSqs`.
    Imports `MethodsTiePolygonSegments` (`length` calls `segments`).  Conventions, trusted readings and the deviations found: `G3D.Proofs.MethodsTie`, header of `G3D.Model.PyRtM`. -/
set_option linter.style.nameCheck false
namespace G3D.Tie
open V3 PyRt Extracted

theorem m_ConvexPolygon_length_eq (P : Polygon) :
    m_ConvexPolygon_length (Self.ofPolygon P) =
      match P.segments? with
      | .error e => .error (.ctor e)
      | .ok ss => .ok (sqrtSumRepr (ss.map Seg.lenSq)) := by
  unfold m_ConvexPolygon_length
  rw [m_ConvexPolygon_segments_eq _ P.pts rfl]
  have hs : P.segments? = (closedPairs P.pts).mapM segOf := rfl
  rw [hs]
  cases (closedPairs P.pts).mapM segOf with
  | error e => rfl
  | ok ss =>
    simp only [liftC, pyrt, List.map_map]
    rw [show Val.int 0 = sqrtSumRepr [] from rfl]
    rw [forIn_repr (Val.obj ∘ sgObj) sqrtSumRepr ss _ (fun s acc => .ok (.yield (acc ++ [s.lenSq])))]
    · rw [forIn_yield ss (fun acc s => acc ++ [s.lenSq]), foldl_snoc_map]
      simp
    · intro s _ acc
      by_cases ha : acc = [] <;> simp [sgObj, sqrtSumRepr, ha, pySqrtSumAdd, ForInStep.map']

/-- the radicands are the model's squared edge lengths -/
theorem segments_lenSq (P : Polygon) (ss : List Seg) (h : P.segments? = .ok ss) : ss.map Seg.lenSq = P.edgeLenSqs :=
  mapM_segOf_lenSq _ ss h

end G3D.Tie
