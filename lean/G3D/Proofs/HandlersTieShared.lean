import G3D.Proofs.HandlersTieNoErr
/-! Lemmas shared by the four tie modules `HandlersTie{Flat,Polygon,Polyhedron,Body}` (which do not import each other):
    indexed `range` loops, the face / edge hit loops against the model's recursions, conditional updates of a point
    set, the 0 / 1 / 2 / more tail, the early-return × point-set loop state, early `return` from a loop (also used by
    the method ties). -/
set_option linter.unusedSimpArgs false
namespace G3D.Tie
open V3 PyRt

/-- list elements paired with their Python index -/
def indexed {α : Type} (lo : Int) : List α → List (α × Int)
  | [] => []
  | x :: xs => (x, lo) :: indexed (lo + 1) xs

theorem map_snd_indexed {α : Type} (xs : List α) (lo : Int) :
    (indexed lo xs).map (fun xi => Val.int xi.2) = (intsFrom lo xs.length).map Val.int := by
  induction xs generalizing lo with
  | nil => rfl
  | cons x xs ih => simp [indexed, intsFrom, ih]

theorem mem_indexed {α : Type} (xs : List α) (lo : Int) (x : α) (i : Int) (h : (x, i) ∈ indexed lo xs) :
    ∃ k : Nat, i = lo + k ∧ xs[k]? = some x := by
  induction xs generalizing lo with
  | nil => simp [indexed] at h
  | cons y ys ih =>
    simp only [indexed, List.mem_cons, Prod.mk.injEq] at h
    rcases h with ⟨rfl, rfl⟩ | h
    · exact ⟨0, by simp, rfl⟩
    · obtain ⟨k, hk, hx⟩ := ih (lo + 1) h
      exact ⟨k + 1, by rw [hk]; push_cast; omega, by simpa using hx⟩

theorem forIn_indexed {α σ : Type} (xs : List α) (lo : Int) (s : σ) (step : α → σ → PyM (ForInStep σ)) :
    forIn (indexed lo xs) s (fun xi => step xi.1) = forIn xs s step := by
  induction xs generalizing lo s with
  | nil => rfl
  | cons x xs ih =>
    simp only [indexed, List.forIn_cons]
    congr 1; funext r; cases r <;> simp [ih]

theorem all_indexed {α : Type} (c : α → Bool) (xs : List α) (lo : Int) : (indexed lo xs).all (fun xi => c xi.1) = xs.all c := by
  induction xs generalizing lo with
  | nil => rfl
  | cons x xs ih => simp [indexed, ih]

theorem pyIndex_seq_nat (l : List Obj) (k : Nat) (o : Obj) (h : l[k]? = some o) :
    pyIndex (.seq l) (.int (k : Int)) = .ok (.obj o) := by
  have hk : k < l.length := by
    rcases Nat.lt_or_ge k l.length with hlt | hge
    · exact hlt
    · rw [List.getElem?_eq_none hge] at h; cases h
  obtain ⟨_, hget⟩ := List.getElem?_eq_some_iff.mp h
  simp [pyIndex, normIdx, hk, hget]

theorem pyIndex_indexed (pre : List Obj) (rest : List V3) (pi : V3) (i : Int)
    (h : (pi, i) ∈ indexed (pre.length : Int) rest) :
    pyIndex (.seq (pre ++ rest.map ptObj)) (.int i) = .ok (.obj (ptObj pi)) := by
  obtain ⟨k, rfl, hk⟩ := mem_indexed rest _ pi i h
  rw [← Int.natCast_add]
  refine pyIndex_seq_nat _ _ _ ?_
  rw [List.getElem?_append_right (Nat.le_add_right ..), Nat.add_sub_cancel_left, List.getElem?_map, hk]; rfl


/-- one round of a loop that adds the Point results of `inter` to `point_set` and skips `None` and Segments, in the form
    that `simp only [pyrt]` gives it -/
def hitBody (inter : PyM Val) (point_set : Val) : PyM (ForInStep Val) := do
  let inter ← inter
  if (pyIsNone inter).truthy = true then Except.ok (ForInStep.yield point_set)
  else if (pyIsInstance inter PyTy.Segment).truthy = true then Except.ok (ForInStep.yield point_set)
  else if (pyIsInstance inter PyTy.Point).truthy = true then ForInStep.yield <$> pySetAdd point_set inter
  else Except.error BErr.bug

theorem hitBody_point (q : V3) (acc : List V3) :
    hitBody (.ok (.obj (.flat (.point q)))) (.set (acc.map ptObj)) = .ok (.yield (.set ((addNew acc q).map ptObj))) := by
  simp only [hitBody, pyrt]; rfl

/-- `body` is the loop body as the translation prints it; on a face it is to compute what `hitBody` does with the
    model's result for that face (by evaluation: `fun _ _ => rfl` at the use sites) -/
theorem faceLoop_eq (facePt : Polygon → ResB) (body : Val → Val → PyM (ForInStep Val))
    (hb : ∀ f (acc : List V3), body (.obj (.polygon f)) (.set (acc.map ptObj)) =
      hitBody (Val.ofRes (facePt f)) (.set (acc.map ptObj))) (fs : List Polygon) (acc : List V3) :
    forIn (fs.map (Val.obj ∘ Obj.polygon)) (.set (acc.map ptObj)) body = Val.ptSet <$> faceHits facePt fs acc := by
  induction fs generalizing acc with
  | nil => rfl
  | cons f fs ih =>
    simp only [List.map_cons, List.forIn_cons, Function.comp, hb, faceHits]
    rcases facePt f with e | _ | ⟨g | P | B'⟩
    · rfl
    · exact ih acc
    · cases g with
      | point q => simp only [pyrt, hitBody_point]; exact ih _
      | seg _ => exact ih acc
      | _ => rfl
    · rfl
    · rfl

/-- the model maps every exception of the inner flat call to "Bug detected" -/
theorem edgeLoop_eq (edgePt : Seg → Res) (hE : ∀ s, OnlyBug (edgePt s)) (body : Val → Val → PyM (ForInStep Val))
    (hb : ∀ s (acc : List V3), body (.obj (.flat (.seg s))) (.set (acc.map ptObj)) =
      hitBody (Val.ofRes (liftFlat (edgePt s))) (.set (acc.map ptObj))) (ss : List Seg) (acc : List V3) :
    forIn (ss.map (Val.obj ∘ sgObj)) (.set (acc.map ptObj)) body = Val.ptSet <$> edgeHits edgePt ss acc := by
  induction ss generalizing acc with
  | nil => rfl
  | cons s ss ih =>
    simp only [List.map_cons, List.forIn_cons, Function.comp, sgObj, hb, edgeHits]
    rcases hs : edgePt s with e | _ | g
    · cases hE s e hs; rfl
    · exact ih acc
    · cases g with
      | point q => simp only [pyrt, hitBody_point]; exact ih _
      | seg _ => exact ih acc
      | _ => rfl


/-- `if c: s = f(s)` compiles to a join point `k` that both branches enter.  Rewriting with this equation while the
    join points are still `have`-bound (`simp -zeta`) turns a cascade of such statements into a straight line of
    binds, each continuation occurring once; unfolding the join points first would copy the rest of the function
    into both branches of every `if`. -/
theorem ite_bind_jp {α β : Type} (c : Prop) [Decidable c] (x : PyM α) (s : α) (k : α → PyM β) :
    (if c then x >>= k else k s) = (if c then x else .ok s) >>= k := by
  split <;> rfl

theorem ite_ok_ptSet (c : Prop) [Decidable c] (x y : List V3) :
    (if c then (.ok (.set (x.map ptObj)) : PyM Val) else .ok (.set (y.map ptObj))) =
      .ok (.set ((if c then x else y).map ptObj)) := by
  split <;> rfl

theorem set_nil_pt : Val.set [] = .set (([] : List V3).map ptObj) := rfl

/-- `len(s) == 0 → None, == 1 → l[0], == 2 → Segment(l[0], l[1])`, else whatever the handler does with more points
    (`k`) — the form all the handlers' tails take once the runtime primitives are evaluated -/
theorem pointTail_eq (acc : List V3) (k : PyM Val) :
    (if (((acc.map ptObj).length : Int) == 0) = true then Except.ok Val.none
     else if (((acc.map ptObj).length : Int) == 1) = true then pyIndex (Val.seq (acc.map ptObj)) (Val.int 0)
     else if (((acc.map ptObj).length : Int) == 2) = true then do
       let x ← pyIndex (Val.seq (acc.map ptObj)) (Val.int 0)
       let y ← pyIndex (Val.seq (acc.map ptObj)) (Val.int 1)
       pySegment x y
     else k) =
    match acc with
    | [] => .ok .none
    | [p] => .ok (.obj (.flat (.point p)))
    | [p, q] => pySegment (.obj (.flat (.point p))) (.obj (.flat (.point q)))
    | _ => k := by
  match acc with
  | [] => rfl
  | [p] => rfl
  | [p, q] => rfl
  | p :: q :: r :: rest =>
    have h : ∀ n : Int, n < 3 → ((((p :: q :: r :: rest).map ptObj).length : Int) == n) = false := by
      intro n hn; simp only [List.map_cons, List.length_cons, beq_eq_false_iff_ne]; omega
    simp only [h 0 (by decide), h 1 (by decide), h 2 (by decide), Bool.false_eq_true, if_false]

/-- representation of a loop state "early-return slot × collected point set" -/
def reprRP (st : Option Obj × List V3) : Option Val × Val := (st.1.map Val.obj, Val.ptSet st.2)

/-- `for x in xs: if bad(x): return v` as compiled by `do` (early-return state `(some v, ())`).  The test is a decidable
    proposition, so that the rule applies whatever term `simp` has left as the `Decidable` instance of the `if`. -/
theorem forIn_return' {α β : Type} (xs : List α) (bad : α → Prop) [DecidablePred bad] (v : β) :
    forIn xs ((none : Option β), ()) (fun x _ => if bad x then
        (Except.ok (ForInStep.done (some v, ())) : PyM (ForInStep (Option β × Unit)))
      else .ok (.yield (none, ()))) = .ok (if xs.any (fun x => decide (bad x)) = true then (some v, ()) else (none, ())) := by
  induction xs with
  | nil => simp
  | cons x xs ih => by_cases h : bad x <;> simp [List.forIn_cons, h, ih]

/-- the same with the test in the polarity `if not ok(x): return v`, which `simp` writes as `if ok x then .. else ..` -/
theorem forIn_return {α β : Type} (xs : List α) (ok : α → Prop) [DecidablePred ok] (v : β) :
    forIn xs ((none : Option β), ()) (fun x _ => if ok x then
        (Except.ok (ForInStep.yield (none, ())) : PyM (ForInStep (Option β × Unit)))
      else .ok (.done (some v, ()))) = .ok (if xs.all (fun x => decide (ok x)) = true then (none, ()) else (some v, ())) := by
  induction xs with
  | nil => simp
  | cons x xs ih => by_cases h : ok x <;> simp [List.forIn_cons, h, ih]

end G3D.Tie
