import G3D.Props.C13
import G3D.Proofs.MeasExamples

/-! Non-vacuity of the hypotheses of the C13 constructor theorems (`Props.C13`, `XCPolygon`, `XCBody`, `XCFlat`), and both sides
    evaluated: a reflection (det σ = −1) with scaling `k = 2` and a translation, applied to a non-symmetric
    quadrilateral in a tilted plane and to a skew pyramid over a non-symmetric quadrilateral whose faces are built by
    `ConvexPolygon` from scrambled point lists. -/
namespace G3D
open V3

/-- `x ↦ 2·(−z, x, y) + (1, −2, 3)`: cyclic permutation with one sign flipped (a reflection), scaling 2, translation -/
def XC.exT : Xf := ⟨⟨.zxy, true, false, false⟩, ⟨1, -2, 3⟩, 2⟩

theorem XC.exT_hyp : XC.exT.s.det = -1 ∧ 0 < XC.exT.k := by decide +kernel

/-! ### Bool certificates -/
def XC.sameSetB (l m : List V3) : Bool := l.all (fun p => decide (p ∈ m)) && m.all (fun p => decide (p ∈ l))

theorem XC.sameSet_of_B (l m : List V3) (h : XC.sameSetB l m = true) : ∀ p, p ∈ l ↔ p ∈ m := by
  simp only [XC.sameSetB, Bool.and_eq_true, List.all_eq_true, decide_eq_true_eq] at h
  exact fun p => ⟨h.1 p, h.2 p⟩

def XC.isOkB (e : Except CErr Polygon) : Bool :=
  match e with
  | .ok _ => true
  | .error _ => false

theorem XC.ok_of_isOkB (e : Except CErr Polygon) (h : XC.isOkB e = true) : e = .ok (Meas.getP e) := by
  cases e with
  | error _ => cases h
  | ok P => rfl

/-- the faces `ConvexPolygon(points, reverse)` builds from a list of (point list, reverse flag) -/
def XC.build (pls : List (List V3 × Bool)) : List Polygon := pls.map (fun pr => Meas.getP (Polygon.mk? pr.1 pr.2))

/-- `pls[i]` lists exactly the vertices of `fs[i]` and the polygon constructor accepts it -/
def XC.inputChkB (fs : List Polygon) (pls : List (List V3 × Bool)) : Bool :=
  fs.length == pls.length &&
  (fs.zip pls).all (fun fp => XC.sameSetB fp.2.1 fp.1.pts && XC.isOkB (Polygon.mk? fp.2.1 fp.2.2))

theorem XC.getP_xf (T : Xf) (hk : 0 < T.k) (i : List V3) (rev : Bool) (h : XC.isOkB (Polygon.mk? i rev) = true) :
    Meas.getP (Polygon.mk? (T.pts i) rev) = XC.img T (Meas.getP (Polygon.mk? i rev)) := by
  rw [XC.mk?_xf_ok T hk i rev _ (XC.ok_of_isOkB _ h)]
  rfl

/-- the checked input satisfies the hypotheses of `Props.C13.polyhedron_constructor_commutes`, and building from the transformed point
    lists gives the image records -/
theorem XC.build_hyp (T : Xf) (hk : 0 < T.k) : ∀ (fs : List Polygon) (pls : List (List V3 × Bool)),
    (∀ f ∈ fs, f.Valid) → XC.inputChkB fs pls = true →
    List.Forall₂ Reoriented fs (XC.build pls) ∧ (∀ g ∈ XC.build pls, g.CentreInside) ∧
    XC.build (pls.map (fun pr => (T.pts pr.1, pr.2))) = (XC.build pls).map (XC.img T) := by
  intro fs
  induction fs with
  | nil =>
    intro pls _ h
    cases pls with
    | nil => exact ⟨List.Forall₂.nil, fun g hg => (by cases hg), rfl⟩
    | cons _ _ => simp [XC.inputChkB] at h
  | cons f fs ih =>
    intro pls hv h
    cases pls with
    | nil => simp [XC.inputChkB] at h
    | cons pr pls =>
      simp only [XC.inputChkB, List.length_cons, List.zip_cons_cons, List.all_cons, Bool.and_eq_true,
        beq_iff_eq] at h
      obtain ⟨hlen, ⟨hset, hok⟩, hall⟩ := h
      have hrest : XC.inputChkB fs pls = true := by
        simp only [XC.inputChkB, Bool.and_eq_true, beq_iff_eq]
        exact ⟨by omega, hall⟩
      obtain ⟨h1, h2, h3⟩ := ih pls (fun f' hf' => hv f' (List.mem_cons_of_mem _ hf')) hrest
      obtain ⟨hr, hci⟩ := Reoriented.of_mk? f (hv f (by simp)) pr.1 pr.2 _ (XC.sameSet_of_B _ _ hset)
        (XC.ok_of_isOkB _ hok)
      refine ⟨List.Forall₂.cons hr h1, ?_, ?_⟩
      · intro g hg
        rcases List.mem_cons.mp hg with rfl | hg
        · exact hci
        · exact h2 g hg
      · simp only [XC.build, List.map_cons] at h3 ⊢
        rw [h3, XC.getP_xf T hk pr.1 pr.2 hok]

/-! ### a non-symmetric quadrilateral in the plane `z = x + 2y` (one point listed twice, `reverse = True`) -/
def XC.quad : List V3 := [⟨0,0,0⟩, ⟨3,3,9⟩, ⟨1,0,1⟩, ⟨0,2,4⟩, ⟨3,3,9⟩]

theorem XC.quad_strictConvex : StrictConvexPos (dedupV XC.quad) :=
  Meas.strictConvexPos_of_cert _ [⟨-1,-1,0⟩, ⟨1,1,0⟩, ⟨1,-2,0⟩, ⟨-2,1,0⟩] (by decide +kernel)

theorem XC.quad_ok : Polygon.mk? XC.quad true = .ok (Meas.getP (Polygon.mk? XC.quad true)) := by decide +kernel

/-- the hypotheses of `Props.C13.polygon_constructor_commutes_queries` hold: the theorem applies -/
example :
    let T := XC.exT
    let P := Meas.getP (Polygon.mk? XC.quad true)
    ∃ P', Polygon.mk? (T.pts XC.quad) true = .ok P' ∧ P.Valid ∧ P'.Valid ∧
      P'.pts = T.pts P.pts ∧ (∀ p, p ∈ P'.pts ↔ p ∈ T.pts P.pts) ∧
      P'.center = T.pt P.center ∧ P'.plane.p = T.pt P.plane.p ∧
      P'.plane.n = smul (T.k^2) (T.pnrm P.plane.n) ∧
      P'.same (T.polygon P) = true ∧
      (∀ x, InHull P'.pts (T.pt x) ↔ InHull P.pts x) ∧
      (∀ x, P'.contains (T.pt x) = P.contains x) ∧
      P'.areaSq = T.k^4 * P.areaSq ∧ P'.edgeLenSqs = P.edgeLenSqs.map (T.k^2 * ·) :=
  Props.C13.polygon_constructor_commutes_queries XC.exT XC.exT_hyp.2 XC.quad true _ XC.quad_strictConvex XC.quad_ok

/-- … and both sides by evaluation: the constructor on the transformed points returns the image record (same vertex
    order; normal `det σ·k²·σ n`, which is NOT the true-vector image `σ n`); area² 16-fold, squared edge lengths
    4-fold, `==` to the transformed polygon, membership of an inner and an outer point of the plane transported -/
example :
    (let T := XC.exT
     let P := Meas.getP (Polygon.mk? XC.quad true)
     let P' := Meas.getP (Polygon.mk? (T.pts XC.quad) true)
     XC.isOkB (Polygon.mk? XC.quad true) && XC.isOkB (Polygon.mk? (T.pts XC.quad) true) &&
       P' == XC.img T P && P'.pts == T.pts P.pts && P.pts.length == 4 && P'.center == T.pt P.center &&
       P'.plane.n == smul 4 (T.pnrm P.plane.n) && P'.plane.n != smul 4 (T.nrm P.plane.n) &&
       P'.areaSq == 16 * P.areaSq && P.areaSq != 0 && P'.edgeLenSqs == P.edgeLenSqs.map (4 * ·) &&
       P'.same (T.polygon P) && P.contains ⟨1,1,3⟩ && P'.contains (T.pt ⟨1,1,3⟩) &&
       !(P.contains ⟨5,5,15⟩) && !(P'.contains (T.pt ⟨5,5,15⟩))) = true := by decide +kernel

/-- the transformed points listed in another order, without the repetition, `reverse = False`: hypotheses of
    `XC.polygon_ctor_xf_sameSet` -/
def XC.quad' : List V3 := [XC.exT.pt ⟨0,2,4⟩, XC.exT.pt ⟨1,0,1⟩, XC.exT.pt ⟨0,0,0⟩, XC.exT.pt ⟨3,3,9⟩]

theorem XC.quad'_ok : Polygon.mk? XC.quad' false = .ok (Meas.getP (Polygon.mk? XC.quad' false)) := by decide +kernel

example :
    let T := XC.exT
    let P := Meas.getP (Polygon.mk? XC.quad true)
    let P' := Meas.getP (Polygon.mk? XC.quad' false)
    P'.Valid ∧ (∀ p, p ∈ P'.pts ↔ p ∈ T.pts P.pts) ∧ P'.center = T.pt P.center ∧
      P'.same (T.polygon P) = true ∧ (∀ x, P'.contains (T.pt x) = P.contains x) ∧
      P'.areaSq = T.k^4 * P.areaSq ∧ List.Perm P'.edgeLenSqs (P.edgeLenSqs.map (T.k^2 * ·)) := by
  obtain ⟨h1, h2, h3, h4, _, h6, h7, h8, _⟩ := XC.polygon_ctor_xf_sameSet XC.exT XC.exT_hyp.2 XC.quad XC.quad' true false
    _ _ XC.quad_strictConvex (XC.sameSet_of_B _ _ (by decide +kernel)) XC.quad_ok XC.quad'_ok
  exact ⟨h1, h2, h3, h4, h6, h7, h8⟩

example :
    (let T := XC.exT
     let P := Meas.getP (Polygon.mk? XC.quad true)
     let P' := Meas.getP (Polygon.mk? XC.quad' false)
     P'.pts != T.pts P.pts && P'.center == T.pt P.center && P'.same (T.polygon P) && P'.areaSq == 16 * P.areaSq &&
       P'.edgeLenSqs.isPerm (P.edgeLenSqs.map (4 * ·)) && P'.contains (T.pt ⟨1,1,3⟩)) = true := by decide +kernel

/-! ### a skew pyramid over a non-symmetric quadrilateral -/
def XC.pa : V3 := ⟨0,0,0⟩
def XC.pb : V3 := ⟨4,0,0⟩
def XC.pc : V3 := ⟨5,3,0⟩
def XC.pd : V3 := ⟨1,2,0⟩
def XC.pe : V3 := ⟨1,1,3⟩

/-- reference body: base seen from below, four side triangles, all outward -/
def XC.pyr : Polyhedron := polyOfCycles
  [ [XC.pa, XC.pd, XC.pc, XC.pb], [XC.pa, XC.pb, XC.pe], [XC.pb, XC.pc, XC.pe], [XC.pc, XC.pd, XC.pe],
    [XC.pd, XC.pa, XC.pe] ]

theorem XC.pyr_validB : XC.pyr.validB = true ∧ XC.pyr.faceLocalB = true := by decide +kernel
theorem XC.pyr_valid : XC.pyr.Valid := XC.pyr.valid_of_validB XC.pyr_validB.1
theorem XC.pyr_faceLocal : XC.pyr.FaceLocal := XC.pyr.faceLocal_of_faceLocalB XC.pyr_validB.2

/-- Euler: 5 − 8 + 5 = 2 -/
theorem XC.pyr_euler :
    ((collectVerts XC.pyr.faces).length : Int) - (edgesOf XC.pyr.faces []).length + XC.pyr.faces.length = 2 := by
  decide +kernel

/-- the faces as POINT LISTS handed to `ConvexPolygon`: reverse order of the faces, scrambled vertex order, one repeated
    point, mixed `reverse` flags -/
def XC.pyrPls : List (List V3 × Bool) :=
  [ ([XC.pe, XC.pd, XC.pa], true), ([XC.pd, XC.pe, XC.pc, XC.pd], false), ([XC.pc, XC.pb, XC.pe], true),
    ([XC.pe, XC.pa, XC.pb], false), ([XC.pc, XC.pa, XC.pb, XC.pd], true) ]

/-- the polygons `ConvexPolygon` builds from them … -/
def XC.pyrInput : List Polygon := XC.build XC.pyrPls
/-- … and from the TRANSFORMED point lists -/
def XC.pyrInput' : List Polygon := XC.build (XC.pyrPls.map (fun pr => (XC.exT.pts pr.1, pr.2)))

theorem XC.pyr_chk : XC.inputChkB XC.pyr.faces.reverse XC.pyrPls = true := by decide +kernel

/-- the hypotheses of `Props.C13.polyhedron_constructor_commutes` hold for the pyramid: both constructor calls succeed and the results
    correspond -/
example :
    let T := XC.exT
    ∃ B B', Polyhedron.mk? XC.pyrInput = .ok B ∧ Polyhedron.mk? XC.pyrInput' = .ok B' ∧
      B.Valid ∧ B'.Valid ∧ (∀ x, B'.contains (T.pt x) = B.contains x) ∧
      (∀ x, InHull B'.verts (T.pt x) ↔ InHull B.verts x) ∧ List.Perm B'.verts (T.pts B.verts) ∧
      B'.center = T.pt B.center ∧ List.Perm B'.edgeLenSqs (B.edgeLenSqs.map (T.k^2 * ·)) ∧
      B'.volume = T.k^3 * B.volume ∧
      List.Perm (B'.faces.map Polygon.areaSq) ((B.faces.map Polygon.areaSq).map (T.k^4 * ·)) ∧
      B'.sameB (T.body B) = true := by
  intro T
  have hk := XC.exT_hyp.2
  obtain ⟨hrel, hci, himgEq⟩ := XC.build_hyp XC.exT hk XC.pyr.faces.reverse XC.pyrPls
    (fun f hf => XC.pyr_valid.faces_valid f (List.mem_reverse.mp hf)) XC.pyr_chk
  have hperm : List.Perm XC.pyr.faces.reverse XC.pyr.faces := List.reverse_perm _
  have hin' : XC.pyrInput' = XC.pyrInput.map (XC.img XC.exT) := himgEq
  have himg := XC.forall₂_imgOf_img XC.exT hk _ XC.pyrInput hrel
  obtain ⟨hiff, hres⟩ := Props.C13.polyhedron_constructor_commutes XC.exT hk XC.pyr XC.pyr_valid _ XC.pyrInput _ hperm hrel himg
  obtain ⟨B, hB, _⟩ := Polyhedron.mk?_reoriented XC.pyr XC.pyr_valid _ _ hperm hrel XC.pyr_euler
  obtain ⟨B', hB'⟩ := hiff.mpr ⟨B, hB⟩
  obtain ⟨h1, h2, h3, h4, _, h6, h7, _, _, h10, h11, h12⟩ := hres B B' hB hB'
  obtain ⟨hvol, har⟩ := h11 hci (XC.centreInside_map_img XC.exT hk _ hci)
  exact ⟨B, B', hB, by rw [hin']; exact hB', h1, h2, h3, h4, h6, h7, h10, hvol, har, h12 XC.pyr_faceLocal⟩

/-- … and both sides by evaluation: volume 19/2 resp. 8·19/2 = 76, eight edges each, `B' == T.body B`, the vertex
    lists correspond, an inner and an outer point are transported; the stored bodies differ from the reference body
    and `B'` is not literally `T.body B` (other face cycles, rescaled normals) -/
example : (match Polyhedron.mk? XC.pyrInput, Polyhedron.mk? XC.pyrInput' with
    | .ok B, .ok B' =>
      let T := XC.exT
      B.volume == 19/2 && B'.volume == 76 && B.edges.length == 8 && B'.edges.length == 8 &&
        B'.sameB (T.body B) && (T.body B).sameB B' && B.sameB XC.pyr &&
        B'.verts.isPerm (T.pts B.verts) && B'.center == T.pt B.center &&
        B'.edgeLenSqs.isPerm (B.edgeLenSqs.map (4 * ·)) &&
        (B'.faces.map Polygon.areaSq).isPerm ((B.faces.map Polygon.areaSq).map (16 * ·)) &&
        B.contains ⟨1,1,1⟩ && B'.contains (T.pt ⟨1,1,1⟩) && !(B.contains ⟨1,1,4⟩) && !(B'.contains (T.pt ⟨1,1,4⟩)) &&
        !(B'.faces == (T.body B).faces) && !(B.faces == XC.pyr.faces)
    | _, _ => false) = true := by decide +kernel

/-- the image of the reference body is a valid reference body with the same counts -/
example : (XC.exT.body XC.pyr).Valid ∧ (XC.exT.body XC.pyr).FaceLocal :=
  ⟨XC.body_valid XC.exT XC.exT_hyp.2 _ XC.pyr_valid, XC.body_faceLocal XC.exT XC.exT_hyp.2 _ XC.pyr_faceLocal⟩
example : (XC.exT.body XC.pyr).validB = true ∧ (XC.exT.body XC.pyr).faceLocalB = true := by decide +kernel

/-! ### flats -/
example :
    (let T := XC.exT
     Plane.ofPoints (T.pt XC.pa) (T.pt XC.pc) (T.pt XC.pe) == (Plane.ofPoints XC.pa XC.pc XC.pe).map (XC.planeImg T) &&
     Line.ofPoints? (T.pt XC.pa) (T.pt XC.pe) == (Line.ofPoints? XC.pa XC.pe).map T.line &&
     Seg.mk? (T.pt XC.pb) (T.pt XC.pe) == (Seg.mk? XC.pb XC.pe).map T.seg &&
     HalfLine.ofVec? (T.pt XC.pb) (T.dir XC.pe) == (HalfLine.ofVec? XC.pb XC.pe).map T.halfline &&
     Seg.mk? (T.pt XC.pb) (T.pt XC.pb) == .error .value &&
     (match Plane.ofPoints XC.pa XC.pc XC.pe with
      | .ok P => (XC.planeImg T P).eqv (T.plane P) && XC.planeImg T P != T.plane P
      | .error _ => false)) = true := by decide +kernel

end G3D
