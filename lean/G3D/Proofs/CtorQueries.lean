import G3D.Proofs.CtorPolyhedron

/-! C09, continued: acceptance by the constructor and the results of the queries (`in`, `volume`) do not depend on
    the orientation / starting vertex / order of the input polygons. -/
namespace G3D
open V3

/-- **acceptance is orientation- and order-independent**: the constructor accepts a reordered, re-oriented face list
    of the valid body `B0` if and only if Euler's formula holds for `B0` -/
theorem Polyhedron.mk?_reoriented_iff (B0 : Polyhedron) (hV : B0.Valid) (F input : List Polygon)
    (hperm : List.Perm F B0.faces) (hrel : List.Forall₂ Reoriented F input) :
    (∃ B, Polyhedron.mk? input = .ok B) ↔
    ((collectVerts B0.faces).length : Int) - (edgesOf B0.faces []).length + B0.faces.length = 2 := by
  obtain ⟨hvp, _, hel, hfl⟩ := reoriented_counts B0 hV F input hperm hrel
  constructor
  · rintro ⟨B, h⟩
    obtain ⟨_, _, _, _, _, _, _, _, heul, _⟩ := Polyhedron.mk?_eq input B h
    rw [hvp.length_eq, hel, hfl] at heul
    exact heul
  · intro hE
    obtain ⟨B, hB, _⟩ := Polyhedron.mk?_reoriented B0 hV F input hperm hrel hE
    exact ⟨B, hB⟩
#print axioms Polyhedron.mk?_reoriented_iff

/-! ### the cone formula for one pyramid -/
/-- `Pyramid(g, apex).volume()` is `|(apex − g.points[0]) · (vector area of the cycle)| / 6` -/
theorem pyramidVolume_eq_cone (g : Polygon) (hg : g.Valid)
    (hctr : ∀ e ∈ closedPairs g.pts, 0 ≤ orient g.plane.n e.1 e.2 g.center) (c : V3) :
    pyramidVolume g c = absQ (dot (sub c (g.pts.headD zero)) (vecArea2 g.pts)) / 6 := by
  have harea := Polygon.areaNum_eq_mean_fan hg hctr
  obtain ⟨p0, p1, p2, rest, hp, hpl, htp⟩ := hg
  have key := pyramid_term g.plane.n g.plane.p p0 p1 p2 rest (by rw [← hp]; exact hpl) (by rw [← hp]; exact htp) c
  unfold pyramidVolume pyramidHeightNum
  rw [harea, hp, List.headD_cons, ← key]
  ring

theorem vecArea2_of_perm {l l' : List V3} (h : List.Perm (closedPairs l') (closedPairs l)) :
    vecArea2 l' = vecArea2 l := by
  unfold vecArea2
  exact vsum_perm (h.map _)

theorem vecArea2_of_perm_swap {l l' : List V3} (h : List.Perm (closedPairs l') ((closedPairs l).map Prod.swap)) :
    vecArea2 l' = neg (vecArea2 l) := by
  unfold vecArea2
  rw [vsum_perm (h.map _), List.map_map, ← vsum_map_neg, List.map_map]
  congr 1
  apply List.map_congr_left
  intro e _
  simp only [Function.comp, Prod.swap]
  rw [cross_anticomm]

/-- the pyramid over a re-oriented copy of a valid face has the same volume -/
theorem pyramidVolume_reoriented (f g : Polygon) (hf : f.Valid)
    (hcf : G3D.inPlane f.plane.n f.plane.p f.center = true) (hr : Reoriented f g)
    (hctrf : ∀ e ∈ closedPairs f.pts, 0 ≤ orient f.plane.n e.1 e.2 f.center)
    (hctrg : ∀ e ∈ closedPairs g.pts, 0 ≤ orient g.plane.n e.1 e.2 g.center) (c : V3) :
    pyramidVolume g c = pyramidVolume f c := by
  rw [pyramidVolume_eq_cone g hr.valid hctrg, pyramidVolume_eq_cone f hf hctrf]
  congr 1
  -- the two anchor vertices lie in the plane of `f`, and the vector area is normal to it
  have ⟨p0, _, _, _, hp, _⟩ := hf
  have ⟨q0, _, _, _, hq, _⟩ := hr.valid
  have hanchor : dot (sub c q0) (vecArea2 f.pts) = dot (sub c p0) (vecArea2 f.pts) := by
    have hd : dot f.plane.n (sub q0 p0) = 0 :=
      inPlane_diff (hf.pts_inPlane _ (by rw [hp]; simp)) (hf.pts_inPlane _ ((hr.same_verts q0).mp (by rw [hq]; simp)))
    rw [vecArea2_parallel f.plane.n f.plane.p (Polygon.plane_WF f hf) f.pts hf.pts_inPlane]
    generalize dot f.plane.n (vecArea2 f.pts) / normSq f.plane.n = κ
    simp only [dot, sub, smul] at hd ⊢
    linear_combination (-κ) * hd
  have hgh : g.pts.headD zero = q0 := by rw [hq]; rfl
  have hfh : f.pts.headD zero = p0 := by rw [hp]; rfl
  rw [hgh, hfh]
  -- the vector area of `g` is that of `f`, or its negative
  obtain ⟨_, _, _, ⟨_, hoc⟩ | ⟨_, Q, hQ, hoc⟩⟩ := hr.outward_or_neg hf hcf
  · rw [vecArea2_of_perm hoc.closedPairs_perm, hanchor]
  · have h3 : vecArea2 g.pts = neg (vecArea2 f.pts) := by
      rw [← vecArea2_of_perm hoc.closedPairs_perm, vecArea2_of_perm_swap (Polygon.neg?_closedPairs hr.valid hQ),
        V3.neg_neg']
    have : ∀ u w : V3, dot u (neg w) = - dot u w := fun u w => by simp only [dot, neg]; ring
    rw [h3, this, absQ_neg, hanchor]
#print axioms pyramidVolume_reoriented

theorem forall₂_map_eq {α β γ : Type} (φ : α → γ) (ψ : β → γ) {l1 : List α} {l2 : List β}
    (h : List.Forall₂ (fun a b => φ a = ψ b) l1 l2) : l1.map φ = l2.map ψ := by
  rwa [← List.forall₂_eq_eq_eq, List.forall₂_map_left_iff, List.forall₂_map_right_iff]

/-- **C09, queries on the result.**  For ANY successful `ConvexPolyhedron(input)` on a reordered, re-oriented face
    list of the valid body `B0` (no Euler hypothesis: success implies it): the result is `Valid`, its membership test
    is that of `B0` and is exactly the convex hull of its vertices, its centre is the mean of the face vertices of
    `B0`, and (when every stored polygon centre lies inside its polygon, e.g. is the vertex mean) its volume is the
    sum of the pyramids over the faces of `B0`. -/
theorem Polyhedron.mk?_reoriented_queries (B0 : Polyhedron) (hV : B0.Valid) (F input : List Polygon)
    (hperm : List.Perm F B0.faces) (hrel : List.Forall₂ Reoriented F input)
    (B : Polyhedron) (h : Polyhedron.mk? input = .ok B) :
    B.Valid ∧ B.center = meanV (collectVerts B0.faces) ∧ List.Perm B.verts (collectVerts B0.faces) ∧
    List.Forall₂ OutwardCopy F B.faces ∧
    (∀ x, B.contains x = B0.contains x) ∧ (∀ x, B.contains x = true ↔ InHull B.verts x) ∧
    ((∀ f ∈ B0.faces, ∀ e ∈ closedPairs f.pts, 0 ≤ orient f.plane.n e.1 e.2 f.center) →
     (∀ g ∈ input, ∀ e ∈ closedPairs g.pts, 0 ≤ orient g.plane.n e.1 e.2 g.center) →
      B.volume = (B0.faces.map (fun f => pyramidVolume f B.center)).sum) := by
  have hE := (Polyhedron.mk?_reoriented_iff B0 hV F input hperm hrel).mp ⟨B, h⟩
  obtain ⟨B', hB', hBV, hBc, _, hcop, _, _, hvp, _, _, _, hpyr⟩ :=
    Polyhedron.mk?_reoriented B0 hV F input hperm hrel hE
  rw [h] at hB'; cases hB'
  have hFmem : ∀ f ∈ F, f ∈ B0.faces := fun f hf => hperm.mem_iff.mp hf
  refine ⟨hBV, hBc, hvp, hcop, ?_, fun x => B.contains_iff_hull hBV x, ?_⟩
  · intro x
    rw [Bool.eq_iff_iff, Polyhedron.contains_iff_side, Polyhedron.contains_iff_side]
    constructor
    · intro hh f hf
      obtain ⟨h', hh', hoc⟩ := Forall₂.exists_right hcop f (hperm.mem_iff.mpr hf)
      exact (hoc.samePlane.side_nonpos_iff x).mp (hh h' hh')
    · intro hh h' hh'
      obtain ⟨f, hf, hoc⟩ := Forall₂.exists_left hcop h' hh'
      exact (hoc.samePlane.side_nonpos_iff x).mpr (hh f (hFmem f hf))
  · intro hcf hcg
    unfold Polyhedron.volume
    rw [hpyr, List.map_map]
    have h1 : input.map ((fun pa : Polygon × V3 => pyramidVolume pa.1 pa.2) ∘ fun g => (g, B.center)) =
        F.map (fun f => pyramidVolume f B.center) := by
      symm
      apply forall₂_map_eq
      exact Forall₂.imp_mem hrel (fun f hf g hg hr => by
        simp only [Function.comp]
        exact (pyramidVolume_reoriented f g (hV.faces_valid f (hFmem f hf))
          (hV.center_in_plane f (hFmem f hf)) hr (hcf f (hFmem f hf)) (hcg g hg) B.center).symm)
    rw [h1]
    exact ((hperm.map _).sum_eq)
#print axioms Polyhedron.mk?_reoriented_queries

/-- **canonical result**: two successful constructions from two reordered, re-oriented face lists of the same valid
    body agree on centre, vertices (up to order), number of edges, membership and volume, and their faces are
    outward copies of the same faces -/
theorem Polyhedron.mk?_reoriented_two (B0 : Polyhedron) (hV : B0.Valid) (F1 F2 input1 input2 : List Polygon)
    (hperm1 : List.Perm F1 B0.faces) (hrel1 : List.Forall₂ Reoriented F1 input1)
    (hperm2 : List.Perm F2 B0.faces) (hrel2 : List.Forall₂ Reoriented F2 input2)
    (B1 B2 : Polyhedron) (h1 : Polyhedron.mk? input1 = .ok B1) (h2 : Polyhedron.mk? input2 = .ok B2)
    (hc0 : ∀ f ∈ B0.faces, ∀ e ∈ closedPairs f.pts, 0 ≤ orient f.plane.n e.1 e.2 f.center)
    (hc1 : ∀ g ∈ input1, ∀ e ∈ closedPairs g.pts, 0 ≤ orient g.plane.n e.1 e.2 g.center)
    (hc2 : ∀ g ∈ input2, ∀ e ∈ closedPairs g.pts, 0 ≤ orient g.plane.n e.1 e.2 g.center) :
    B1.center = B2.center ∧ List.Perm B1.verts B2.verts ∧ B1.edges.length = B2.edges.length ∧
    B1.faces.length = B2.faces.length ∧ (∀ x, B1.contains x = B2.contains x) ∧ B1.volume = B2.volume := by
  obtain ⟨_, c1, v1, _, m1, _, vol1⟩ := Polyhedron.mk?_reoriented_queries B0 hV F1 input1 hperm1 hrel1 B1 h1
  obtain ⟨_, c2, v2, _, m2, _, vol2⟩ := Polyhedron.mk?_reoriented_queries B0 hV F2 input2 hperm2 hrel2 B2 h2
  obtain ⟨_, e1, _, _, f1, _⟩ := Polyhedron.mk?_eq input1 B1 h1
  obtain ⟨_, e2, _, _, f2, _⟩ := Polyhedron.mk?_eq input2 B2 h2
  obtain ⟨_, _, l1, n1⟩ := reoriented_counts B0 hV F1 input1 hperm1 hrel1
  obtain ⟨_, _, l2, n2⟩ := reoriented_counts B0 hV F2 input2 hperm2 hrel2
  refine ⟨by rw [c1, c2], v1.trans v2.symm, by rw [e1, e2, l1, l2], ?_, fun x => by rw [m1, m2], ?_⟩
  · rw [f1, f2, List.length_map, List.length_map, n1, n2]
  · rw [vol1 hc0 hc1, vol2 hc0 hc2, c1, c2]
#print axioms Polyhedron.mk?_reoriented_two

/-- vertices as a set, when `B0.verts` lists exactly the face vertices -/
theorem Polyhedron.mk?_reoriented_verts (B0 : Polyhedron) (hV : B0.Valid) (F input : List Polygon)
    (hperm : List.Perm F B0.faces) (hrel : List.Forall₂ Reoriented F input)
    (hverts : ∀ v ∈ B0.verts, ∃ f ∈ B0.faces, v ∈ f.pts)
    (B : Polyhedron) (h : Polyhedron.mk? input = .ok B) : ∀ v, v ∈ B.verts ↔ v ∈ B0.verts := by
  obtain ⟨_, _, hvp, _⟩ := Polyhedron.mk?_reoriented_queries B0 hV F input hperm hrel B h
  intro v
  rw [hvp.mem_iff, mem_collectVerts]
  exact ⟨fun ⟨f, hf, hv⟩ => hV.pts_sub f hf v hv, hverts v⟩
end G3D
