import G3D.Extracted.Hflat
import G3D.Proofs.HandlersTieShared
/-! # Tie, group `hflat` (property C01): the twelve flat handlers of calc/intersection.py that are written in terms of
    other handlers / membership tests — extracted body (`G3D.Extracted.Hflat`, tools/extract_hflat.py) = hand model.
    See `G3D.Proofs.HandlersTie` for the conventions.

    Every proof evaluates the runtime primitives on the given operands (`simp only [pyrt]`), splits on the kind of
    the inner result, and is then closed by computation. -/
set_option linter.unusedSimpArgs false
namespace G3D.Tie
open V3 PyRt Extracted

/-! ### Segment × Segment, Segment × HalfLine, HalfLine × HalfLine -/

/-- the branch of the three handlers in which the carrier lines differ: `x`, `y` are the two operands,
    `cx`, `cy` their membership tests -/
theorem crossing_eq (r : Res) (x y : Val) (cx cy : V3 → Bool)
    (hx : ∀ q, pyIn (.obj (.flat (.point q))) x = .ok (.bool (cx q)))
    (hy : ∀ q, pyIn (.obj (.flat (.point q))) y = .ok (.bool (cy q))) :
    (do let i ← Val.ofRes (liftFlat r)
        if (pyIsNone i).truthy = true then Except.ok Val.none
        else if (pyIsInstance i PyTy.Point).truthy = true then do
          let c ← pyAnd (pyIn i x) (pyIn i y)
          if c.truthy = true then Except.ok i else Except.ok Val.none
        else Except.error BErr.bug) =
      Val.ofRes (liftFlat (match r with
        | .ok none => .ok none
        | .ok (some (.point q)) => .ok (if cx q && cy q then some (.point q) else none)
        | .ok _ => .error .bug
        | .error e => .error e)) := by
  rcases r with e | _ | g
  · cases e <;> rfl
  · rfl
  · cases g with
    | point q =>
      simp only [pyrt, hx, hy, decide_true, if_true]
      cases cx q <;> cases cy q <;> rfl
    | _ => rfl

/-- collinear carriers: the code adds each end point that lies in the other operand to a set, the model to a
    duplicate-free list; `pointTail_eq` and `ofPoints_cases` read the result off either -/
theorem h_inter_segment_segment_eq (a b : Seg) :
    h_inter_segment_segment (.obj (.flat (.seg a))) (.obj (.flat (.seg b))) =
      Val.ofRes (liftFlat (interSegSeg a b)) := by
  unfold h_inter_segment_segment interSegSeg
  simp -zeta only [pyrt, ite_bind_jp]
  by_cases h : a.line.eqv b.line = true <;> simp -zeta only [h, Bool.false_eq_true, ↓reduceIte]
  · simp only [pyrt, set_nil_pt, ite_ok_ptSet]
    exact (pointTail_eq _ _).trans (ofPoints_cases _).symm
  · exact crossing_eq _ _ _ _ _ (fun _ => rfl) (fun _ => rfl)

theorem h_inter_segment_halfline_eq (a : Seg) (b : HalfLine) :
    h_inter_segment_halfline (.obj (.flat (.seg a))) (.obj (.flat (.halfline b))) =
      Val.ofRes (liftFlat (interSegHalfLine a b)) := by
  unfold h_inter_segment_halfline interSegHalfLine
  simp -zeta only [pyrt, ite_bind_jp]
  by_cases h : a.line.eqv b.line = true <;> simp -zeta only [h, Bool.false_eq_true, ↓reduceIte]
  · simp only [pyrt, set_nil_pt, ite_ok_ptSet]
    exact (pointTail_eq _ _).trans (ofPoints_cases _).symm
  · exact crossing_eq _ _ _ _ _ (fun _ => rfl) (fun _ => rfl)

theorem h_inter_halfline_halfline_eq (a b : HalfLine) :
    h_inter_halfline_halfline (.obj (.flat (.halfline a))) (.obj (.flat (.halfline b))) =
      Val.ofRes (liftFlat (interHalfLineHalfLine a b)) := by
  unfold h_inter_halfline_halfline interHalfLineHalfLine
  simp -zeta only [pyrt, ite_bind_jp]
  by_cases h : a.line.eqv b.line = true <;> simp -zeta only [h, Bool.false_eq_true, ↓reduceIte]
  · cases b.containsHL a
    · cases a.containsHL b
      · simp only [pyrt, set_nil_pt, ite_ok_ptSet, Bool.false_eq_true, ↓reduceIte]
        exact (pointTail_eq _ _).trans (ofPoints_cases _).symm
      · rfl
    · rfl
  · exact crossing_eq _ _ _ _ _ (fun _ => rfl) (fun _ => rfl)

/-! ### Line / Plane × Segment / HalfLine: the operand's carrier line first, then the operand itself -/

theorem h_inter_line_segment_eq (l : Line) (s : Seg) :
    h_inter_line_segment (.obj (.flat (.line l))) (.obj (.flat (.seg s))) = Val.ofRes (liftFlat (interLineSeg l s)) := by
  unfold h_inter_line_segment interLineSeg
  simp only [pyrt]
  rcases interLineLine l s.line with e | _ | g
  · cases e <;> rfl
  · rfl
  · cases g <;> rfl

theorem h_inter_line_halfline_eq (l : Line) (h : HalfLine) :
    h_inter_line_halfline (.obj (.flat (.line l))) (.obj (.flat (.halfline h))) =
      Val.ofRes (liftFlat (interLineHalfLine l h)) := by
  unfold h_inter_line_halfline interLineHalfLine
  simp only [pyrt]
  rcases interLineLine l h.line with e | _ | g
  · cases e <;> rfl
  · rfl
  · cases g <;> rfl

theorem h_inter_plane_segment_eq (a : Plane) (s : Seg) :
    h_inter_plane_segment (.obj (.flat (.plane a))) (.obj (.flat (.seg s))) = Val.ofRes (liftFlat (interPlaneSeg a s)) := by
  unfold h_inter_plane_segment interPlaneSeg
  simp only [pyrt]
  rcases interLinePlane s.line a with e | _ | g
  · cases e <;> rfl
  · rfl
  · cases g <;> rfl

theorem h_inter_plane_halfline_eq (a : Plane) (h : HalfLine) :
    h_inter_plane_halfline (.obj (.flat (.plane a))) (.obj (.flat (.halfline h))) =
      Val.ofRes (liftFlat (interPlaneHalfLine a h)) := by
  unfold h_inter_plane_halfline interPlaneHalfLine
  simp only [pyrt]
  rcases interLinePlane h.line a with e | _ | g
  · cases e <;> rfl
  · rfl
  · cases g <;> rfl

/-! ### the five `inter_point_*` flat handlers: a membership test -/
theorem h_inter_point_point_eq (p q : V3) :
    h_inter_point_point (.obj (.flat (.point p))) (.obj (.flat (.point q))) = Val.ofRes (liftFlat (interPointPoint p q)) := by
  unfold h_inter_point_point
  by_cases h : p = q <;> simp [pyrt, interPointPoint, h]

theorem h_inter_point_line_eq (p : V3) (l : Line) :
    h_inter_point_line (.obj (.flat (.point p))) (.obj (.flat (.line l))) = Val.ofRes (liftFlat (interPointLine p l)) := by
  unfold h_inter_point_line interPointLine
  simp only [pyrt]
  cases l.contains p <;> rfl

theorem h_inter_point_plane_eq (p : V3) (a : Plane) :
    h_inter_point_plane (.obj (.flat (.point p))) (.obj (.flat (.plane a))) = Val.ofRes (liftFlat (interPointPlane p a)) := by
  unfold h_inter_point_plane interPointPlane
  simp only [pyrt]
  cases a.contains p <;> rfl

theorem h_inter_point_segment_eq (p : V3) (s : Seg) :
    h_inter_point_segment (.obj (.flat (.point p))) (.obj (.flat (.seg s))) = Val.ofRes (liftFlat (interPointSeg p s)) := by
  unfold h_inter_point_segment interPointSeg
  simp only [pyrt]
  cases s.contains p <;> rfl

theorem h_inter_point_halfline_eq (p : V3) (hl : HalfLine) :
    h_inter_point_halfline (.obj (.flat (.point p))) (.obj (.flat (.halfline hl))) =
      Val.ofRes (liftFlat (interPointHalfLine p hl)) := by
  unfold h_inter_point_halfline interPointHalfLine
  simp only [pyrt]
  cases hl.contains p <;> rfl

/-! ## axiom audit -/
#print axioms h_inter_segment_segment_eq
#print axioms h_inter_segment_halfline_eq
#print axioms h_inter_halfline_halfline_eq
#print axioms h_inter_line_segment_eq
#print axioms h_inter_line_halfline_eq
#print axioms h_inter_plane_segment_eq
#print axioms h_inter_plane_halfline_eq
#print axioms h_inter_point_point_eq
#print axioms h_inter_point_line_eq
#print axioms h_inter_point_plane_eq
#print axioms h_inter_point_segment_eq
#print axioms h_inter_point_halfline_eq

end G3D.Tie
