import G3D.Proofs.Collinear

/-! C08 for flats: `__eq__` decides equality of the denoted sets. -/
namespace G3D
open V3

/-- `Segment.__eq__` -/
def Seg.eqv (s o : Seg) : Bool := (s.a == o.a && s.b == o.b) || (s.b == o.a && s.a == o.b)

/-- `HalfLine.__eq__`: same origin and same unit direction; with unnormalised data: parallel and
    positively proportional -/
def HalfLine.eqv (h o : HalfLine) : Bool := h.p == o.p && V3.parallel h.v o.v && decide (0 < dot h.v o.v)

theorem Plane.eqv_iff (a b : Plane) (ha : a.WF) (hb : b.WF) :
    a.eqv b = true ↔ ∀ x, a.den x ↔ b.den x := by
  constructor
  · exact Plane.eqv_den a b ha hb
  · intro h
    have hp : b.den a.p := (h a.p).mp (by simp [Plane.den, dot, sub])
    -- every direction orthogonal to a.n is orthogonal to b.n; apply to u = a.n × (a.n × b.n)
    have key : ∀ u, dot a.n u = 0 → dot b.n u = 0 := by
      intro u hu
      have hx : a.den (add a.p u) := by
        simp only [Plane.den]
        have : dot a.n (sub (add a.p u) a.p) = dot a.n u := by simp only [dot, sub, add]; ring
        rw [this, hu]
      have hy := (h _).mp hx
      simp only [Plane.den] at hy hp
      have : dot b.n (sub (add a.p u) b.p) = dot b.n (sub a.p b.p) + dot b.n u := by
        simp only [dot, sub, add]; ring
      rw [this, hp] at hy; linarith
    have h0 := key (cross a.n (cross a.n b.n)) (dot_cross_self _ _)
    have hl : dot b.n (cross a.n (cross a.n b.n)) = - normSq (cross a.n b.n) := by
      simp only [dot, cross, normSq]; ring
    rw [hl] at h0
    have hc : cross a.n b.n = zero := normSq_eq_zero.mp (by linarith)
    exact Plane.eqv_of_parallel_common a b ha hb ((parallel_iff_cross _ _).mpr hc) a.p
      (by simp [Plane.den, dot, sub]) hp

/-- an endpoint of a segment is not strictly between two of its points -/
theorem Seg.eqv_iff (s o : Seg) (hs : s.WF) (ho : o.WF) :
    s.eqv o = true ↔ ∀ x, s.den x ↔ o.den x := by
  constructor
  · intro h
    unfold Seg.eqv at h
    simp only [Bool.or_eq_true, Bool.and_eq_true, beq_iff_eq] at h
    intro x
    show Between s.a s.b x ↔ Between o.a o.b x
    rcases h with ⟨h1, h2⟩ | ⟨h1, h2⟩
    · rw [h1, h2]
    · rw [h1, h2]; exact Between_swap _ _ _
  · intro h
    -- parametrise along s: o.a = pt s0, o.b = pt e0 with both in [0,1]; s.a, s.b in o forces {s0,e0} = {0,1}
    obtain ⟨hdn, hs1, -, -⟩ := s.own_params hs
    set d := sub s.b s.a
    have hs0 : s.a = pt s.a d 0 := (pt_at_zero _ _).symm
    obtain ⟨u, hu0, hu1, hua⟩ := (h o.a).mpr o.a_mem_den
    obtain ⟨v, hv0, hv1, hvb⟩ := (h o.b).mpr o.b_mem_den
    have hoa : o.a = pt s.a d u := hua
    have hob : o.b = pt s.a d v := hvb
    have huv : u ≠ v := by
      intro e; apply ho.1; rw [hoa, hob, e]
    have oden := seg_den_pt hdn o hoa hob
    have h0 := (oden 0).mp (by rw [← hs0]; exact (h s.a).mp s.a_mem_den)
    have h1 := (oden 1).mp (by rw [← hs1]; exact (h s.b).mp s.b_mem_den)
    unfold Seg.eqv
    simp only [Bool.or_eq_true, Bool.and_eq_true, beq_iff_eq]
    rcases le_total u v with huv' | huv'
    · rw [min_eq_left huv', max_eq_right huv'] at h0 h1
      left
      have hu : u = 0 := le_antisymm h0.1 hu0
      have hv : v = 1 := le_antisymm hv1 h1.2
      exact ⟨by rw [hoa, hu]; exact hs0, by rw [hob, hv]; exact hs1⟩
    · rw [min_eq_right huv', max_eq_left huv'] at h0 h1
      right
      have hv : v = 0 := le_antisymm h0.1 hv0
      have hu : u = 1 := le_antisymm hu1 h1.2
      exact ⟨by rw [hoa, hu]; exact hs1, by rw [hob, hv]; exact hs0⟩
#print axioms Plane.eqv_iff
#print axioms Seg.eqv_iff

theorem V3.one_smul (v : V3) : smul 1 v = v := V3.ext' (one_mul _) (one_mul _) (one_mul _)

theorem pos_parallel_iff {u v : V3} (hv : v ≠ zero) :
    (V3.parallel u v = true ∧ 0 < dot u v) ↔ ∃ k : Rat, 0 < k ∧ u = smul k v := by
  have hN := normSq_pos hv
  constructor
  · rintro ⟨hpar, hpos⟩
    rw [parallel_iff_cross] at hpar
    exact ⟨_, div_pos hpos hN, eq_smul_of_cross_eq_zero hv hpar⟩
  · rintro ⟨k, hk, rfl⟩
    refine ⟨parallel_smul k v, ?_⟩
    have : dot (smul k v) v = k * normSq v := by simp only [dot, smul, normSq]; ring
    rw [this]; positivity

theorem HalfLine.eqv_iff (h o : HalfLine) (hh : h.WF) (ho : o.WF) :
    h.eqv o = true ↔ ∀ x, h.den x ↔ o.den x := by
  have hov := ho.1
  unfold HalfLine.eqv
  simp only [Bool.and_eq_true, beq_iff_eq, decide_eq_true_eq]
  rw [and_assoc, pos_parallel_iff hov]
  constructor
  · rintro ⟨hp, k, hk, hv⟩ x
    unfold HalfLine.den
    rw [hp, hv]
    constructor
    · rintro ⟨t, ht, rfl⟩
      exact ⟨(t * k : Rat), by positivity, by apply V3.ext' <;> simp only [add, smul, mul_assoc]⟩
    · rintro ⟨t, ht, rfl⟩
      exact ⟨(t / k : Rat), by positivity, by apply V3.ext' <;> simp only [add, smul, ← mul_assoc, div_mul_cancel₀ _ hk.ne']⟩
  · intro hd
    -- coordinates along o: `o` is `0 ≤ t`, `h` is `0 ≤ k (t - t0)`
    have hp0 : o.p = pt o.p o.v 0 := (pt_at_zero _ _).symm
    have oden : ∀ t, o.den (pt o.p o.v t) ↔ 0 ≤ t := fun t => by
      rw [hl_den_pt hov o hp0 (V3.one_smul o.v).symm one_ne_zero t, one_mul, sub_zero]
    obtain ⟨t0, -, hpt0⟩ := (hd h.p).mp h.p_mem_den
    obtain ⟨t1, -, hpt1⟩ := (hd (add h.p h.v)).mp ⟨1, zero_le_one, by rw [V3.one_smul]⟩
    have hvk : h.v = smul (t1 - t0) o.v := by
      rw [← pt_sub_pt o.p o.v t1 t0, ← show add h.p h.v = pt o.p o.v t1 from hpt1, ← show h.p = pt o.p o.v t0 from hpt0]
      apply V3.ext' <;> exact (add_sub_cancel_left _ _).symm
    have hk0 : t1 - t0 ≠ 0 := smul_ne_zero_left (by rw [← hvk]; exact hh.1)
    have hden : ∀ t, 0 ≤ t ↔ 0 ≤ (t1 - t0) * (t - t0) := fun t => by
      rw [← oden, ← hd, hl_den_pt hov h hpt0 hvk hk0]
    -- a far point of o lies in h, hence the directions agree; its origin lies in h and vice versa, hence the origins agree
    have hkpos : 0 < t1 - t0 := by
      have := (hden (|t0| + 1)).mp (by positivity)
      exact lt_of_le_of_ne (nonneg_of_mul_nonneg_left this (by linarith [le_abs_self t0])) hk0.symm
    have ht00 : t0 = 0 := le_antisymm
      (by have := nonneg_of_mul_nonneg_right ((hden 0).mp le_rfl) hkpos; linarith)
      ((hden t0).mpr (by rw [sub_self, mul_zero]))
    exact ⟨by rw [hpt0, ht00]; exact hp0.symm, _, hkpos, hvk⟩
#print axioms HalfLine.eqv_iff
end G3D
