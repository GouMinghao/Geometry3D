import G3D.Proofs.MeasBody
import G3D.Proofs.MoveReturned

/-! # C06 / C07: the measures are invariant under `move` (translation)

    Already present: `Polygon.move_edgeLenSqs`, `Polygon.move_areaNum`, `Polygon.move_area_sq` (division-free),
    `Polyhedron.moved_volume`, `Polyhedron.move_valid` (volume of the moved body).  Added here: the statements in terms
    of `Polygon.areaSq`, the object `move` RETURNS, and edge lengths / face areas / surface-integral volume of the moved
    body. -/
namespace G3D
open V3

/-- the vector area of a closed cycle is translation invariant -/
theorem Meas.vecArea2_translate (v : V3) (l : List V3) : vecArea2 (l.map (fun p => add p v)) = vecArea2 l := by
  rw [← vec_fan (add zero v) (l.map (fun p => add p v)), ← vec_fan zero l, closedPairs_map, List.map_map]
  congr 1
  apply List.map_congr_left
  intro e _
  simp only [Function.comp, sub_add_add]

/-- `move` keeps the squared area of a valid polygon (receiver after the call) -/
theorem Polygon.move_areaSq (P : Polygon) (hv : P.Valid) (hc : P.CentreInside) (v : V3) :
    (P.move v).1.areaSq = P.areaSq := by
  obtain ⟨k, hk, _, ha, hn⟩ := Polygon.move_areaNum P hv hc v
  unfold Polygon.areaSq
  rw [ha, hn, mul_pow, mul_left_comm 4, mul_div_mul_left _ _ (pow_ne_zero 2 hk.ne')]

/-- `move` on a valid polygon: the receiver after the call and the RETURNED polygon have the squared area and the
    squared edge lengths of the polygon before the call -/
theorem Polygon.move_measures (P : Polygon) (hv : P.Valid) (hc : P.CentreInside) (v : V3) :
    (P.move v).2 = .ok (P.move v).1 ∧ (P.move v).1.Valid ∧
    (P.move v).1.areaSq = P.areaSq ∧ (P.move v).1.edgeLenSqs = P.edgeLenSqs :=
  ⟨Polygon.move_returned_eq_receiver P hv v, Polygon.move_valid P hv v, Polygon.move_areaSq P hv hc v,
    Polygon.move_edgeLenSqs P v⟩

theorem Meas.segT_lenSq (v : V3) (s : Seg) : (segT v s).lenSq = s.lenSq := by
  show normSq (sub (add s.b v) (add s.a v)) = normSq (sub s.b s.a)
  rw [sub_add_add]

/-- **the moved body** (`Polyhedron.moved`, what `move` leaves behind and returns on a `Valid` body): squared edge
    lengths, squared face areas (list-wise, not only as multisets) and volume are those of the body before the move;
    the volume is the surface integral over the ORIGINAL faces for every reference point -/
theorem Polyhedron.moved_measures (B : Polyhedron) (hV : B.Valid) (hctr : ∀ f ∈ B.faces, f.CentreInside) (v : V3) :
    (B.moved v).edgeLenSqs = (edgesOf B.faces []).map Seg.lenSq ∧
    (B.moved v).faces.map Polygon.areaSq = B.faces.map Polygon.areaSq ∧
    (∀ q, (B.moved v).volume = vol6 (B.faces.map (·.pts)) q / 6) := by
  refine ⟨?_, ?_, ?_⟩
  · show ((edgesOf B.faces []).map (segT v)).map Seg.lenSq = _
    rw [List.map_map]
    apply List.map_congr_left
    intro s _
    exact Meas.segT_lenSq v s
  · show (B.faces.map (fun f => (rebuild f).translate v)).map Polygon.areaSq = _
    rw [List.map_map]
    apply List.map_congr_left
    intro f hf
    have hfv := hV.faces_valid f hf
    obtain ⟨_, hval, _, hpts, hcen, _⟩ := moved_face f hfv (hV.center_in_plane f hf) v
    have hci : ((rebuild f).translate v).CentreInside :=
      Polygon.CentreInside.of_mean hval (by rw [hcen, hpts]; exact (meanV_translate v f.pts hfv.pts_ne_nil).symm)
    simp only [Function.comp]
    rw [Polygon.areaSq_eq_vecArea _ hval hci, f.areaSq_eq_vecArea hfv (hctr f hf), hpts, Meas.vecArea2_translate]
  · intro q
    rw [B.moved_volume hV hctr v, vol6_ref_independent _ hV.closed q (meanV (collectVerts B.faces)),
      ← Meas.sum_coneTerm_div]
    congr 1
    apply List.map_congr_left
    intro f hf
    exact Meas.pyramidVolume_of_face f f (hV.faces_valid f hf) (hV.center_in_plane f hf) (hV.faces_valid f hf)
      (hctr f hf) (fun _ => Iff.rfl) _ (le_of_lt (hV.mean_interior f hf))
#print axioms Polygon.move_measures
#print axioms Polyhedron.moved_measures
end G3D
