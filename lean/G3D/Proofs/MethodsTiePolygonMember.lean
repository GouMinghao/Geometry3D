import G3D.Extracted.Mpolygon
import G3D.Proofs.MethodsTiePolygonShared
/-! # Tie, group `mpolygon`, role MEMBERSHIP (C05): `__contains__` (Point / Segment / other), `in_`.  Conventions, trusted readings and the deviations found: `G3D.Proofs.MethodsTie`, header of `G3D.Model.PyRtM`. -/
set_option linter.style.nameCheck false
namespace G3D.Tie
open V3 PyRt Extracted

theorem m_ConvexPolygon___contains___raw_point (P : Polygon) (x : V3) :
    m_ConvexPolygon___contains__ (Self.ofPolygon P) (.obj (ptObj x)) =
      if P.plane.n = zero then .error (.ctor .zeroDiv) else .ok (.bool (P.contains x)) := by
  unfold m_ConvexPolygon___contains__
  by_cases hn : P.plane.n = zero
  · simp [Self.ofPolygon, pyrt, hn]
  simp only [Self.ofPolygon, pyrt, Val.ptSeq, List.length_map, hn, if_false, Int.sub_zero, Int.toNat_natCast, decide_true, if_true]
  rw [show Val.bool true = (fun b : Bool => Val.bool b) true from rfl]
  rw [forIn_cyc P.pts (fun b : Bool => Val.bool b) _
    (fun e r => if decide (0 ≤ edgeSide P.plane.n e.1 e.2 x) = true then .ok (.yield r) else .ok (.done false))]
  · rw [forIn_all]
    simp only [pyrt, Polygon.contains, Bool.and_true]
    cases P.plane.contains x <;> rfl
  · intro k a b hk r
    obtain ⟨h0, hb⟩ := cyc_index P.pts k a b hk
    rcases hb with ⟨hk1, hb⟩ | ⟨hk1, hb⟩ <;>
      simp [pyrt, hk1, h0, hb, ForInStep.map', ← not_lt] <;> rfl

theorem m_ConvexPolygon___contains___eq_seg (P : Polygon) (s : Seg) :
    m_ConvexPolygon___contains__ (Self.ofPolygon P) (.obj (sgObj s)) = .ok (.bool (P.containsSeg s)) := by
  unfold m_ConvexPolygon___contains__
  simp [pyPack_ConvexPolygon_of, pyrt, Polygon.containsSeg]

theorem m_ConvexPolygon___contains___eq_other (P : Polygon) (l : Line) :
    m_ConvexPolygon___contains__ (Self.ofPolygon P) (.obj (lnObj l)) = .error .notImpl := rfl

theorem m_ConvexPolygon_in__eq (P : Polygon) (a : Plane) :
    m_ConvexPolygon_in_ (Self.ofPolygon P) (.obj (plObj a)) = .ok (.bool (P.inPlane a)) := rfl

theorem m_ConvexPolygon_in__eq_other (P : Polygon) (l : Line) :
    m_ConvexPolygon_in_ (Self.ofPolygon P) (.obj (lnObj l)) = .error .notImpl := rfl

theorem m_ConvexPolygon___contains___eq_point (P : Polygon) (x : V3) (h : P.plane.WF) :
    m_ConvexPolygon___contains__ (Self.ofPolygon P) (.obj (ptObj x)) = .ok (.bool (P.contains x)) := by
  rw [m_ConvexPolygon___contains___raw_point, if_neg h]

end G3D.Tie
