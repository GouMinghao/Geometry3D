import G3D.Model.Distance
import G3D.Proofs.InterFlat
import Mathlib.Tactic.Positivity

namespace G3D
open V3

/-- `d2` is the minimum of the squared distance between the point sets `A` and `B` -/
def IsMinDistSq (d2 : Rat) (A B : V3 → Prop) : Prop :=
  (∀ x y, A x → B y → d2 ≤ normSq (sub y x)) ∧ ∃ x y, A x ∧ B y ∧ normSq (sub y x) = d2

theorem not_orthogonal_self {n : V3} (hn : n ≠ zero) : ¬ V3.orthogonal n n = true := by
  simp only [V3.orthogonal, beq_iff_eq]; exact ne_of_gt (normSq_pos hn)

/-- Pythagoras: the foot `f` of the perpendicular from `a` is nearer to `a` than any `y` with `y - f ⟂ f - a` -/
theorem normSq_foot_le {a f y : V3} (h : dot (sub f a) (sub y f) = 0) : normSq (sub f a) ≤ normSq (sub y a) := by
  have : normSq (sub y a) = normSq (sub f a) + normSq (sub y f) + 2 * dot (sub f a) (sub y f) := by
    simp only [normSq, dot, sub]; ring
  rw [this, h]; linarith [normSq_nonneg (sub y f)]

theorem distSqPointLine_spec (a : V3) (b : Line) (hb : b.WF) :
    ∃ d2, distSqPointLine a b = .ok d2 ∧ IsMinDistSq d2 (· = a) b.den := by
  obtain ⟨f, hf, ⟨mu, rfl⟩, hfp⟩ := interLinePlane_transversal b ⟨a, b.dv⟩ hb (not_orthogonal_self hb)
  refine ⟨_, by rw [distSqPointLine, hf]; rfl, ?_, a, _, rfl, ⟨mu, rfl⟩, rfl⟩
  rintro x y rfl ⟨t, rfl⟩
  -- `y - f` is along the line, `f - x` lies in the auxiliary plane perpendicular to it
  apply normSq_foot_le
  rw [show dot (sub (add b.sv (smul mu b.dv)) x) (sub (add b.sv (smul t b.dv)) (add b.sv (smul mu b.dv)))
      = (t - mu) * dot b.dv (sub (add b.sv (smul mu b.dv)) x) by simp only [dot, sub, add, smul]; ring]
  exact mul_eq_zero_of_right _ hfp

theorem distSqPointPlane_spec (a : V3) (b : Plane) (hb : b.WF) :
    ∃ d2, distSqPointPlane a b = .ok d2 ∧ IsMinDistSq d2 (· = a) b.den := by
  obtain ⟨f, hf, ⟨mu, hmu⟩, hfb⟩ := interLinePlane_transversal ⟨a, b.n⟩ b hb (not_orthogonal_self hb)
  have hmu : f = add a (smul mu b.n) := hmu
  subst hmu
  refine ⟨_, by rw [distSqPointPlane, hf]; rfl, ?_, a, _, rfl, hfb, rfl⟩
  rintro x y rfl hy
  -- `f - x` is along the normal, `y - f` lies in the plane
  apply normSq_foot_le
  rw [show dot (sub (add x (smul mu b.n)) x) (sub y (add x (smul mu b.n)))
      = mu * dot b.n (sub y (add x (smul mu b.n))) by simp only [dot, sub, add, smul]; ring,
    b.dot_sub_eq_zero hy hfb, mul_zero]

theorem cauchy_schwarz (u v : V3) : (dot u v)^2 ≤ normSq u * normSq v := by
  have := lagrange u v
  nlinarith [normSq_nonneg (cross u v)]

/-- Cramer's rule in the basis `u`, `v`, `u × v` -/
theorem cross_basis (u v w : V3) :
    smul (normSq (cross u v)) w = add (sub (smul (dot (cross w v) (cross u v)) u)
      (smul (dot (cross w u) (cross u v)) v)) (smul (dot w (cross u v)) (cross u v)) := by
  apply V3.ext' <;> simp only [normSq, dot, cross, smul, add, sub] <;> ring

/-- from `w`, going along `v` and back along `u` by the Cramer coefficients leaves the component along `u × v` -/
theorem perp_component (u v w : V3) (hN : normSq (cross u v) ≠ 0) :
    add w (sub (smul (dot (cross w u) (cross u v) / normSq (cross u v)) v)
      (smul (dot (cross w v) (cross u v) / normSq (cross u v)) u))
      = smul (dot w (cross u v) / normSq (cross u v)) (cross u v) := by
  have h := cross_basis u v w
  have hx := congrArg V3.x h; have hy := congrArg V3.y h; have hz := congrArg V3.z h
  generalize cross u v = c at *
  simp only [smul, add, sub] at hx hy hz
  apply V3.ext' <;> simp only [smul, add, sub] <;> field_simp <;> linarith

theorem distSqLineLine_skew_spec (a b : Line) (hpar : ¬ V3.parallel a.dv b.dv = true) :
    IsMinDistSq ((dot (sub b.sv a.sv) (cross a.dv b.dv))^2 / normSq (cross a.dv b.dv)) a.den b.den := by
  have hN := normSq_pos (cross_ne_zero_of_not_parallel hpar)
  -- `y - x` is `b.sv - a.sv` plus multiples of the two directions
  have hsub : ∀ t u, sub (add b.sv (smul u b.dv)) (add a.sv (smul t a.dv))
      = add (sub b.sv a.sv) (sub (smul u b.dv) (smul t a.dv)) := fun t u => by
    apply V3.ext' <;> simp only [sub, add, smul] <;> ring
  constructor
  · rintro x y ⟨t, rfl⟩ ⟨u, rfl⟩
    rw [div_le_iff₀ hN]
    -- along the common perpendicular all these differences have the same component
    have e : dot (sub (add b.sv (smul u b.dv)) (add a.sv (smul t a.dv))) (cross a.dv b.dv)
        = dot (sub b.sv a.sv) (cross a.dv b.dv) := by simp only [dot, sub, add, smul, cross]; ring
    have := cauchy_schwarz (sub (add b.sv (smul u b.dv)) (add a.sv (smul t a.dv))) (cross a.dv b.dv)
    rwa [e] at this
  · refine ⟨_, _, ⟨dot (cross (sub b.sv a.sv) b.dv) (cross a.dv b.dv) / normSq (cross a.dv b.dv), rfl⟩,
      ⟨dot (cross (sub b.sv a.sv) a.dv) (cross a.dv b.dv) / normSq (cross a.dv b.dv), rfl⟩, ?_⟩
    rw [hsub, perp_component a.dv b.dv _ (ne_of_gt hN)]
    generalize cross a.dv b.dv = c at hN ⊢
    rw [show normSq (smul (dot (sub b.sv a.sv) c / normSq c) c) = (dot (sub b.sv a.sv) c / normSq c)^2 * normSq c by
      simp only [normSq, dot, smul]; ring]
    field_simp

theorem normSq_sub_comm (x y : V3) : normSq (sub y x) = normSq (sub x y) := by
  simp only [normSq, dot, sub]; ring

theorem IsMinDistSq.symm {d2 : Rat} {A B : V3 → Prop} (h : IsMinDistSq d2 A B) : IsMinDistSq d2 B A := by
  obtain ⟨h1, x, y, hx, hy, he⟩ := h
  exact ⟨fun y' x' hy' hx' => by rw [normSq_sub_comm]; exact h1 x' y' hx' hy',
    y, x, hy, hx, by rw [normSq_sub_comm]; exact he⟩

theorem IsMinDistSq.nonneg {d2 : Rat} {A B : V3 → Prop} (h : IsMinDistSq d2 A B) : 0 ≤ d2 := by
  obtain ⟨_, x, y, _, _, he⟩ := h
  rw [← he]; exact normSq_nonneg _

theorem IsMinDistSq.eq_of_both {d d' : Rat} {A B : V3 → Prop} (h : IsMinDistSq d A B) (h' : IsMinDistSq d' A B) :
    d = d' := by
  obtain ⟨lb, x, y, hx, hy, e⟩ := h
  obtain ⟨lb', x', y', hx', hy', e'⟩ := h'
  exact le_antisymm (e' ▸ lb x' y' hx' hy') (e ▸ lb' x y hx hy)

/-- distance zero exactly when the sets meet -/
theorem IsMinDistSq.zero_iff {d2 : Rat} {A B : V3 → Prop} (h : IsMinDistSq d2 A B) :
    d2 = 0 ↔ ∃ x, A x ∧ B x := by
  obtain ⟨h1, x, y, hx, hy, he⟩ := h
  constructor
  · intro h0
    rw [h0] at he
    have : y = x := sub_eq_zero_iff.mp (normSq_eq_zero.mp he)
    exact ⟨x, hx, this ▸ hy⟩
  · rintro ⟨z, hz1, hz2⟩
    have := h1 z z hz1 hz2
    rw [show normSq (sub z z) = 0 by simp [normSq, dot, sub]] at this
    exact le_antisymm this (he ▸ normSq_nonneg _)

theorem IsMinDistSq.of_invariant {d2 : Rat} {a : Line} {B : V3 → Prop} (h : IsMinDistSq d2 (· = a.sv) B)
    (hB : ∀ y t, B y → B (sub y (smul t a.dv))) : IsMinDistSq d2 a.den B := by
  obtain ⟨hmin, x0, y0, rfl, hy0, he⟩ := h
  refine ⟨?_, a.sv, y0, ⟨0, (pt_at_zero ..).symm⟩, hy0, he⟩
  rintro x y ⟨t, rfl⟩ hy
  have := hmin a.sv _ rfl (hB y t hy)
  rwa [show normSq (sub (sub y (smul t a.dv)) a.sv) = normSq (sub y (add a.sv (smul t a.dv))) by
    simp only [normSq, dot, sub, add, smul]; ring] at this

theorem distSqLineLine_spec (a b : Line) (ha : a.WF) (hb : b.WF) :
    ∃ d2, distSqLineLine a b = .ok d2 ∧ IsMinDistSq d2 a.den b.den := by
  unfold distSqLineLine
  by_cases hpar : V3.parallel a.dv b.dv = true
  · rw [if_pos hpar]
    obtain ⟨d2, hd, hmin⟩ := distSqPointLine_spec a.sv b hb
    obtain ⟨k, hk⟩ : ∃ k, a.dv = smul k b.dv := ⟨_, eq_smul_of_cross_eq_zero hb ((parallel_iff_cross ..).mp hpar)⟩
    refine ⟨d2, hd, hmin.of_invariant ?_⟩
    rintro y t ⟨u, rfl⟩
    exact ⟨u - t * k, by rw [hk]; apply V3.ext' <;> simp only [sub, add, smul] <;> ring⟩
  · rw [if_neg hpar]
    exact ⟨_, rfl, distSqLineLine_skew_spec a b hpar⟩

theorem distSqLinePlane_spec (a : Line) (b : Plane) (ha : a.WF) (hb : b.WF) :
    ∃ d2, distSqLinePlane a b = .ok d2 ∧ IsMinDistSq d2 a.den b.den := by
  unfold distSqLinePlane
  by_cases ho : V3.orthogonal a.dv b.n = true
  · rw [if_pos ho]
    obtain ⟨d2, hd, hmin⟩ := distSqPointPlane_spec a.sv b hb
    refine ⟨d2, hd, hmin.of_invariant fun y t hy => ?_⟩
    rw [orthogonal_iff_dot] at ho
    rw [Plane.den, show dot b.n (sub (sub y (smul t a.dv)) b.p) = dot b.n (sub y b.p) - t * dot b.n a.dv by
      simp only [dot, sub, smul]; ring, show dot b.n (sub y b.p) = 0 from hy, ho, mul_zero, sub_zero]
  · rw [if_neg ho]
    obtain ⟨q, -, hqa, hqb⟩ := interLinePlane_transversal a b ha ho
    exact ⟨0, rfl, fun x y _ _ => normSq_nonneg _, q, q, hqa, hqb, by simp [normSq, dot, sub]⟩
#print axioms distSqPointLine_spec
#print axioms distSqPointPlane_spec
#print axioms distSqLineLine_spec
#print axioms distSqLinePlane_spec
end G3D
