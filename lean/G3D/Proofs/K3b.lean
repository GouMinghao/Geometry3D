import G3D.Proofs.K3a
import G3D.Proofs.K2Geom

/-! # Kernel K3, part b: completeness (hence exactness) of Segment / HalfLine × ConvexPolyhedron

    The handlers collect Point hits on faces and edges plus end points inside the body and turn a collected set of
    0 / 1 / 2 points into None / Point / Segment ("Bug detected" for more).  Exactness therefore needs that EVERY
    collected point is an end point of `X ∩ K`; this uses `FaceLocal` (body ∩ face plane = face) for the face hits and
    `EdgesReal` (every listed edge is an edge of a face) for the edge hits. -/
namespace G3D
open V3

/-! ### every hit is an end point of `X ∩ K` -/

/-- every listed edge is an edge of some face (in one of the two directions) -/
def Polyhedron.EdgesReal (B : Polyhedron) : Prop :=
  ∀ s ∈ B.edges, ∃ f ∈ B.faces, ∃ e ∈ closedPairs f.pts, (s.a = e.1 ∧ s.b = e.2) ∨ (s.a = e.2 ∧ s.b = e.1)

/-- a point of `X ∩ K = pt o d '' [lo, hi]` lying in the plane of a face crossed transversally is an end point -/
theorem K3.transversal_endpoint (B : Polyhedron) (o d : V3) (X : V3 → Prop) (lo hi : Rat)
    (hXK : ∀ x, (X x ∧ B.contains x = true) ↔ ∃ t, (lo ≤ t ∧ t ≤ hi) ∧ x = pt o d t)
    (f : Polygon) (hf : f ∈ B.faces) (tp : Rat) (h1 : lo ≤ tp) (h2 : tp ≤ hi)
    (hs : f.side (pt o d tp) = 0) (hslope : dot f.plane.n d ≠ 0) :
    pt o d tp = pt o d lo ∨ pt o d tp = pt o d hi := by
  have hle : lo ≤ hi := le_trans h1 h2
  have klo : B.contains (pt o d lo) = true := ((hXK _).mpr ⟨lo, ⟨le_refl _, hle⟩, rfl⟩).2
  have khi : B.contains (pt o d hi) = true := ((hXK _).mpr ⟨hi, ⟨hle, le_refl _⟩, rfl⟩).2
  have slo := (B.contains_iff_side _).mp klo f hf
  have shi := (B.contains_iff_side _).mp khi f hf
  rw [f.side_pt] at slo shi hs
  rcases lt_or_gt_of_ne hslope with hneg | hpos
  · left
    have : tp ≤ lo := by
      by_contra hc
      have := mul_neg_of_pos_of_neg (sub_pos.mpr (not_le.mp hc)) hneg
      linarith
    rw [le_antisymm this h1]
  · right
    have : hi ≤ tp := by
      by_contra hc
      have := mul_pos (sub_pos.mpr (not_le.mp hc)) hpos
      linarith
    rw [le_antisymm h2 this]

/-- **a Point hit on a face is an end point of `X ∩ K`** -/
theorem K3.face_hit_endpoint (B : Polyhedron) (hP : B.Proper) (o d : V3) (X : V3 → Prop) (lo hi : Rat)
    (hXK : ∀ x, (X x ∧ B.contains x = true) ↔ ∃ t, (lo ≤ t ∧ t ≤ hi) ∧ x = pt o d t)
    (f : Polygon) (hf : f ∈ B.faces) (p : V3) (hex : ∀ y, y = p ↔ (X y ∧ InHull f.pts y)) :
    lo ≤ hi ∧ (p = pt o d lo ∨ p = pt o d hi) := by
  have hp := (hex p).mp rfl
  obtain ⟨tp, ⟨h1, h2⟩, hpt⟩ := (hXK p).mp ⟨hp.1, hP.face_sub f hf p hp.2⟩
  have hle : lo ≤ hi := le_trans h1 h2
  refine ⟨hle, ?_⟩
  have hs : f.side (pt o d tp) = 0 := by rw [← hpt]; exact hP.side_of_face f hf p hp.2
  by_cases hslope : dot f.plane.n d = 0
  · left
    have hlo := (hXK _).mpr ⟨lo, ⟨le_refl _, hle⟩, rfl⟩
    have slo : f.side (pt o d lo) = 0 := by
      rw [f.side_pt] at hs ⊢
      rw [hslope] at hs ⊢; linarith
    exact ((hex _).mpr ⟨hlo.1, hP.tight _ hlo.2 f hf slo⟩).symm
  · rw [hpt]
    exact K3.transversal_endpoint B o d X lo hi hXK f hf tp h1 h2 hs hslope

theorem K3.seg_den_edge (s : Seg) (e : V3 × V3) (hse : (s.a = e.1 ∧ s.b = e.2) ∨ (s.a = e.2 ∧ s.b = e.1)) (y : V3) :
    s.den y ↔ Between e.1 e.2 y := by
  rcases hse with ⟨h1, h2⟩ | ⟨h1, h2⟩
  · unfold Seg.den Between; rw [h1, h2]
  · rw [Between_swap]; unfold Seg.den Between; rw [h1, h2]

theorem K3.ends_of_edge {s : Seg} {e : V3 × V3} (hse : (s.a = e.1 ∧ s.b = e.2) ∨ (s.a = e.2 ∧ s.b = e.1))
    {P : V3 → Prop} (ha : P s.a) (hb : P s.b) : P e.1 ∧ P e.2 := by
  rcases hse with ⟨h1, h2⟩ | ⟨h1, h2⟩
  · exact ⟨h1 ▸ ha, h2 ▸ hb⟩
  · exact ⟨h2 ▸ hb, h1 ▸ ha⟩

theorem Polyhedron.Proper.edge_sub {B : Polyhedron} (hP : B.Proper) (hE : B.EdgesReal) (s : Seg) (hs : s ∈ B.edges)
    (x : V3) (hx : s.den x) : B.contains x = true := by
  obtain ⟨f, hf, e, he, hse⟩ := hE s hs
  have hm := closedPairs_mem f.pts e he
  exact hP.face_sub f hf x (between_in_hull hm.1 hm.2 ((K3.seg_den_edge s e hse x).mp hx))

/-- **a Point hit on a real edge is an end point of `X ∩ K`** -/
theorem K3.edge_hit_endpoint (B : Polyhedron) (hP : B.Proper) (o d : V3) (X : V3 → Prop) (lo hi : Rat)
    (hXK : ∀ x, (X x ∧ B.contains x = true) ↔ ∃ t, (lo ≤ t ∧ t ≤ hi) ∧ x = pt o d t)
    (s : Seg) (f : Polygon) (hf : f ∈ B.faces) (e : V3 × V3) (he : e ∈ closedPairs f.pts)
    (hse : (s.a = e.1 ∧ s.b = e.2) ∨ (s.a = e.2 ∧ s.b = e.1))
    (p : V3) (hex : ∀ y, y = p ↔ (s.den y ∧ X y)) :
    lo ≤ hi ∧ (p = pt o d lo ∨ p = pt o d hi) := by
  have hv := hP.core.faces_valid f hf
  have hsden := K3.seg_den_edge s e hse
  have hm := closedPairs_mem f.pts e he
  have hedge_in : ∀ y, Between e.1 e.2 y → InHull f.pts y := fun y hy => between_in_hull hm.1 hm.2 hy
  have hp := (hex p).mp rfl
  have hpb : Between e.1 e.2 p := (hsden p).mp hp.1
  have hpf : InHull f.pts p := hedge_in p hpb
  obtain ⟨tp, ⟨h1, h2⟩, hpt⟩ := (hXK p).mp ⟨hp.2, hP.face_sub f hf p hpf⟩
  have hle : lo ≤ hi := le_trans h1 h2
  refine ⟨hle, ?_⟩
  have hs : f.side (pt o d tp) = 0 := by rw [← hpt]; exact hP.side_of_face f hf p hpf
  by_cases hslope : dot f.plane.n d = 0
  · -- the carrier lies in the plane of `f`: all of `X ∩ K` lies in `f`
    have hinf : ∀ t, lo ≤ t → t ≤ hi → X (pt o d t) ∧ InHull f.pts (pt o d t) := by
      intro t ht1 ht2
      have hx := (hXK _).mpr ⟨t, ⟨ht1, ht2⟩, rfl⟩
      have st : f.side (pt o d t) = 0 := by
        rw [f.side_pt] at hs ⊢
        rw [hslope] at hs ⊢; linarith
      exact ⟨hx.1, hP.tight _ hx.2 f hf st⟩
    have hop : orient f.plane.n e.1 e.2 (pt o d tp) = 0 := by
      rw [← hpt]; exact orient_between_zero _ _ _ _ hpb
    have olo := f.edge_nonneg hv _ (hinf lo (le_refl _) hle).2 e he
    have ohi := f.edge_nonneg hv _ (hinf hi hle (le_refl _)).2 e he
    rw [orient_pt] at hop olo ohi
    rcases lt_trichotomy (dot f.plane.n (cross (sub e.2 e.1) d)) 0 with hneg | hz | hpos
    · right
      have : hi ≤ tp := by
        by_contra hc
        have := mul_neg_of_neg_of_pos hneg (sub_pos.mpr (not_le.mp hc))
        linarith
      rw [hpt, le_antisymm h2 this]
    · left
      have olo0 : orient f.plane.n e.1 e.2 (pt o d lo) = 0 := by
        rw [orient_pt]; rw [hz] at hop ⊢; linarith
      obtain ⟨_, _, _, _, hpp, _, htp'⟩ := hv
      have hb : Between e.1 e.2 (pt o d lo) :=
        on_edge_of_tight f.plane.n f.pts htp' e he _ (hinf lo (le_refl _) hle).2 olo0
      exact ((hex _).mpr ⟨(hsden _).mpr hb, (hinf lo (le_refl _) hle).1⟩).symm
    · left
      have : tp ≤ lo := by
        by_contra hc
        have := mul_pos hpos (sub_pos.mpr (not_le.mp hc))
        linarith
      rw [hpt, le_antisymm this h1]
  · rw [hpt]
    exact K3.transversal_endpoint B o d X lo hi hXK f hf tp h1 h2 hs hslope

#print axioms K3.face_hit_endpoint
#print axioms K3.edge_hit_endpoint

/-- **Segment / HalfLine × ConvexPolyhedron, the shared argument.**  `X` is the part `lo ≤ t ≤ hi` of the line
    `pt o d t` as far as the body is concerned; `ps` consists of Point hits of `X` on faces and edges and of ends of `X`
    inside the body, and contains every face hit and every end inside the body.  Then `ps` has at most two members,
    the ends of `X ∩ K`: every member is such an end (`face_hit_endpoint`, `edge_hit_endpoint`), and an end of
    `X ∩ K` is an end of `X` or the point where the line crosses a face transversally (`line_interval`), which is a
    face hit (`face_point_hit`). -/
theorem K3.boundary_collect_exact (B : Polyhedron) (hP : B.Proper) (hE : B.EdgesReal) (o d : V3) (hd : d ≠ zero)
    (X : V3 → Prop) (lo hi : Rat) (hle : lo ≤ hi) (hX : ∀ x, X x → ∃ t, x = pt o d t)
    (hXt : ∀ t, B.contains (pt o d t) = true → (X (pt o d t) ↔ lo ≤ t ∧ t ≤ hi))
    (facePt : Polygon → ResB) (edgePt : Seg → Res)
    (hface : ∀ f ∈ B.faces, ExactPS (facePt f) X (InHull f.pts))
    (hedge : ∀ s ∈ B.edges, Exact (edgePt s) s.den X)
    (ps : List V3) (hnd : ps.Nodup)
    (hsub : ∀ p ∈ ps, (∃ f ∈ B.faces, facePt f = .ok (some (.flat (.point p)))) ∨
      (∃ s ∈ B.edges, edgePt s = .ok (some (.point p))) ∨
      (B.contains p = true ∧ (p = pt o d lo ∨ p = pt o d hi)))
    (hfaces : ∀ f ∈ B.faces, ∀ p, facePt f = .ok (some (.flat (.point p))) → p ∈ ps)
    (hends : ∀ p, p = pt o d lo ∨ p = pt o d hi → B.contains p = true → p ∈ ps) :
    Exact (ofPointSet ps) X (BodyDen B) := by
  by_cases hne : ∃ t, B.contains (pt o d t) = true
  · obtain ⟨tlo, thi, hle', hiff, ⟨f2, hf2, hs2, hd2⟩, ⟨f1, hf1, hs1, hd1⟩⟩ := B.line_interval hP.hullCore o d hd hne
    have hXK : ∀ x, (X x ∧ B.contains x = true) ↔ ∃ t, (max lo tlo ≤ t ∧ t ≤ min hi thi) ∧ x = pt o d t := by
      intro x
      constructor
      · rintro ⟨h1, h2⟩
        obtain ⟨t, rfl⟩ := hX x h1
        have e1 := (hXt t h2).mp h1
        have e2 := (hiff t).mp h2
        exact ⟨t, ⟨max_le e1.1 e2.1, le_min e1.2 e2.2⟩, rfl⟩
      · rintro ⟨t, ⟨h1, h2⟩, rfl⟩
        have m := max_le_iff.mp h1
        have n := le_min_iff.mp h2
        have hK := (hiff t).mpr ⟨m.2, n.2⟩
        exact ⟨(hXt t hK).mpr ⟨m.1, n.1⟩, hK⟩
    refine collected_exact (o := o) (d := d) ps hnd (max lo tlo) (min hi thi) hXK ?_ ?_ ?_
    · intro p hp
      rcases hsub p hp with ⟨f, hf, hfp⟩ | ⟨s, hs, hsp⟩ | ⟨hc, rfl | rfl⟩
      · obtain ⟨ob, hob, _, hden⟩ := hface f hf
        rw [hfp] at hob; cases hob
        exact K3.face_hit_endpoint B hP o d X _ _ hXK f hf p (fun y => hden y)
      · obtain ⟨ob, hob, _, hden⟩ := hedge s hs
        rw [hsp] at hob; cases hob
        obtain ⟨f, hf, e, he, hse⟩ := hE s hs
        exact K3.edge_hit_endpoint B hP o d X _ _ hXK s f hf e he hse p (fun y => hden y)
      · have h0 := (hiff lo).mp hc
        rw [max_eq_left h0.1]
        exact ⟨le_min hle h0.2, Or.inl rfl⟩
      · have h1 := (hiff hi).mp hc
        rw [min_eq_left h1.2]
        exact ⟨max_le hle h1.1, Or.inr rfl⟩
    · intro hI
      have hI1 := max_le_iff.mp (le_trans hI (min_le_left _ _))
      have hI2 := max_le_iff.mp (le_trans hI (min_le_right _ _))
      rcases le_total tlo lo with h0 | h0
      · rw [max_eq_left h0]
        exact hends _ (Or.inl rfl) ((hiff lo).mpr ⟨h0, hI2.1⟩)
      · rw [max_eq_right h0]
        have hK : B.contains (pt o d tlo) = true := (hiff tlo).mpr ⟨le_refl _, hle'⟩
        exact hfaces f2 hf2 _ (K3.face_point_hit B hP o d X hX f2 hf2 _ (hface f2 hf2) tlo
          ((hXt tlo hK).mpr ⟨h0, hI1.2⟩) hK hs2 (ne_of_lt hd2))
    · intro hI
      have hI1 := le_min_iff.mp (le_trans (le_max_left _ _) hI)
      have hI2 := le_min_iff.mp (le_trans (le_max_right _ _) hI)
      rcases le_total hi thi with h1 | h1
      · rw [min_eq_left h1]
        exact hends _ (Or.inr rfl) ((hiff hi).mpr ⟨hI2.1, h1⟩)
      · rw [min_eq_right h1]
        have hK : B.contains (pt o d thi) = true := (hiff thi).mpr ⟨hle', le_refl _⟩
        exact hfaces f1 hf1 _ (K3.face_point_hit B hP o d X hX f1 hf1 _ (hface f1 hf1) thi
          ((hXt thi hK).mpr ⟨hI1.2, h1⟩) hK hs1 (ne_of_gt hd1))
  · -- the line misses the body: nothing is collected
    have hmiss : ∀ x, X x → B.contains x = true → False := by
      intro x hx hK
      obtain ⟨t, rfl⟩ := hX x hx
      exact hne ⟨t, hK⟩
    have : ps = [] := by
      apply List.eq_nil_iff_forall_not_mem.mpr
      intro p hp
      rcases hsub p hp with ⟨f, hf, hfp⟩ | ⟨s, hs, hsp⟩ | ⟨hc, rfl | rfl⟩
      · have := (hface f hf).toExactB.point_mem p hfp
        exact hmiss p this.1 (hP.face_sub f hf p this.2)
      · have := (hedge s hs).point_mem p hsp
        exact hmiss p this.2 (hP.edge_sub hE s hs p this.1)
      · exact hne ⟨lo, hc⟩
      · exact hne ⟨hi, hc⟩
    rw [this]
    exact ofPointSet_nil_exact (fun x hx => hmiss x hx.1 hx.2)

/-! ### 3a. Segment × ConvexPolyhedron -/

theorem K3.endpoint_add (cA cB : Bool) (out : List V3) (A Bp : V3) (hnd : out.Nodup) :
    (∀ p, p ∈ (if (cA && !cB) = true then addNew out A else if (!cA && cB) = true then addNew out Bp else out) ↔
      (p ∈ out ∨ (p = A ∧ cA = true ∧ cB = false) ∨ (p = Bp ∧ cA = false ∧ cB = true))) ∧
    (if (cA && !cB) = true then addNew out A else if (!cA && cB) = true then addNew out Bp else out).Nodup := by
  cases cA <;> cases cB <;> simp [mem_addNew, nodup_addNew, hnd]

theorem K3.ofPoints_eq (ps : List V3) : ofPoints ps = liftFlat (ofPointSet ps) := rfl

/-- **Segment × ConvexPolyhedron is exact**: for a well-formed segment and a `Proper` polyhedron whose listed edges
    are well-formed Segments and edges of faces, the handler returns `None`, a Point or a well-formed Segment denoting
    exactly `a ∩ K` (in particular it never reports "Bug detected") -/
theorem interSegPolyhedron_exact (a : Seg) (ha : a.WF) (B : Polyhedron) (hP : B.Proper)
    (hEW : ∀ s ∈ B.edges, s.WF) (hE : B.EdgesReal) :
    ExactW (interSegPolyhedron a B) a.den (BodyDen B) := by
  unfold interSegPolyhedron
  by_cases hc : (B.contains a.a && B.contains a.b) = true
  · rw [if_pos hc]
    rw [Bool.and_eq_true] at hc
    refine ⟨_, rfl, ha, fun x => ?_⟩
    show a.den x ↔ _
    exact ⟨fun h => ⟨h, Polyhedron.contains_seg B a hc.1 hc.2 x h⟩, fun h => h.1⟩
  rw [if_neg hc]
  have hd : sub a.b a.a ≠ zero := fun h => ha.1 (sub_eq_zero_iff.mp h).symm
  have haden : ∀ t, a.den (pt a.a (sub a.b a.a) t) ↔ (0 ≤ t ∧ t ≤ 1) := by
    intro t
    constructor
    · rintro ⟨t', h0, h1, hx⟩
      rw [pt_inj hd hx]; exact ⟨h0, h1⟩
    · rintro ⟨h0, h1⟩; exact ⟨t, h0, h1, rfl⟩
  have hpa : pt a.a (sub a.b a.a) 0 = a.a := pt_at_zero _ _
  have hpb : pt a.a (sub a.b a.a) 1 = a.b := by apply V3.ext' <;> simp [pt, add, smul, sub]
  have hface : ∀ f ∈ B.faces, ExactPS (interSegPolygon a f) a.den (InHull f.pts) :=
    fun f hf => interSegPolygon_exactPS a ha f (hP.core.faces_valid f hf)
  have hedge : ∀ s ∈ B.edges, Exact (interSegSeg s a) s.den a.den :=
    fun s hs => interSegSeg_exact s a (hEW s hs) ha
  obtain ⟨out, hout, hnd, hmem⟩ := boundaryHits_spec (fun f => interSegPolygon a f) (fun s => interSegSeg s a) B
    hface hedge (fun s => interSegSeg_IsPS s a)
  have hout' : segPolyhedronPointSet a B = .ok out := hout
  simp only [hout', bind, Except.bind]
  obtain ⟨hpsmem, hpsnd⟩ := K3.endpoint_add (B.contains a.a) (B.contains a.b) out a.a a.b hnd
  generalize (if (B.contains a.a && !B.contains a.b) = true then addNew out a.a
    else if (!B.contains a.a && B.contains a.b) = true then addNew out a.b else out) = ps at hpsmem hpsnd
  rw [K3.ofPoints_eq]
  refine ExactW_of_liftFlat (K3.boundary_collect_exact B hP hE a.a (sub a.b a.a) hd a.den 0 1 (by norm_num)
    (fun x ⟨t, _, _, hx⟩ => ⟨t, hx⟩) (fun t _ => haden t) _ _ hface hedge ps hpsnd ?_ ?_ ?_)
  · intro p hp
    rcases (hpsmem p).mp hp with h | ⟨rfl, hA, _⟩ | ⟨rfl, _, hBb⟩
    · exact ((hmem p).mp h).elim Or.inl (fun h => Or.inr (Or.inl h))
    · exact Or.inr (Or.inr ⟨hA, Or.inl hpa.symm⟩)
    · exact Or.inr (Or.inr ⟨hBb, Or.inr hpb.symm⟩)
  · exact fun f hf p hfp => (hpsmem p).mpr (Or.inl ((hmem p).mpr (Or.inl ⟨f, hf, hfp⟩)))
  · -- an end inside the body is added: the other end is outside, as the early return was not taken
    rw [hpa, hpb]
    rintro p (rfl | rfl) hcp
    · refine (hpsmem _).mpr (Or.inr (Or.inl ⟨rfl, hcp, ?_⟩))
      cases hb : B.contains a.b with
      | false => rfl
      | true => exact absurd (by rw [hcp, hb]; rfl) hc
    · refine (hpsmem _).mpr (Or.inr (Or.inr ⟨rfl, ?_, hcp⟩))
      cases hb : B.contains a.a with
      | false => rfl
      | true => exact absurd (by rw [hcp, hb]; rfl) hc
#print axioms interSegPolyhedron_exact


/-! ### 3b. ConvexPolyhedron × HalfLine -/

/-- **ConvexPolyhedron × HalfLine is exact** (same hypotheses as for segments) -/
theorem interPolyhedronHalfLine_exact (B : Polyhedron) (hP : B.Proper)
    (hEW : ∀ s ∈ B.edges, s.WF) (hE : B.EdgesReal) (h : HalfLine) (hh : h.WF) :
    ExactW (interPolyhedronHalfLine B h) h.den (BodyDen B) := by
  unfold interPolyhedronHalfLine
  have hd : h.v ≠ zero := hh.1
  have hhden : ∀ t, h.den (pt h.p h.v t) ↔ 0 ≤ t := by
    intro t
    constructor
    · rintro ⟨t', h0, hx⟩
      rw [pt_inj hd hx]; exact h0
    · intro h0; exact ⟨t, h0, rfl⟩
  have hpa : pt h.p h.v 0 = h.p := pt_at_zero _ _
  -- as far as the body is concerned the half-line ends at a parameter beyond the body
  obtain ⟨M, hM⟩ := B.bounded hP.hullCore h.p h.v hd
  have hface : ∀ f ∈ B.faces, ExactPS (interPolygonHalfLine f h) h.den (InHull f.pts) :=
    fun f hf => interPolygonHalfLine_exactPS f (hP.core.faces_valid f hf) h hh
  have hedge : ∀ s ∈ B.edges, Exact (interSegHalfLine s h) s.den h.den :=
    fun s hs => interSegHalfLine_exact s h (hEW s hs) hh
  obtain ⟨out, hout, hnd, hmem⟩ := boundaryHits_spec (fun f => interPolygonHalfLine f h)
    (fun s => interSegHalfLine s h) B hface hedge (fun s => interSegHalfLine_IsPS s h)
  simp only [hout, bind, Except.bind]
  have hpsmem : ∀ p, p ∈ (if B.contains h.p = true then addNew out h.p else out) ↔
      (p ∈ out ∨ (p = h.p ∧ B.contains h.p = true)) := by
    intro p
    by_cases hcp : B.contains h.p = true
    · rw [if_pos hcp, mem_addNew]; simp [hcp]
    · rw [if_neg hcp]; simp [hcp]
  have hpsnd : (if B.contains h.p = true then addNew out h.p else out).Nodup := by
    split
    · exact nodup_addNew out h.p hnd
    · exact hnd
  generalize (if B.contains h.p = true then addNew out h.p else out) = ps at hpsmem hpsnd
  rw [K3.ofPoints_eq]
  refine ExactW_of_liftFlat (K3.boundary_collect_exact B hP hE h.p h.v hd h.den 0 (max M 0 + 1) (by linarith [le_max_right M 0])
    (fun x ⟨t, _, hx⟩ => ⟨t, hx⟩) (fun t hc => ?_) _ _ hface hedge ps hpsnd ?_ ?_ ?_)
  · rw [hhden]
    exact ⟨fun h0 => ⟨h0, by linarith [(hM t hc).2, le_max_left M 0]⟩, fun h0 => h0.1⟩
  · intro p hp
    rcases (hpsmem p).mp hp with h' | ⟨rfl, hA⟩
    · exact ((hmem p).mp h').elim Or.inl (fun h => Or.inr (Or.inl h))
    · exact Or.inr (Or.inr ⟨hA, Or.inl hpa.symm⟩)
  · exact fun f hf p hfp => (hpsmem p).mpr (Or.inl ((hmem p).mpr (Or.inl ⟨f, hf, hfp⟩)))
  · rintro p (rfl | rfl) hcp
    · rw [hpa] at hcp ⊢
      exact (hpsmem _).mpr (Or.inr ⟨rfl, hcp⟩)
    · linarith [(hM _ hcp).2, le_max_left M 0]
#print axioms interPolyhedronHalfLine_exact

end G3D
