import G3D.Proofs.K4c

/-! # Kernel K4, part d: the case with an interior point — geometry

    A finite system of half-spaces `f.side x ≤ 0` (`f ∈ L`) with a strictly interior point `o`.
    * `K4.exists_generic` : a direction avoiding finitely many planes through the origin
    * `K4.Generic`, `K4.exit`, `K4.exit_generic` : along a generic direction the ray from `o` leaves the system at a
      point where all tight constraints describe the same half-space (`SamePlane`)
    * `K4.small_step` : moving a little along a direction that does not increase the tight constraints -/
namespace G3D
open V3

/-! ### a generic direction -/
theorem K4.exists_gt : ∀ (bad : List Rat), ∃ ε : Rat, 0 < ε ∧ ∀ b ∈ bad, b < ε := by
  intro bad
  induction bad with
  | nil => exact ⟨1, one_pos, fun b hb => by cases hb⟩
  | cons a l ih =>
    obtain ⟨ε, hε, h⟩ := ih
    refine ⟨max ε (a + 1), lt_of_lt_of_le hε (le_max_left _ _), ?_⟩
    intro b hb
    rcases List.mem_cons.mp hb with rfl | hb
    · exact lt_of_lt_of_le (by linarith) (le_max_right _ _)
    · exact lt_of_lt_of_le (h b hb) (le_max_left _ _)

/-- finitely many planes through the origin do not cover space -/
theorem K4.exists_generic : ∀ (ms : List V3), (∀ m ∈ ms, m ≠ zero) → ∃ w : V3, ∀ m ∈ ms, dot m w ≠ 0 := by
  intro ms
  induction ms with
  | nil => intro _; exact ⟨zero, fun m hm => by cases hm⟩
  | cons m ms ih =>
    intro hne
    obtain ⟨w0, hw0⟩ := ih (fun m' hm' => hne m' (by simp [hm']))
    have hm : m ≠ zero := hne m (by simp)
    have hN := normSq_pos hm
    obtain ⟨ε, hε, hbad⟩ := K4.exists_gt ((ms.map (fun m' => - dot m' w0 / dot m' m)) ++ [- dot m w0 / normSq m])
    refine ⟨add w0 (smul ε m), ?_⟩
    intro m' hm'
    have e : dot m' (add w0 (smul ε m)) = dot m' w0 + ε * dot m' m := by simp only [dot, add, smul]; ring
    rw [e]
    rcases List.mem_cons.mp hm' with rfl | hm'
    · intro h0
      have hb := hbad (- dot m' w0 / normSq m') (by simp)
      have : ε = - dot m' w0 / normSq m' := by
        rw [eq_div_iff (ne_of_gt hN)]
        have : dot m' m' = normSq m' := rfl
        rw [← this]; linarith
      linarith
    · intro h0
      by_cases hmm : dot m' m = 0
      · rw [hmm] at h0
        exact hw0 m' hm' (by linarith)
      · have hb := hbad (- dot m' w0 / dot m' m)
          (List.mem_append_left _ (List.mem_map.mpr ⟨m', hm', rfl⟩))
        have : ε = - dot m' w0 / dot m' m := by
          rw [eq_div_iff hmm]; linarith
        linarith

/-! ### generic rays in a system of half-spaces -/

/-- the ray from `o` along `w` meets the planes of `f` and `g` at the same parameter iff `w ⟂ mvec o f g` -/
def K4.mvec (o : V3) (f g : Polygon) : V3 := sub (smul (g.side o) f.plane.n) (smul (f.side o) g.plane.n)

theorem K4.samePlane_of_mvec (o : V3) (f g : Polygon) (hf : f.side o < 0) (hg : g.side o < 0)
    (h : K4.mvec o f g = zero) : SamePlane f g := by
  have hk : g.side o = g.side o / f.side o * f.side o := (div_mul_cancel₀ _ hf.ne).symm
  generalize g.side o / f.side o = k at hk
  have hx := congrArg V3.x h
  have hy := congrArg V3.y h
  have hz := congrArg V3.z h
  simp only [K4.mvec, sub, smul, zero] at hx hy hz
  rw [hk] at hx hy hz
  have hn : g.plane.n = smul k f.plane.n := by
    apply V3.ext' <;> simp only [smul] <;> apply mul_left_cancel₀ hf.ne <;> linarith
  refine ⟨k, ?_, hn, fun x => ?_⟩
  · by_contra hk0
    have := mul_nonneg_of_nonpos_of_nonpos (not_lt.mp hk0) hf.le
    linarith
  · rw [K4.side_affine g o x, K4.side_affine f o x, hn, hk]
    simp only [dot, smul]; ring

/-- `w` is generic for the base point `o` and the system `L` -/
def K4.Generic (o : V3) (L : List Polygon) (w : V3) : Prop :=
  ∀ f ∈ L, ∀ g ∈ L, K4.mvec o f g ≠ zero → dot (K4.mvec o f g) w ≠ 0

theorem K4.neg_neg_dot (m w : V3) : dot m (V3.neg w) = - dot m w := by simp only [dot, V3.neg]; ring

theorem K4.Generic.neg {o : V3} {L : List Polygon} {w : V3} (h : K4.Generic o L w) : K4.Generic o L (neg w) := by
  intro f hf g hg hm
  rw [K4.neg_neg_dot]
  exact neg_ne_zero.mpr (h f hf g hg hm)

theorem K4.Generic.sub {o : V3} {L T : List Polygon} {w : V3} (h : K4.Generic o L w) (hT : ∀ f ∈ T, f ∈ L) :
    K4.Generic o T w := fun f hf g hg hm => h f (hT f hf) g (hT g hg) hm

theorem K4.exists_generic_dir (o : V3) (L : List Polygon) (extra : List V3) (hex : ∀ m ∈ extra, m ≠ zero) :
    ∃ w, K4.Generic o L w ∧ ∀ m ∈ extra, dot m w ≠ 0 := by
  obtain ⟨w, hw⟩ := K4.exists_generic
    (extra ++ (L.flatMap (fun f => L.map (fun g => K4.mvec o f g))).filter (fun m => decide (m ≠ zero)))
    (by
      intro m hm
      rcases List.mem_append.mp hm with h | h
      · exact hex m h
      · simpa using (List.mem_filter.mp h).2)
  refine ⟨w, ?_, fun m hm => hw m (List.mem_append_left _ hm)⟩
  intro f hf g hg hm
  apply hw
  apply List.mem_append_right
  rw [List.mem_filter]
  refine ⟨List.mem_flatMap.mpr ⟨f, hf, List.mem_map.mpr ⟨g, hg, rfl⟩⟩, by simpa using hm⟩

/-- the ray from a point `o` of the system along `w`: at the last parameter at which it is still inside, a
    constraint that looks along `w` is tight -/
theorem K4.exit_le (L : List Polygon) (o w : V3) (ho : ∀ f ∈ L, f.side o ≤ 0)
    (hw : ∃ f ∈ L, 0 < dot f.plane.n w) :
    ∃ t, 0 ≤ t ∧ (∀ f ∈ L, f.side (pt o w t) ≤ 0) ∧ ∃ f ∈ L, 0 < dot f.plane.n w ∧ f.side (pt o w t) = 0 := by
  set C : List (Rat × Rat) := L.map (fun f => (- f.side o, - dot f.plane.n w)) with hC
  have hfeas : ∀ t, Feas C t ↔ ∀ f ∈ L, f.side (pt o w t) ≤ 0 := by
    intro t
    unfold Feas
    constructor
    · intro h f hf
      have := h _ (List.mem_map.mpr ⟨f, hf, rfl⟩)
      simp only at this
      rw [f.side_pt]; linarith
    · intro h c hc'
      obtain ⟨f, hf, rfl⟩ := List.mem_map.mp hc'
      have := h f hf
      rw [f.side_pt] at this
      simp only; linarith
  have hF0 : Feas C 0 := (hfeas 0).mpr (fun f hf => by rw [pt_at_zero]; exact ho f hf)
  obtain ⟨f1, hf1, hf1w⟩ := hw
  obtain ⟨thi, hthi, hmax, c1, hc1, hc1s, hc1t⟩ := lp_hi C 0 hF0
    ⟨_, List.mem_map.mpr ⟨f1, hf1, rfl⟩, by simp only; linarith⟩
  obtain ⟨f2, hf2, rfl⟩ := List.mem_map.mp hc1
  simp only at hc1s hc1t
  exact ⟨thi, hmax 0 hF0, (hfeas thi).mp hthi, f2, hf2, by linarith, by rw [f2.side_pt]; linarith⟩

/-- the ray from a strictly interior point `o` along `w` leaves the system at a positive parameter, on a constraint
    that looks along `w` -/
theorem K4.exit (L : List Polygon) (o w : V3) (ho : ∀ f ∈ L, f.side o < 0)
    (hw : ∃ f ∈ L, 0 < dot f.plane.n w) :
    ∃ t, 0 < t ∧ (∀ f ∈ L, f.side (pt o w t) ≤ 0) ∧ ∃ f ∈ L, f.side (pt o w t) = 0 := by
  obtain ⟨t, ht, hall, f, hf, _, hft⟩ := K4.exit_le L o w (fun f hf => (ho f hf).le) hw
  refine ⟨t, ht.lt_of_ne fun h => ?_, hall, f, hf, hft⟩
  rw [← h, pt_at_zero] at hft
  exact (ho f hf).ne hft

/-- at a point of a generic ray all tight constraints describe the same half-space -/
theorem K4.exit_generic (L : List Polygon) (o w : V3) (ho : ∀ f ∈ L, f.side o < 0) (hgen : K4.Generic o L w)
    (t : Rat) (f g : Polygon) (hf : f ∈ L) (hg : g ∈ L) (hft : f.side (pt o w t) = 0)
    (hgt : g.side (pt o w t) = 0) : SamePlane f g := by
  apply K4.samePlane_of_mvec o f g (ho f hf) (ho g hg)
  by_contra hm
  apply hgen f hf g hg hm
  rw [f.side_pt] at hft
  rw [g.side_pt] at hgt
  have e : dot (K4.mvec o f g) w = g.side o * dot f.plane.n w - f.side o * dot g.plane.n w := by
    simp only [K4.mvec, dot, sub, smul]; ring
  rw [e]
  have h1 : f.side o = - (t * dot f.plane.n w) := by linarith
  have h2 : g.side o = - (t * dot g.plane.n w) := by linarith
  rw [h1, h2]; ring

/-- a small step along `e` stays in the system, if `e` does not increase the constraints that are tight -/
theorem K4.small_step : ∀ (L : List Polygon) (y e : V3),
    (∀ g ∈ L, g.side y < 0 ∨ (g.side y ≤ 0 ∧ dot g.plane.n e ≤ 0)) →
    ∃ ε : Rat, 0 < ε ∧ ∀ t, 0 ≤ t → t ≤ ε → ∀ g ∈ L, g.side (pt y e t) ≤ 0 := by
  intro L
  induction L with
  | nil => intro y e _; exact ⟨1, one_pos, fun t _ _ g hg => by cases hg⟩
  | cons g L ih =>
    intro y e h
    obtain ⟨ε', hε', h'⟩ := ih y e (fun g' hg' => h g' (by simp [hg']))
    have hg := h g (by simp)
    by_cases hpos : 0 < dot g.plane.n e
    · have hlt : g.side y < 0 := by
        rcases hg with h1 | h1
        · exact h1
        · exact absurd hpos (not_lt.mpr h1.2)
      refine ⟨min ε' (- g.side y / dot g.plane.n e), lt_min hε' (div_pos (by linarith) hpos), ?_⟩
      intro t ht0 ht g' hg'
      rcases List.mem_cons.mp hg' with rfl | hg'
      · rw [g'.side_pt]
        have h1 : t ≤ - g'.side y / dot g'.plane.n e := le_trans ht (min_le_right _ _)
        rw [le_div_iff₀ hpos] at h1
        linarith
      · exact h' t ht0 (le_trans ht (min_le_left _ _)) g' hg'
    · have hnp := not_lt.mp hpos
      refine ⟨ε', hε', ?_⟩
      intro t ht0 ht g' hg'
      rcases List.mem_cons.mp hg' with rfl | hg'
      · rw [g'.side_pt]
        have h1 : g'.side y ≤ 0 := by
          rcases hg with h1 | h1
          · exact le_of_lt h1
          · exact h1.1
        have : t * dot g'.plane.n e ≤ 0 := mul_nonpos_of_nonneg_of_nonpos ht0 hnp
        linarith
      · exact h' t ht0 ht g' hg'

theorem Polyhedron.step_in_cone (B : Polyhedron) (v e : V3) (hv : B.contains v = true)
    (he : ∀ f ∈ B.faces, f.side v = 0 → dot f.plane.n e ≤ 0) :
    ∃ ε : Rat, 0 < ε ∧ B.contains (pt v e ε) = true := by
  obtain ⟨ε, hε, hall⟩ := K4.small_step B.faces v e (fun g hg => by
    have hle := (B.contains_iff_side v).mp hv g hg
    rcases lt_or_eq_of_le hle with h | h
    · exact Or.inl h
    · exact Or.inr ⟨hle, he g hg h⟩)
  exact ⟨ε, hε, (B.contains_iff_side _).mpr (hall ε hε.le le_rfl)⟩

end G3D
