import G3D.Extracted.Kvecr
import G3D.Proofs.AngleReal
import Mathlib.Tactic.Linarith
import Mathlib.Tactic.NormNum
/-! # kvecr, `Vector.angle`: the clamp in front of `math.acos`, for EVERY value of the computed cosine  (C11)

    `cosine = (self * other) / (self.length() * other.length())` is a float: rounding can push it outside [-1, 1] for
    (anti)parallel operands (defect D7 of the pinned tree, repaired by the clamp), and it is ±inf / NaN when the product of
    the lengths over- or underflows.  The translator walks `Vector.angle` on ALL THREE paths of
    `max(-1.0, min(1.0, cosine))` (own kernel `angleClamp`, own section: a failure of this walk leaves the cosine kernel
    alone) and records which comparison is asked of the cosine and which literal reaches `math.acos` when the cosine does not.
    `acosArg` below is the function those three paths determine, over a model of Python floats AS THE COMPARISON OPERATORS
    SEE THEM (NaN compares false with everything); no assumption on how the cosine was rounded. -/
namespace G3D.KTie.Kvec
open G3D G3D.Extracted Real

/-- a Python float as `<` / `>` see it -/
inductive PyF
  | nan | ninf | pinf
  | fin (r : ℝ)

/-- IEEE-754 `a < b` (false as soon as an operand is NaN) -/
def PyF.lt : PyF → PyF → Prop
  | .fin a, .fin b => a < b
  | .ninf, .fin _ => True
  | .ninf, .pinf => True
  | .fin _, .pinf => True
  | _, _ => False

section angleClamp
/-- the three walks: `cosine < 1.0` is asked first; if it holds `cosine > -1.0` is asked -/
theorem angleClamp_paths :
    impl_angleClampHi_path = [("R < 1.0", false)] ∧
    impl_angleClampLo_path = [("R < 1.0", true), ("R > -1.0", false)] := ⟨rfl, rfl⟩

open Classical in
/-- the argument `math.acos` receives, as determined by the three extracted paths: the cosine itself when both comparisons
    hold, the extracted literal `impl_angleClampHi` when the first fails, `impl_angleClampLo` when the second fails -/
noncomputable def acosArg (c : PyF) : PyF :=
  if PyF.lt c (.fin 1) then (if PyF.lt (.fin (-1)) c then c else .fin (impl_angleClampLo : ℝ))
  else .fin (impl_angleClampHi : ℝ)

theorem angleClamp_literals : ((impl_angleClampHi : Int) : ℝ) = 1 ∧ ((impl_angleClampLo : Int) : ℝ) = -1 := by
  simp [impl_angleClampHi, impl_angleClampLo]

theorem acosArg_fin (r : ℝ) : acosArg (.fin r) = .fin (max (-1) (min r 1)) := by
  obtain ⟨hHi, hLo⟩ := angleClamp_literals
  unfold acosArg
  by_cases h1 : r < 1
  · by_cases h2 : -1 < r
    · simp [PyF.lt, h1, h2, h1.le, h2.le]
    · simp [PyF.lt, h1, h2, hLo, h1.le, not_lt.mp h2]
  · simp [PyF.lt, h1, hHi, not_lt.mp h1]

/-- **`math.acos` is never called outside its domain** — whatever float the cosine is (rounded up or down, ±inf, NaN):
    its argument is a finite number in [-1, 1], so `Vector.angle` raises no "math domain error" -/
theorem acosArg_in_domain (c : PyF) : ∃ r : ℝ, acosArg c = .fin r ∧ -1 ≤ r ∧ r ≤ 1 := by
  obtain ⟨hHi, hLo⟩ := angleClamp_literals
  cases c with
  | nan => exact ⟨1, by simp [acosArg, PyF.lt, hHi], by norm_num, le_refl _⟩
  | pinf => exact ⟨1, by simp [acosArg, PyF.lt, hHi], by norm_num, le_refl _⟩
  | ninf => exact ⟨-1, by simp [acosArg, PyF.lt, hLo], le_refl _, by norm_num⟩
  | fin r => exact ⟨_, acosArg_fin r, le_max_left _ _, max_le (by norm_num) (min_le_right _ _)⟩

/-- an in-range cosine passes through the clamp unchanged (strictly inside; at ±1 the literal equals it) -/
theorem acosArg_of_in_range (r : ℝ) (h1 : -1 ≤ r) (h2 : r ≤ 1) : acosArg (.fin r) = .fin r := by
  rw [acosArg_fin, min_eq_left h2, max_eq_right h1]

/-- the value of `Vector.angle` for a computed cosine `c` (real `arccos` of the clamped argument) -/
noncomputable def angleOf (c : PyF) : ℝ :=
  match acosArg c with
  | .fin r => arccos r
  | _ => 0

/-- **range for every rounding**: `Vector.angle ∈ [0, π]`, `acute(Vector.angle) ∈ [0, π/2]` (Line–Line, Plane–Plane,
    Vector–Vector) and `π/2 − acute(Vector.angle) ∈ [0, π/2]` (Line–Plane), whatever float the cosine is -/
theorem angle_ranges_any_rounding (c : PyF) :
    (0 ≤ angleOf c ∧ angleOf c ≤ π) ∧ (0 ≤ acuteR (angleOf c) ∧ acuteR (angleOf c) ≤ π / 2) ∧
    (0 ≤ π / 2 - acuteR (angleOf c) ∧ π / 2 - acuteR (angleOf c) ≤ π / 2) := by
  obtain ⟨r, hr, h1, h2⟩ := acosArg_in_domain c
  have ha : angleOf c = arccos r := by unfold angleOf; rw [hr]
  obtain ⟨he, h0, hp⟩ := acute_arccos r h1 h2
  rw [ha, he]
  exact ⟨⟨arccos_nonneg r, arccos_le_pi r⟩, ⟨h0, hp⟩, ⟨sub_nonneg.mpr hp, sub_le_self _ h0⟩⟩
end angleClamp

#print axioms acosArg_in_domain
#print axioms angle_ranges_any_rounding
end G3D.KTie.Kvec
