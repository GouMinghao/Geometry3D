import G3D.Proofs.BodySound
/-! C03, polygon × polygon with non-coplanar carrier planes: exact (from K1 and C01).
    Parallel distinct planes: `None`, exact.  The coplanar case is kernel K2. -/
namespace G3D

theorem interPolygonPolygon_noncoplanar_exact (a b : Polygon) (ha : a.Valid) (hb : b.Valid)
    (hne : a.plane.eqv b.plane = false) :
    ExactB (interPolygonPolygon a b) (InHull a.pts) (InHull b.pts) :=
  (interPolygonPolygon_noncoplanar_exactPS a b ha hb hne).toExactB
end G3D
