import Mathlib.Analysis.SpecialFunctions.Trigonometric.Basic
import Mathlib.Tactic.Ring
import Mathlib.Tactic.Linarith
import Mathlib.Tactic.LinearCombination
import Mathlib.Tactic.FieldSimp
import Mathlib.Tactic.Positivity
import Mathlib.Algebra.BigOperators.Group.Finset.Basic
import G3D.Proofs.BuildersReal

/-! C14 over ℝ, the inscribed Sphere solid: the face list of `Sphere(center, radius, n1, n2)` after the orientation
    repair (`sphereOriented n1 n2` of G3D/Model/Builders.lean) placed on the real vertices, for EVERY n1 ≥ 1, n2 ≥ 2,
    and its VOLUME in closed form (a finite sum over the n2 latitude bands of one hemisphere of the volumes of the
    frusta of n1-gon pyramids).

    Vertices: ring `m` (m = 0 equator `mc`, m = j+1 ↔ `tc[j]` / `bc[j]`, m = n2 the poles) at latitude
    `BA.lat n2 m = π/2/n2·m` (`latAngle n2 j = BA.lat n2 (j+1)`), point `i` of a ring at `stepAngle n1 i`:
    `centre ± r·sin(lat)·k + r·cos(lat)·(cos θ·u + sin θ·v)`, `(u, v)` the unit frame of `get_circle_point_list` for the
    normal `k = z_unit_vector()` (all rings share normal and base vector, hence the frame up to the radius factor). -/
namespace G3D
namespace BuildersReal
open Real Builders R3

/-! ### the oriented face list, block by block -/
theorem BA.applyFlips_append {α : Type} (m1 m2 : List Bool) (f1 f2 : List (List α)) (h : m1.length = f1.length) :
    applyFlips (m1 ++ m2) (f1 ++ f2) = applyFlips m1 f1 ++ applyFlips m2 f2 := by
  unfold applyFlips; exact List.zipWith_append h

theorem BA.applyFlips_flatMap {α ι : Type} (m : ι → List Bool) (g : ι → List (List α)) :
    ∀ L : List ι, (∀ i ∈ L, (m i).length = (g i).length) →
      applyFlips (L.flatMap m) (L.flatMap g) = L.flatMap (fun i => applyFlips (m i) (g i)) := by
  intro L
  induction L with
  | nil => intro _; simp [applyFlips]
  | cons a L ih =>
    intro h
    rw [List.flatMap_cons, List.flatMap_cons, List.flatMap_cons,
      BA.applyFlips_append _ _ _ _ (h a (List.mem_cons_self ..)), ih (fun i hi => h i (List.mem_cons_of_mem _ hi))]

/-- the faces of sector `i` after the orientation repair (ids) -/
def BA.sphereBlockIds (n1 n2 i : ℕ) : List Face :=
  [[sMc n1 i, sMc n1 ((i + 1) % n1), sTc n1 0 ((i + 1) % n1), sTc n1 0 i],
    flipCycle [sMc n1 i, sMc n1 ((i + 1) % n1), sBc n1 n2 0 ((i + 1) % n1), sBc n1 n2 0 i]] ++
  (List.range' 1 (n2 - 2)).flatMap (fun j =>
    [[sTc n1 (j - 1) i, sTc n1 (j - 1) ((i + 1) % n1), sTc n1 j ((i + 1) % n1), sTc n1 j i],
      flipCycle [sBc n1 n2 (j - 1) i, sBc n1 n2 (j - 1) ((i + 1) % n1), sBc n1 n2 j ((i + 1) % n1), sBc n1 n2 j i]]) ++
  [flipCycle [sTop n1 n2, sTc n1 (n2 - 2) ((i + 1) % n1), sTc n1 (n2 - 2) i],
    [sBot n1 n2, sBc n1 n2 (n2 - 2) ((i + 1) % n1), sBc n1 n2 (n2 - 2) i]]

/-- the Sphere faces after the orientation repair, for every n1, n2: per sector `i` the upper band quadrilaterals as
    coded, the lower band quadrilaterals flipped, the top cap triangle flipped, the bottom cap triangle as coded -/
theorem BA.sphereOriented_eq (n1 n2 : ℕ) :
    sphereOriented n1 n2 = (List.range n1).flatMap (BA.sphereBlockIds n1 n2) := by
  unfold sphereOriented sphereFlips sphereFaces
  rw [BA.applyFlips_flatMap]
  · apply List.flatMap_congr
    intro i _
    rw [BA.applyFlips_append, BA.applyFlips_append, BA.applyFlips_flatMap]
    · rfl
    · intro j _; rfl
    · rfl
    · simp [List.length_flatMap]
  · intro i _
    simp [List.length_flatMap]

/-! ### the real vertices -/
/-- latitude of ring `m`: `π/2/n2·m` (`m = 0` the equator, `m = n2` the pole) -/
noncomputable def BA.lat (n2 m : ℕ) : ℝ := π / 2 / n2 * m

theorem BA.lat_eq_latAngle (n2 j : ℕ) : BA.lat n2 (j + 1) = latAngle n2 j := by
  unfold BA.lat latAngle; push_cast; ring

theorem BA.lat_zero (n2 : ℕ) : BA.lat n2 0 = 0 := by simp [BA.lat]

theorem BA.lat_pole (n2 : ℕ) (h : n2 ≠ 0) : BA.lat n2 n2 = π / 2 := by
  have : (n2 : ℝ) ≠ 0 := Nat.cast_ne_zero.mpr h
  unfold BA.lat; field_simp

theorem BA.cos_quarter_nonneg (N : ℕ) (x : ℝ) (hN : 0 < N) (h1 : -(N : ℝ) ≤ x) (h2 : x ≤ N) :
    0 ≤ cos (π / 2 / N * x) := by
  have hp := pi_div_two_pos
  have l := step_mul_le hp hN (neg_le.mp h1)
  rw [mul_neg] at l
  exact cos_nonneg_of_mem_Icc ⟨neg_le.mp l, step_mul_le hp hN h2⟩

theorem BA.cos_quarter_pos (N : ℕ) (x : ℝ) (hN : 0 < N) (h1 : -(N : ℝ) < x) (h2 : x < N) :
    0 < cos (π / 2 / N * x) := by
  have hp := pi_div_two_pos
  have l := step_mul_lt hp hN (neg_lt.mp h1)
  rw [mul_neg] at l
  exact cos_pos_of_mem_Ioo ⟨neg_lt.mp l, step_mul_lt hp hN h2⟩

theorem BA.cos_lat_nonneg (n2 m : ℕ) (hm : m ≤ n2) (h : 0 < n2) : 0 ≤ cos (BA.lat n2 m) := by
  have h0 : -(n2 : ℝ) ≤ m := by linarith [Nat.cast_nonneg (α := ℝ) m, Nat.cast_nonneg (α := ℝ) n2]
  exact BA.cos_quarter_nonneg n2 m h h0 (by exact_mod_cast hm)

/-- the point at (signed) latitude `φ` and longitude `θ`: the point of
    `get_circle_point_list(center.move(r·sin φ·z), z, r·cos φ, n1)` at angle `θ` -/
noncomputable def BA.sphPt (c k u v : R3) (r φ θ : ℝ) : R3 :=
  circlePoint (add c (smul (r * sin φ) k)) (smul (r * cos φ) u) (smul (r * cos φ) v) θ

/-- the lower rings `bc[j]`: centre moved by `−height_i`, same radius `r_i` — the point at latitude `−φ` -/
theorem BA.sphPt_neg (c k u v : R3) (r φ θ : ℝ) :
    circlePoint (add c (smul (-(r * sin φ)) k)) (smul (r * cos φ) u) (smul (r * cos φ) v) θ =
      BA.sphPt c k u v r (-φ) θ := by
  unfold BA.sphPt; rw [sin_neg, cos_neg, mul_neg]

theorem BA.sphPt_eq (c k u v : R3) (r φ θ : ℝ) :
    BA.sphPt c k u v r φ θ = add (add c (smul (r * sin φ) k)) (smul (r * cos φ) (rad u v θ)) := by
  apply R3.ext' <;> simp only [BA.sphPt, circlePoint, rad, add, smul] <;> ring

/-- every vertex lies on the sphere (restating `sphere_vertex` for `BA.sphPt`) -/
theorem BA.sphPt_on_sphere (c k u v : R3) (r φ θ : ℝ) (hk : normSq k = 1) (F : Frame k u v 1) :
    normSq (sub (BA.sphPt c k u v r φ θ) c) = r ^ 2 := by
  have := sphere_vertex c k u v r φ θ 1 hk (by norm_num) F
  simpa [BA.sphPt] using this

/-- upper ring `m`, point `i` -/
noncomputable def BA.up (c k u v : R3) (r : ℝ) (n1 n2 m i : ℕ) : R3 :=
  BA.sphPt c k u v r (BA.lat n2 m) (stepAngle n1 i)
/-- lower ring `m`, point `i` -/
noncomputable def BA.lo (c k u v : R3) (r : ℝ) (n1 n2 m i : ℕ) : R3 :=
  BA.sphPt c k u v r (-BA.lat n2 m) (stepAngle n1 i)

theorem BA.up_pole (c k u v : R3) (r : ℝ) (n1 n2 i : ℕ) (h : n2 ≠ 0) :
    BA.up c k u v r n1 n2 n2 i = add c (smul r k) := by
  unfold BA.up; rw [BA.sphPt_eq, BA.lat_pole n2 h, sin_pi_div_two, cos_pi_div_two]
  apply R3.ext' <;> simp [add, smul]

theorem BA.lo_pole (c k u v : R3) (r : ℝ) (n1 n2 i : ℕ) (h : n2 ≠ 0) :
    BA.lo c k u v r n1 n2 n2 i = add c (smul (-r) k) := by
  unfold BA.lo; rw [BA.sphPt_eq, BA.lat_pole n2 h, sin_neg, cos_neg, sin_pi_div_two, cos_pi_div_two]
  apply R3.ext' <;> simp [add, smul]

/-- placement of the Sphere ids: ring `m < n2` of the upper half at ids `m·n1 + i` (`mc`, `tc`), lower ring
    `m = 1..n2−1` at ids `(n2 + m − 1)·n1 + i` (`bc`), then the top pole `center + r·z` and the bottom pole -/
noncomputable def BA.spherePlace (c k u v : R3) (r : ℝ) (n1 n2 : ℕ) (id : ℕ) : R3 :=
  if id < n2 * n1 then BA.up c k u v r n1 n2 (id / n1) (id % n1)
  else if id < (2 * n2 - 1) * n1 then BA.lo c k u v r n1 n2 (id / n1 - n2 + 1) (id % n1)
  else if id = (2 * n2 - 1) * n1 then add c (smul r k) else add c (smul (-r) k)

theorem BA.ring_id_lt {n1 m M i : ℕ} (hm : m < M) (hi : i < n1) : m * n1 + i < M * n1 := by
  have := Nat.mul_le_mul_right n1 (Nat.succ_le_of_lt hm)
  rw [Nat.succ_mul] at this
  omega

theorem BA.ring_id_divmod {n1 i : ℕ} (m : ℕ) (hi : i < n1) : (m * n1 + i) / n1 = m ∧ (m * n1 + i) % n1 = i := by
  rw [Nat.mul_comm, Nat.mul_add_div (by omega), Nat.div_eq_of_lt hi, Nat.mul_add_mod, Nat.mod_eq_of_lt hi]
  exact ⟨rfl, rfl⟩

theorem BA.place_up (c k u v : R3) (r : ℝ) (n1 n2 m i : ℕ) (hm : m < n2) (hi : i < n1) :
    BA.spherePlace c k u v r n1 n2 (m * n1 + i) = BA.up c k u v r n1 n2 m i := by
  rw [BA.spherePlace, if_pos (BA.ring_id_lt hm hi), (BA.ring_id_divmod m hi).1, (BA.ring_id_divmod m hi).2]

theorem BA.place_top (c k u v : R3) (r : ℝ) (n1 n2 : ℕ) (h2 : 1 ≤ n2) :
    BA.spherePlace c k u v r n1 n2 (sTop n1 n2) = add c (smul r k) := by
  have h1 : ¬ (2 * n2 - 1) * n1 < n2 * n1 := by
    have : n2 * n1 ≤ (2 * n2 - 1) * n1 := Nat.mul_le_mul_right _ (by omega)
    omega
  simp [BA.spherePlace, sTop, h1]

theorem BA.place_bot (c k u v : R3) (r : ℝ) (n1 n2 : ℕ) (h2 : 1 ≤ n2) :
    BA.spherePlace c k u v r n1 n2 (sBot n1 n2) = add c (smul (-r) k) := by
  have h1 : ¬ (2 * n2 - 1) * n1 + 1 < n2 * n1 := by
    have : n2 * n1 ≤ (2 * n2 - 1) * n1 := Nat.mul_le_mul_right _ (by omega)
    omega
  simp [BA.spherePlace, sBot, h1]

/-! ### the faces of sector `i` on the real vertices -/
/-- upper band `j` (between rings `j` and `j+1`), sector `i`, as coded `(ring_j[s], ring_j[e], ring_{j+1}[e], ring_{j+1}[s])` -/
noncomputable def BA.qUp (c k u v : R3) (r : ℝ) (n1 n2 j i : ℕ) : List R3 :=
  [BA.up c k u v r n1 n2 j i, BA.up c k u v r n1 n2 j (i + 1), BA.up c k u v r n1 n2 (j + 1) (i + 1),
    BA.up c k u v r n1 n2 (j + 1) i]
/-- lower band `j`, sector `i`, as coded -/
noncomputable def BA.qLo (c k u v : R3) (r : ℝ) (n1 n2 j i : ℕ) : List R3 :=
  [BA.lo c k u v r n1 n2 j i, BA.lo c k u v r n1 n2 j (i + 1), BA.lo c k u v r n1 n2 (j + 1) (i + 1),
    BA.lo c k u v r n1 n2 (j + 1) i]
/-- top cap triangle as coded `(top_point, tc[n2−2][e], tc[n2−2][s])` -/
noncomputable def BA.capT (c k u v : R3) (r : ℝ) (n1 n2 i : ℕ) : List R3 :=
  [add c (smul r k), BA.up c k u v r n1 n2 (n2 - 1) (i + 1), BA.up c k u v r n1 n2 (n2 - 1) i]
/-- bottom cap triangle as coded `(bottom_point, bc[n2−2][e], bc[n2−2][s])` -/
noncomputable def BA.capB (c k u v : R3) (r : ℝ) (n1 n2 i : ℕ) : List R3 :=
  [add c (smul (-r) k), BA.lo c k u v r n1 n2 (n2 - 1) (i + 1), BA.lo c k u v r n1 n2 (n2 - 1) i]

/-- the faces of sector `i` after the orientation repair: lower bands and the top cap flipped -/
noncomputable def BA.sphereBlock (c k u v : R3) (r : ℝ) (n1 n2 i : ℕ) : List (List R3) :=
  [BA.qUp c k u v r n1 n2 0 i, flipCycle (BA.qLo c k u v r n1 n2 0 i)] ++
  (List.range' 1 (n2 - 2)).flatMap (fun j =>
    [BA.qUp c k u v r n1 n2 j i, flipCycle (BA.qLo c k u v r n1 n2 j i)]) ++
  [flipCycle (BA.capT c k u v r n1 n2 i), BA.capB c k u v r n1 n2 i]

/-- the whole solid -/
noncomputable def BA.sphereSolid (c k u v : R3) (r : ℝ) (n1 n2 : ℕ) : List (List R3) :=
  (List.range n1).flatMap (BA.sphereBlock c k u v r n1 n2)

theorem BA.place_mc (c k u v : R3) (r : ℝ) (n1 n2 i : ℕ) (h2 : 0 < n2) (hi : i < n1) :
    BA.spherePlace c k u v r n1 n2 (sMc n1 i) = BA.up c k u v r n1 n2 0 i := by
  have := BA.place_up c k u v r n1 n2 0 i h2 hi
  rwa [Nat.zero_mul, Nat.zero_add] at this

theorem BA.place_tc (c k u v : R3) (r : ℝ) (n1 n2 j i : ℕ) (hj : j + 1 < n2) (hi : i < n1) :
    BA.spherePlace c k u v r n1 n2 (sTc n1 j i) = BA.up c k u v r n1 n2 (j + 1) i := by
  rw [sTc, Nat.add_comm 1 j]; exact BA.place_up c k u v r n1 n2 (j + 1) i hj hi

theorem BA.place_bc (c k u v : R3) (r : ℝ) (n1 n2 j i : ℕ) (hj : j + 1 < n2) (hi : i < n1) :
    BA.spherePlace c k u v r n1 n2 (sBc n1 n2 j i) = BA.lo c k u v r n1 n2 (j + 1) i := by
  have h1 : ¬ (n2 + j) * n1 + i < n2 * n1 := by
    have := Nat.mul_le_mul_right n1 (Nat.le_add_right n2 j)
    omega
  rw [sBc, BA.spherePlace, if_neg h1, if_pos (BA.ring_id_lt (by omega) hi), (BA.ring_id_divmod _ hi).1,
    (BA.ring_id_divmod _ hi).2]
  congr 1; omega

/-- C14, Sphere: the face list of the model (`sphereOriented`, the Python `cpg_list` after the constructor's repair)
    placed on the real vertices is the list of sector blocks, for every n1 ≥ 1 and n2 ≥ 2 -/
theorem BA.sphere_placed (c k u v : R3) (r : ℝ) (n1 n2 : ℕ) (h2 : 2 ≤ n2) :
    (sphereOriented n1 n2).map (List.map (BA.spherePlace c k u v r n1 n2)) = BA.sphereSolid c k u v r n1 n2 := by
  rw [BA.sphereOriented_eq, BA.sphereSolid, List.map_flatMap]
  apply List.flatMap_congr
  intro i hi
  have hi' : i < n1 := List.mem_range.mp hi
  have hm : (i + 1) % n1 < n1 := Nat.mod_lt _ (by omega)
  have sm := fun a u v => circlePoint_step_mod a u v n1 i hi'
  unfold BA.sphereBlockIds BA.sphereBlock
  simp only [List.map_append, List.map_flatMap]
  congr 1
  · congr 1
    · simp (disch := omega) only [List.map_cons, List.map_nil, ← flipCycle_map, BA.place_mc, BA.place_tc, BA.place_bc,
        BA.qUp, BA.qLo, BA.up, BA.lo, BA.sphPt, sm, BA.lat_zero, neg_zero]
    · apply List.flatMap_congr
      intro j hj
      obtain ⟨hj1, hj2⟩ := List.mem_range'_1.mp hj
      have ej : j - 1 + 1 = j := by omega
      simp (disch := omega) only [List.map_cons, List.map_nil, ← flipCycle_map, BA.place_tc, BA.place_bc, ej,
        BA.qUp, BA.qLo, BA.up, BA.lo, BA.sphPt, sm]
  · have ej : n2 - 2 + 1 = n2 - 1 := by omega
    simp (disch := omega) only [List.map_cons, List.map_nil, ← flipCycle_map, BA.place_top, BA.place_bot, BA.place_tc,
      BA.place_bc, ej, BA.capT, BA.capB, BA.up, BA.lo, BA.sphPt, sm]

/-! ### volume: contributions of the faces to the surface integral `vol6R` -/
theorem BA.sum_flatMap_pair {β : Type} (cf : β → ℝ) (f g : ℕ → β) :
    ∀ (m s : ℕ), (((List.range' s m).flatMap (fun j => [f j, g j])).map cf).sum =
      ∑ j ∈ Finset.range m, (cf (f (s + j)) + cf (g (s + j))) := by
  intro m s
  rw [sum_map_flatMap, List.range'_eq_map_range, List.map_map, sum_map_range]
  simp only [Function.comp_apply, List.map_cons, List.map_nil, List.sum_cons, List.sum_nil, add_zero]

theorem BA.fin_telescope0 (f : ℕ → ℝ) (n : ℕ) (G : ℕ → ℝ) (hG : ∀ i, G i = f (i + 1) - f i) :
    ∑ i ∈ Finset.range n, G i = f n - f 0 := by
  rw [Finset.sum_congr rfl (fun i _ => hG i), Finset.sum_range_sub]

/-- what one band quadrilateral between the rings `(ρ1, z1)`, `(ρ2, z2)` adds to the surface integral, up to the factor
    `sin(2π/n)`: `Q = (c − q)·(u × v)`, `D = k·(u × v)` -/
def BA.bandTerm (Q D ρ1 ρ2 z1 z2 : ℝ) : ℝ := (ρ1 ^ 2 - ρ2 ^ 2) * (Q + z1 * D) + ρ1 * (ρ1 + ρ2) * ((z2 - z1) * D)

/-- one latitude band (all n sectors) between the rings at signed latitudes `φ`, `φ'`, oriented
    `(A_s, A_e, B_e, B_s)` -/
theorem BA.band_sum (c k u v q : R3) (r φ φ' : ℝ) (n : ℕ) (hn : 0 < n) :
    ∑ i ∈ Finset.range n, contrib q
      [BA.sphPt c k u v r φ (stepAngle n i), BA.sphPt c k u v r φ (stepAngle n (i + 1)),
        BA.sphPt c k u v r φ' (stepAngle n (i + 1)), BA.sphPt c k u v r φ' (stepAngle n i)] =
      n * sin (2 * π / n) * BA.bandTerm (dot (sub c q) (cross u v)) (dot k (cross u v)) (r * cos φ) (r * cos φ')
        (r * sin φ) (r * sin φ') := by
  simp only [BA.sphPt_eq]
  rw [ring_quads_sum _ _ u v q _ _ n hn]
  simp only [BA.bandTerm, dot, sub, add, smul]; ring

/-- one polar cap (all n sectors), triangles `(p, A_e, A_s)` as coded: the flipped fan from `p` to the ring -/
theorem BA.cap_sum (c k u v p q : R3) (r φ : ℝ) (n : ℕ) (hn : 0 < n) :
    ∑ i ∈ Finset.range n, contrib q
      (flipCycle [p, BA.sphPt c k u v r φ (stepAngle n i), BA.sphPt c k u v r φ (stepAngle n (i + 1))]) =
      -(n * (sin (2 * π / n) * (r * cos φ * (r * cos φ) * dot (sub p q) (cross u v)))) := by
  simp only [contrib_flip, Finset.sum_neg_distrib, BA.sphPt]
  rw [ring_tris_sum _ _ _ _ q n hn, cross_smul, dot_smul]

/-- the surface integral over the faces of sector `i` (n2 = m + 2) -/
theorem BA.block_vol (c k u v q : R3) (r : ℝ) (n1 m i : ℕ) :
    ((BA.sphereBlock c k u v r n1 (m + 2) i).map (contrib q)).sum =
      ∑ j ∈ Finset.range (m + 1),
          (contrib q (BA.qUp c k u v r n1 (m + 2) j i) - contrib q (BA.qLo c k u v r n1 (m + 2) j i)) -
        contrib q (BA.capT c k u v r n1 (m + 2) i) + contrib q (BA.capB c k u v r n1 (m + 2) i) := by
  unfold BA.sphereBlock
  have e : m + 2 - 2 = m := by omega
  rw [e, List.map_append, List.map_append, List.sum_append, List.sum_append, BA.sum_flatMap_pair,
    Finset.sum_range_succ']
  simp only [List.map_cons, List.map_nil, List.sum_cons, List.sum_nil, contrib_flip, add_zero, Nat.add_comm 1,
    ← sub_eq_add_neg]
  ring

theorem BA.capT_eq (c k u v : R3) (r : ℝ) (n1 n2 i : ℕ) :
    BA.capT c k u v r n1 n2 i = flipCycle [add c (smul r k), BA.up c k u v r n1 n2 (n2 - 1) i,
      BA.up c k u v r n1 n2 (n2 - 1) (i + 1)] := by
  simp [BA.capT, flipCycle]

theorem BA.capB_eq (c k u v : R3) (r : ℝ) (n1 n2 i : ℕ) :
    BA.capB c k u v r n1 n2 i = flipCycle [add c (smul (-r) k), BA.lo c k u v r n1 n2 (n2 - 1) i,
      BA.lo c k u v r n1 n2 (n2 - 1) (i + 1)] := by
  simp [BA.capB, flipCycle]

/-- an upper band and its mirror image together, summed over the bands between the rings `(ρ j, ±z j)`: the terms with
    `Q` cancel, those with `ρ²·z` telescope -/
theorem BA.band_pairs_sum (Q D K : ℝ) (ρ z : ℕ → ℝ) (N : ℕ) :
    ∑ j ∈ Finset.range N, (K * BA.bandTerm Q D (ρ j) (ρ (j + 1)) (z j) (z (j + 1)) -
        K * BA.bandTerm Q D (ρ j) (ρ (j + 1)) (-z j) (-z (j + 1))) =
      K * D * (2 * ∑ j ∈ Finset.range N, (z (j + 1) - z j) * (ρ j ^ 2 + ρ j * ρ (j + 1) + ρ (j + 1) ^ 2)) -
        2 * K * D * (ρ N ^ 2 * z N - ρ 0 ^ 2 * z 0) := by
  induction N with
  | zero => simp
  | succ N ih => rw [Finset.sum_range_succ, Finset.sum_range_succ, ih]; unfold BA.bandTerm; ring

/-- C14, Sphere VOLUME, every n1 ≥ 1, n2 ≥ 2, every reference point `q`: the surface integral over the faces of
    `Sphere(center, radius, n1, n2)` as oriented by the constructor (`sphereOriented`: per sector the upper band
    quadrilaterals `(ring_j[s], ring_j[e], ring_{j+1}[e], ring_{j+1}[s])`, the flipped lower ones, the flipped top
    triangle and the bottom triangle) is
      `6·V = n1·sin(2π/n1)·(k·(u × v))·2·Σ_{j<n2} (z_{j+1} − z_j)·(ρ_j² + ρ_j·ρ_{j+1} + ρ_{j+1}²)`,
    `ρ_j = r·cos(lat_j)`, `z_j = r·sin(lat_j)`: twice (two hemispheres) the sum over the bands of the frustum volumes
    `h/3·(A_j + √(A_j·A_{j+1}) + A_{j+1})`, `A_j = n1/2·ρ_j²·sin(2π/n1)` the area of the inscribed n1-gon of ring `j`
    (`k·(u × v) = 1` for the frame of `get_circle_point_list`) -/
theorem BA.sphere_volume (c k u v q : R3) (r : ℝ) (n1 n2 : ℕ) (hn1 : 0 < n1) (h2 : 2 ≤ n2) :
    vol6R ((sphereOriented n1 n2).map (List.map (BA.spherePlace c k u v r n1 n2))) q =
      n1 * sin (2 * π / n1) * dot k (cross u v) *
        (2 * ∑ j ∈ Finset.range n2, (r * sin (BA.lat n2 (j + 1)) - r * sin (BA.lat n2 j)) *
          ((r * cos (BA.lat n2 j)) ^ 2 + (r * cos (BA.lat n2 j)) * (r * cos (BA.lat n2 (j + 1))) +
            (r * cos (BA.lat n2 (j + 1))) ^ 2)) := by
  rw [BA.sphere_placed c k u v r n1 n2 h2]
  obtain ⟨m, rfl⟩ : ∃ m, n2 = m + 2 := ⟨n2 - 2, by omega⟩
  unfold BA.sphereSolid
  rw [vol6R_eq, sum_map_flatMap, sum_map_range]
  simp only [BA.block_vol]
  rw [Finset.sum_add_distrib, Finset.sum_sub_distrib, Finset.sum_comm]
  have e1 : m + 2 - 1 = m + 1 := by omega
  simp only [Finset.sum_sub_distrib, BA.qUp, BA.qLo, BA.capT_eq, BA.capB_eq, BA.up, BA.lo, e1,
    BA.band_sum c k u v q r _ _ n1 hn1, BA.cap_sum c k u v _ q r _ n1 hn1, cos_neg, sin_neg, mul_neg]
  have hs := BA.band_pairs_sum (dot (sub c q) (cross u v)) (dot k (cross u v)) (n1 * sin (2 * π / n1))
    (fun j => r * cos (BA.lat (m + 2) j)) (fun j => r * sin (BA.lat (m + 2) j)) (m + 1)
  rw [← Finset.sum_sub_distrib, hs, Finset.sum_range_succ _ (m + 1)]
  have hpole : BA.lat (m + 2) (m + 1 + 1) = π / 2 := BA.lat_pole (m + 2) (by omega)
  simp only [hpole, BA.lat_zero, sin_zero, cos_pi_div_two, sin_pi_div_two]
  simp only [dot, sub, add, smul]
  ring

/-- the sum over the latitude bands in closed form: `Σ_j (sin φ_{j+1} − sin φ_j)(cos²φ_j + cos φ_j cos φ_{j+1} +
    cos²φ_{j+1}) = 1 + cos(π/2/n2)` (telescoping: each term is `(2 + cos Δ)(sin φ_{j+1} − sin φ_j) − (sin³φ_{j+1} −
    sin³φ_j)`, `Δ = π/2/n2` the latitude step) -/
theorem BA.lat_sum_closed (r : ℝ) (n2 : ℕ) (h : n2 ≠ 0) :
    ∑ j ∈ Finset.range n2, (r * sin (BA.lat n2 (j + 1)) - r * sin (BA.lat n2 j)) *
      ((r * cos (BA.lat n2 j)) ^ 2 + (r * cos (BA.lat n2 j)) * (r * cos (BA.lat n2 (j + 1))) +
        (r * cos (BA.lat n2 (j + 1))) ^ 2) = r ^ 3 * (1 + cos (π / 2 / n2)) := by
  rw [BA.fin_telescope0 (fun j => r ^ 3 * ((2 + cos (π / 2 / n2)) * sin (BA.lat n2 j) - sin (BA.lat n2 j) ^ 3))]
  · simp only [BA.lat_pole n2 h, BA.lat_zero, sin_pi_div_two, sin_zero]
    ring
  · intro j
    have hd : BA.lat n2 (j + 1) - BA.lat n2 j = π / 2 / n2 := by unfold BA.lat; push_cast; ring
    have hc : cos (π / 2 / n2) = cos (BA.lat n2 (j + 1)) * cos (BA.lat n2 j) +
        sin (BA.lat n2 (j + 1)) * sin (BA.lat n2 j) := by rw [← hd, cos_sub]
    have ha := cos_sq_add_sin_sq (BA.lat n2 j)
    have hb := cos_sq_add_sin_sq (BA.lat n2 (j + 1))
    rw [hc]
    generalize BA.lat n2 (j + 1) = b at *
    generalize BA.lat n2 j = a at *
    linear_combination (r ^ 3 * (sin b - sin a)) * ha + (r ^ 3 * (sin b - sin a)) * hb

/-- C14, Sphere VOLUME in closed form, every n1 ≥ 1, n2 ≥ 2:
    `V = vol6/6 = n1/3·r³·sin(2π/n1)·(1 + cos(π/(2·n2)))·(k·(u × v))`
    (→ `4/3·π·r³` as n1, n2 → ∞) -/
theorem BA.sphere_volume_closed (c k u v q : R3) (r : ℝ) (n1 n2 : ℕ) (hn1 : 0 < n1) (h2 : 2 ≤ n2) :
    vol6R ((sphereOriented n1 n2).map (List.map (BA.spherePlace c k u v r n1 n2))) q =
      6 * (n1 / 3 * r ^ 3 * sin (2 * π / n1) * (1 + cos (π / 2 / n2))) * dot k (cross u v) := by
  rw [BA.sphere_volume c k u v q r n1 n2 hn1 h2, BA.lat_sum_closed r n2 (by omega)]
  ring

/-- the unit frame of `get_circle_point_list`, scaled by the ring radius, is the frame of radius `ρ` -/
theorem BA.frame_scale_eq (k b : R3) (ρ : ℝ) :
    frameU k b ρ = smul ρ (frameU k b 1) ∧ frameV k b ρ = smul ρ (frameV k b 1) := by
  constructor <;> apply R3.ext' <;> simp only [frameU, frameV, smul] <;> ring

/-- … with the frame of `get_circle_point_list` for a unit normal `k` (the code: `z_unit_vector()`) and a base vector
    `b` not parallel to it: `V = n1/3·r³·sin(2π/n1)·(1 + cos(π/(2·n2)))` -/
theorem BA.sphere_volume_closed_form (c k b q : R3) (r : ℝ) (n1 n2 : ℕ) (hn1 : 0 < n1) (h2 : 2 ≤ n2)
    (hk : normSq k = 1) (hb : 0 < normSq (cross k b)) :
    vol6R ((sphereOriented n1 n2).map (List.map (BA.spherePlace c k (frameU k b 1) (frameV k b 1) r n1 n2))) q =
      6 * (n1 / 3 * r ^ 3 * sin (2 * π / n1) * (1 + cos (π / 2 / n2))) := by
  rw [BA.sphere_volume_closed c k _ _ q r n1 n2 hn1 h2,
    (frame_real_positive k b 1 one_pos (by rw [hk]; exact one_pos) hb).1, hk]
  simp

#print axioms BA.sphereOriented_eq
#print axioms BA.sphere_placed
#print axioms BA.sphPt_on_sphere
#print axioms BA.sphere_volume
#print axioms BA.lat_sum_closed
#print axioms BA.sphere_volume_closed
#print axioms BA.sphere_volume_closed_form
end BuildersReal
end G3D
