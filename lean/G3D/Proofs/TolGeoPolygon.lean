import G3D.Model.TolGeoPolygon
import G3D.Proofs.TolGeoPlane
import Mathlib.Tactic.LinearCombination

/-! C19 for `ConvexPolygon.__contains__(Point)` under a perturbation of the vertices by ≤ eps/1000 per coordinate.

    What is proved (sup-norm estimates, explicit numeric side conditions `hplane`, `hedge`):
    * every point that satisfies the EXACT membership conditions of the original polygon (on the plane, on the inner side of
      every edge) — in particular every vertex and the centre — is accepted by the perturbed polygon;
    * a point that violates an exact edge condition by more than `2·eps` is rejected by the perturbed polygon.
    Assumed, not proved: the perturbed polygon lists its (perturbed) vertices in the same cyclic order as the original
    (`_check_and_sort_points` sorts by `atan2` about the centre; the order is stable as long as the angular gaps
    exceed the perturbation).  The raw normal of the perturbed plane is allowed to move by `g·eps/1000` per coordinate;
    `cross_closeBy_points` gives `g = 8E + 1` for the three-point constructor. -/
namespace G3D.TolGeo
open R3

/-! ### triple products in the sup norm -/

/-- `|a·(b×c)| ≤ 6·A·B·C` for coordinate bounds `A, B, C` -/
theorem triple_le {a b c : R3} {A B C : ℝ} (ha : coordLe A a) (hb : coordLe B b) (hc : coordLe C c) :
    |dot a (cross b c)| ≤ 6 * (A * (B * C)) := by
  linarith [abs_dot_le_of_coord ha (cross_coord_le hb hc)]

theorem triple_diff (a a' n n' w w' : R3) :
    dot a' (cross n' w') - dot a (cross n w)
      = dot (sub a' a) (cross n' w') + dot a (cross (sub n' n) w') + dot a (cross n (sub w' w)) := by
  simp only [dot, cross, sub]; ring

/-- the edge quantity `vec·(n × v0)` moves by at most `6(δ·E₁ + R·Δ·E₁ + 2Rδ)` -/
theorem edge_perturb {a a' n n' w w' : R3} {R δ Δ E₁ : ℝ} (ha : coordLe R a) (hda : closeBy δ a a')
    (hn : coordLe 1 n) (hn' : coordLe 1 n') (hdn : closeBy Δ n n') (hw' : coordLe E₁ w')
    (hdw : closeBy (2 * δ) w w') :
    |dot a' (cross n' w') - dot a (cross n w)|
      ≤ 6 * (δ * (1 * E₁)) + 6 * (R * (Δ * E₁)) + 6 * (R * (1 * (2 * δ))) := by
  rw [triple_diff]
  linarith [triple_le hda.sub_coord hn' hw', triple_le ha hdn.sub_coord hw', triple_le ha hn hdw.sub_coord,
    abs_add_three (dot (sub a' a) (cross n' w')) (dot a (cross (sub n' n) w')) (dot a (cross n (sub w' w)))]

/-! ### normalisation -/

/-- a vector of length 1 is its own normalisation -/
theorem normalized_of_unit {r : R3} (h : dot r r = 1) : normalized r = r := by
  rw [normalized, len, h, Real.sqrt_one]
  ext <;> simp [smul]

/-- `self.plane.n.normalized()` on the already normalised stored normal changes nothing -/
theorem normalized_idem {r : R3} (hr : 0 < dot r r) : normalized (normalized r) = normalized r :=
  normalized_of_unit (normalized_dot_self hr)

/-- raw normals that are γ-close, the first of length ≥ ρ ≥ 26γ: neither vanishes, and the unit normals are within
    `3γ/ρ` per coordinate; stated with the constant 13/4 in which the side conditions `hplane`, `hedge` are written -/
theorem normals_close {r r' : R3} {γ ρ : ℝ} (hr : closeBy γ r r') (hρ : 0 < ρ) (hρr : ρ * ρ ≤ dot r r)
    (hg : 26 * γ ≤ ρ) :
    0 < dot r r ∧ 0 < dot r' r' ∧ closeBy (13 / 4 * γ / ρ) (normalized r) (normalized r') := by
  have hγ := hr.sub_coord.nonneg
  have hL : ρ ≤ len r := le_len hρr
  have hL' : 0 < len r' := (by linarith : 0 < ρ - 2 * γ).trans_le (len_ge_of_close hr (by linarith))
  exact ⟨len_pos.1 (hρ.trans_le hL), len_pos.1 hL',
    (normalized_closeBy hρ hL hL' hr).mono (div_le_div_of_nonneg_right (by linarith) hρ.le)⟩

/-- `X·ρ ≤ δ·K`, `K ≤ c·ρ` ⇒ `X ≤ c·δ` -/
theorem num_step {X δ ρ K c : ℝ} (hρ : 0 < ρ) (hδ : 0 ≤ δ) (h : X * ρ ≤ δ * K) (hK : K ≤ c * ρ) :
    X ≤ c * δ := by
  have h1 : δ * K ≤ δ * (c * ρ) := mul_le_mul_of_nonneg_left hK hδ
  exact le_of_mul_le_mul_right (by linarith : X * ρ ≤ (c * δ) * ρ) hρ

/-! ### the polygon -/

section poly
variable {n : Nat} {eps E R ρ g : ℝ} {p p' r r' x : R3} {P P' : Fin n → R3}

/-- the common estimate: every edge quantity of the perturbed polygon is within `999·eps/1000` of the original one -/
theorem Polygon.edgeVal_close (heps : 0 < eps) (heps1 : eps ≤ 1)
    (hr : closeBy (g * (eps / 1000)) r r') (hP : ∀ i, closeBy (eps / 1000) (P i) (P' i))
    (hρ : 0 < ρ) (hρr : ρ * ρ ≤ dot r r) (hg : 26 * (g * (eps / 1000)) ≤ ρ)
    (hxP : ∀ i, coordLe R (sub x (P i))) (hE : ∀ i, coordLe E (sub (P (nextIdx i)) (P i)))
    (hedge : 6 * ((E + 1 / 100) * ρ + 13 / 4 * R * g * (E + 1 / 100) + 2 * R * ρ) ≤ 999 * ρ) (i : Fin n) :
    |(⟨Plane.ofPN p' r', P'⟩ : Polygon n).edgeVal i x - (⟨Plane.ofPN p r, P⟩ : Polygon n).edgeVal i x|
      ≤ 999 * (eps / 1000) := by
  obtain ⟨hrpos, hr'pos, hc⟩ := normals_close hr hρ hρr hg
  have hΔ := div_mul_cancel₀ (13 / 4 * (g * (eps / 1000))) hρ.ne'
  have hdw := (hP i).sub (hP (nextIdx i))
  have key := edge_perturb (hxP i) ((hP i).sub_left x) (normalized_coord_le hrpos) (normalized_coord_le hr'pos)
    hc ((hdw.coordLe (hE i)).mono (by linarith : _ ≤ E + 1 / 100)) hdw
  unfold Polygon.edgeVal Plane.ofPN
  simp only
  rw [normalized_idem hrpos, normalized_idem hr'pos]
  refine key.trans (num_step hρ (by positivity) (le_of_eq ?_) hedge)
  linear_combination (6 * R * (E + 1 / 100)) * hΔ

/-- **Acceptance.**  Every point `x` that satisfies the exact membership conditions of the original polygon (plane through
    `p` with raw normal `r`, `|r| ≥ ρ`; `x` on the inner side of every edge) is accepted by the perturbed polygon.
    `R` bounds the coordinates of `x − p` and `x − P i`, `E` those of the edges; `g·eps/1000` the move of the raw normal. -/
theorem Polygon.containsT_of_close (heps : 0 < eps) (heps1 : eps ≤ 1)
    (hp : closeBy (eps / 1000) p p') (hr : closeBy (g * (eps / 1000)) r r')
    (hP : ∀ i, closeBy (eps / 1000) (P i) (P' i))
    (hρ : 0 < ρ) (hρr : ρ * ρ ≤ dot r r) (hg : 26 * (g * (eps / 1000)) ≤ ρ)
    (hon : dot (sub x p) r = 0)
    (hxp : |(sub x p).x| ≤ R ∧ |(sub x p).y| ≤ R ∧ |(sub x p).z| ≤ R)
    (hxP : ∀ i, |(sub x (P i)).x| ≤ R ∧ |(sub x (P i)).y| ≤ R ∧ |(sub x (P i)).z| ≤ R)
    (hE : ∀ i, |(sub (P (nextIdx i)) (P i)).x| ≤ E ∧ |(sub (P (nextIdx i)) (P i)).y| ≤ E ∧
      |(sub (P (nextIdx i)) (P i)).z| ≤ E)
    (hin : ∀ i, 0 ≤ (⟨Plane.ofPN p r, P⟩ : Polygon n).edgeVal i x)
    (hplane : 39 / 4 * R * g + 3 * ρ < 1000 * ρ)
    (hedge : 6 * ((E + 1 / 100) * ρ + 13 / 4 * R * g * (E + 1 / 100) + 2 * R * ρ) ≤ 999 * ρ) :
    Polygon.containsT eps (⟨Plane.ofPN p' r', P'⟩ : Polygon n) x := by
  obtain ⟨-, hr'pos, hc⟩ := normals_close hr hρ hρr hg
  refine ⟨Plane.containsT_of_close_gen hp hc hr'pos hon hxp (lt_of_mul_lt_mul_right ?_ hρ.le), fun i hlt => ?_⟩
  · -- (3RΔ + 3δ)·ρ = δ·(39/4·R·g + 3ρ) < δ·1000ρ
    have hΔ := div_mul_cancel₀ (13 / 4 * (g * (eps / 1000))) hρ.ne'
    have h1 : (3 * (R * (13 / 4 * (g * (eps / 1000)) / ρ)) + 3 * (eps / 1000 * 1)) * ρ
        = eps / 1000 * (39 / 4 * R * g + 3 * ρ) := by
      linear_combination (3 * R) * hΔ
    rw [h1]
    linarith [mul_lt_mul_of_pos_left hplane (by positivity : 0 < eps / 1000)]
  · linarith [(abs_le.1 (Polygon.edgeVal_close (p := p) (p' := p') heps heps1 hr hP hρ hρr hg hxP hE hedge i)).1,
      hin i]

/-- **Rejection.**  A point that violates the exact condition of some edge of the original polygon by more than `2·eps`
    is rejected by the perturbed polygon. -/
theorem Polygon.not_containsT_of_close (heps : 0 < eps) (heps1 : eps ≤ 1)
    (hr : closeBy (g * (eps / 1000)) r r') (hP : ∀ i, closeBy (eps / 1000) (P i) (P' i))
    (hρ : 0 < ρ) (hρr : ρ * ρ ≤ dot r r) (hg : 26 * (g * (eps / 1000)) ≤ ρ)
    (hxP : ∀ i, |(sub x (P i)).x| ≤ R ∧ |(sub x (P i)).y| ≤ R ∧ |(sub x (P i)).z| ≤ R)
    (hE : ∀ i, |(sub (P (nextIdx i)) (P i)).x| ≤ E ∧ |(sub (P (nextIdx i)) (P i)).y| ≤ E ∧
      |(sub (P (nextIdx i)) (P i)).z| ≤ E)
    (hedge : 6 * ((E + 1 / 100) * ρ + 13 / 4 * R * g * (E + 1 / 100) + 2 * R * ρ) ≤ 999 * ρ)
    (hout : ∃ i, (⟨Plane.ofPN p r, P⟩ : Polygon n).edgeVal i x < -(2 * eps)) :
    ¬ Polygon.containsT eps (⟨Plane.ofPN p' r', P'⟩ : Polygon n) x := by
  rintro ⟨_, hall⟩
  obtain ⟨i, hi⟩ := hout
  apply hall i
  linarith [(abs_le.1 (Polygon.edgeVal_close (p := p) (p' := p') heps heps1 hr hP hρ hρr hg hxP hE hedge i)).2]

end poly

/-! ### the raw normal of the three-point constructor -/

/-- `Plane(a, b, c)`: if the two spanning vectors `u = b − a`, `v = c − a` (coordinates ≤ E) move by ≤ d per
    coordinate, the raw normal `u × v` moves by ≤ `4Ed + 2d²`, because `u' × v' − u × v = (u' − u) × v' + u × (v' − v)` -/
theorem cross_closeBy {u u' v v' : R3} {E d : ℝ} (hu : coordLe E u) (hv : coordLe E v)
    (hu' : closeBy d u u') (hv' : closeBy d v v') :
    closeBy (2 * (d * (E + d)) + 2 * (E * d)) (cross u v) (cross u' v') := by
  have e : sub (cross u' v') (cross u v) = add (cross (sub u' u) v') (cross u (sub v' v)) := by
    ext <;> simp only [cross, add, sub] <;> ring
  change coordLe _ (sub (cross u' v') (cross u v))
  rw [e]
  exact (cross_coord_le hu'.sub_coord (hv'.coordLe hv)).add (cross_coord_le hu hv'.sub_coord)

/-- with `d = 2·eps/1000` this is ≤ `(8E + 1)·eps/1000` -/
theorem cross_closeBy_points {a a' b b' c c' : R3} {E eps : ℝ} (heps : 0 < eps) (heps1 : eps ≤ 1)
    (hu : coordLe E (sub b a)) (hv : coordLe E (sub c a))
    (ha : closeBy (eps / 1000) a a') (hb : closeBy (eps / 1000) b b') (hc : closeBy (eps / 1000) c c') :
    closeBy ((8 * E + 1) * (eps / 1000)) (cross (sub b a) (sub c a)) (cross (sub b' a') (sub c' a')) := by
  refine (cross_closeBy hu hv (ha.sub hb) (ha.sub hc)).mono ?_
  nlinarith [hu.nonneg]

/-- **Acceptance, polygons as constructed** (`Plane(points[0], points[1], points[2])`, polygon.py:152): the three constructor
    points `a b c` and all vertices are perturbed by ≤ eps/1000 per coordinate; `E` bounds the coordinates of `b − a`, `c − a`
    and of every edge, `ρ ≤ |(b − a) × (c − a)|`.  The move of the raw normal is `g = 8E + 1` (in units of eps/1000). -/
theorem Polygon.containsT_ofPoints {n : Nat} {eps E R ρ : ℝ} {a a' b b' c c' x : R3} {P P' : Fin n → R3}
    (heps : 0 < eps) (heps1 : eps ≤ 1)
    (ha : closeBy (eps / 1000) a a') (hb : closeBy (eps / 1000) b b') (hc : closeBy (eps / 1000) c c')
    (hP : ∀ i, closeBy (eps / 1000) (P i) (P' i))
    (hu : |(sub b a).x| ≤ E ∧ |(sub b a).y| ≤ E ∧ |(sub b a).z| ≤ E)
    (hv : |(sub c a).x| ≤ E ∧ |(sub c a).y| ≤ E ∧ |(sub c a).z| ≤ E)
    (hρ : 0 < ρ) (hρr : ρ * ρ ≤ dot (cross (sub b a) (sub c a)) (cross (sub b a) (sub c a)))
    (hg : 26 * ((8 * E + 1) * (eps / 1000)) ≤ ρ)
    (hon : dot (sub x a) (cross (sub b a) (sub c a)) = 0)
    (hxa : |(sub x a).x| ≤ R ∧ |(sub x a).y| ≤ R ∧ |(sub x a).z| ≤ R)
    (hxP : ∀ i, |(sub x (P i)).x| ≤ R ∧ |(sub x (P i)).y| ≤ R ∧ |(sub x (P i)).z| ≤ R)
    (hE : ∀ i, |(sub (P (nextIdx i)) (P i)).x| ≤ E ∧ |(sub (P (nextIdx i)) (P i)).y| ≤ E ∧
      |(sub (P (nextIdx i)) (P i)).z| ≤ E)
    (hin : ∀ i, 0 ≤ (Polygon.ofPoints a b c P).edgeVal i x)
    (hplane : 39 / 4 * R * (8 * E + 1) + 3 * ρ < 1000 * ρ)
    (hedge : 6 * ((E + 1 / 100) * ρ + 13 / 4 * R * (8 * E + 1) * (E + 1 / 100) + 2 * R * ρ) ≤ 999 * ρ) :
    Polygon.containsT eps (Polygon.ofPoints a' b' c' P') x :=
  Polygon.containsT_of_close (g := 8 * E + 1) heps heps1 ha (cross_closeBy_points heps heps1 hu hv ha hb hc) hP
    hρ hρr hg hon hxa hxP hE hin hplane hedge

/-- **Rejection, polygons as constructed** -/
theorem Polygon.not_containsT_ofPoints {n : Nat} {eps E R ρ : ℝ} {a a' b b' c c' x : R3} {P P' : Fin n → R3}
    (heps : 0 < eps) (heps1 : eps ≤ 1)
    (ha : closeBy (eps / 1000) a a') (hb : closeBy (eps / 1000) b b') (hc : closeBy (eps / 1000) c c')
    (hP : ∀ i, closeBy (eps / 1000) (P i) (P' i))
    (hu : |(sub b a).x| ≤ E ∧ |(sub b a).y| ≤ E ∧ |(sub b a).z| ≤ E)
    (hv : |(sub c a).x| ≤ E ∧ |(sub c a).y| ≤ E ∧ |(sub c a).z| ≤ E)
    (hρ : 0 < ρ) (hρr : ρ * ρ ≤ dot (cross (sub b a) (sub c a)) (cross (sub b a) (sub c a)))
    (hg : 26 * ((8 * E + 1) * (eps / 1000)) ≤ ρ)
    (hxP : ∀ i, |(sub x (P i)).x| ≤ R ∧ |(sub x (P i)).y| ≤ R ∧ |(sub x (P i)).z| ≤ R)
    (hE : ∀ i, |(sub (P (nextIdx i)) (P i)).x| ≤ E ∧ |(sub (P (nextIdx i)) (P i)).y| ≤ E ∧
      |(sub (P (nextIdx i)) (P i)).z| ≤ E)
    (hedge : 6 * ((E + 1 / 100) * ρ + 13 / 4 * R * (8 * E + 1) * (E + 1 / 100) + 2 * R * ρ) ≤ 999 * ρ)
    (hout : ∃ i, (Polygon.ofPoints a b c P).edgeVal i x < -(2 * eps)) :
    ¬ Polygon.containsT eps (Polygon.ofPoints a' b' c' P') x :=
  Polygon.not_containsT_of_close (g := 8 * E + 1) (p := a) (p' := a') heps heps1
    (cross_closeBy_points heps heps1 hu hv ha hb hc) hP hρ hρr hg hxP hE hedge hout

end G3D.TolGeo
