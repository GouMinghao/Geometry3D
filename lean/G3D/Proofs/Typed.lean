import G3D.Props.C04
import G3D.Proofs.TypedHandlers

/-! # Result typing of `intersection` against the EXTRACTED documentation table, through the generated dispatcher

    `Proofs/TypedHandlers.lean` types every handler as modelled; here the lists are compared with
    `Extracted.docRows` (read through `Props.C04.docFor`) and the statements are lifted to `inter`, the dispatcher
    generated from the current source. -/
namespace G3D
open G3D.Extracted G3D.Dispatch
open G3D.Props.C04 (docFor)

/-! ## the same against the EXTRACTED documentation table, through the generated dispatcher -/
/-- `allowed` IS the documented row of the extracted table -/
theorem docFor_flat (a b : Geo) : docFor (tyOf (.flat a)) (tyOf (.flat b)) = some (allowed a b) := by
  cases a <;> cases b <;> rfl

/-- **documented result types, flat × flat, all inputs**: whenever the generated dispatcher returns a
    value for two flat operands, the documentation table has a row for the two operand types and
    the type of the value is listed in it. -/
theorem inter_flat_documented (a b : Geo) (o : Option Obj) (h : inter (.flat a) (.flat b) = .ok o) :
    ∃ l, docFor (tyOf (.flat a)) (tyOf (.flat b)) = some l ∧ resTyOf o ∈ l := by
  rw [Props.C04.inter_eq_ref] at h
  exact ⟨allowed a b, docFor_flat a b, interFlat_typed a b o h⟩
#print axioms inter_flat_documented

/-- **documented result types, flat × ConvexPolygon, both argument orders, all inputs** -/
theorem inter_flat_polygon_documented (f : Geo) (P : Polygon) (o : Option Obj)
    (h : inter (.flat f) (.polygon P) = .ok o ∨ inter (.polygon P) (.flat f) = .ok o) :
    ∃ l, docFor (tyOf (.flat f)) .polygon = some l ∧ docFor .polygon (tyOf (.flat f)) = some l ∧ resTyOf o ∈ l := by
  rw [Props.C04.inter_eq_ref, Props.C04.inter_eq_ref] at h
  cases f with
  | point p => exact ⟨_, rfl, rfl, interPointPolygon_typed p P o (h.elim id id)⟩
  | line l => exact ⟨_, rfl, rfl, interLinePolygon_typed l P o (h.elim id id)⟩
  | plane a => exact ⟨_, rfl, rfl, interPlanePolygon_typed a P o (h.elim id id)⟩
  | seg s => exact ⟨_, rfl, rfl, interSegPolygon_typed s P o (h.elim id id)⟩
  | halfline hl => exact ⟨_, rfl, rfl, interPolygonHalfLine_typed P hl o (h.elim id id)⟩
#print axioms inter_flat_polygon_documented

/-- **C04, result typing, ALL 49 cells, all inputs**: whenever `intersection(a, b)` (the dispatcher
    generated from the current source, running the 28 modelled handlers) returns a value, the
    documentation table extracted from docs/source/example_operation.rst has a row for the two operand
    types, and the type of the returned value (`None` included) is listed in that row.
    No hypothesis on the operands: the statement covers degenerate and ill-formed objects too
    (for those the handlers may raise, which is the case `inter a b = .error _`, not covered here). -/
theorem inter_documented (a b : Obj) (o : Option Obj) (h : inter a b = .ok o) :
    ∃ l, docFor (tyOf a) (tyOf b) = some l ∧ resTyOf o ∈ l := by
  have hi := h
  rw [Props.C04.inter_eq_ref] at h
  cases a with
  | flat x =>
    cases b with
    | flat y => exact inter_flat_documented x y o hi
    | polygon Q =>
      obtain ⟨l, h1, _, h3⟩ := inter_flat_polygon_documented x Q o (.inl hi)
      exact ⟨l, h1, h3⟩
    | polyhedron B =>
      cases x with
      | point p => exact ⟨_, rfl, interPointPolyhedron_typed p B o h⟩
      | line l => exact ⟨_, rfl, interLinePolyhedron_typed l B o h⟩
      | plane pl => exact ⟨_, rfl, interPlanePolyhedron_typed pl B o h⟩
      | seg s => exact ⟨_, rfl, interSegPolyhedron_typed s B o h⟩
      | halfline hl => exact ⟨_, rfl, interPolyhedronHalfLine_typed B hl o h⟩
  | polygon P =>
    cases b with
    | flat y =>
      obtain ⟨l, _, h2, h3⟩ := inter_flat_polygon_documented y P o (.inr hi)
      exact ⟨l, h2, h3⟩
    | polygon Q => exact ⟨_, rfl, interPolygonPolygon_typed P Q o h⟩
    | polyhedron B => exact ⟨_, rfl, interPolygonPolyhedron_typed B P o h⟩
  | polyhedron A =>
    cases b with
    | flat y =>
      cases y with
      | point p => exact ⟨_, rfl, interPointPolyhedron_typed p A o h⟩
      | line l => exact ⟨_, rfl, interLinePolyhedron_typed l A o h⟩
      | plane pl => exact ⟨_, rfl, interPlanePolyhedron_typed pl A o h⟩
      | seg s => exact ⟨_, rfl, interSegPolyhedron_typed s A o h⟩
      | halfline hl => exact ⟨_, rfl, interPolyhedronHalfLine_typed A hl o h⟩
    | polygon Q => exact ⟨_, rfl, interPolygonPolyhedron_typed A Q o h⟩
    | polyhedron B => exact ⟨_, rfl, interPolyhedronPolyhedron_typed A B o h⟩
#print axioms inter_documented

/-- with optional operands (`None` absorbs, and `None` is in every documented row) -/
theorem interOpt_documented (a b : Obj) (o : Option Obj) (h : interOpt (some a) (some b) = .ok o) :
    ∃ l, docFor (tyOf a) (tyOf b) = some l ∧ resTyOf o ∈ l := inter_documented a b o h

/-- the converse reading: a value of an undocumented type is never returned -/
theorem inter_never_undocumented (a b : Obj) (l : List ResTy) (hl : docFor (tyOf a) (tyOf b) = some l)
    (o : Option Obj) (ho : resTyOf o ∉ l) : inter a b ≠ .ok o := by
  intro h
  obtain ⟨l', hl', hm⟩ := inter_documented a b o h
  rw [hl] at hl'; cases hl'; exact ho hm

end G3D
