import G3D.Extracted.Consts
import Mathlib.Analysis.SpecialFunctions.Trigonometric.Bounds
/-! The threshold of the frame selection of `get_circle_point_list`: the code switches the base vector when the angle
    between the normal and the axis is below SMALL_ANGLE (or above π − SMALL_ANGLE), i.e. when cos² > cos²(SMALL_ANGLE).
    With the extracted SMALL_ANGLE = 1/10 the threshold lies in [1/2, 1), which is the hypothesis of
    `Builders.frame_defined`. -/
namespace G3D
open Real

theorem smallAngle_value : Extracted.smallAngle = 1 / 10 := by decide +kernel

theorem cos_sq_smallAngle_range : (1:ℝ) / 2 ≤ cos ((Extracted.smallAngle : ℚ) : ℝ) ^ 2 ∧ cos ((Extracted.smallAngle : ℚ) : ℝ) ^ 2 < 1 := by
  rw [smallAngle_value]
  have hx : (((1:ℚ) / 10 : ℚ) : ℝ) = 1 / 10 := by norm_num
  rw [hx]
  have h1 : (199 : ℝ) / 200 ≤ cos (1 / 10) := le_trans (by norm_num) (one_sub_sq_div_two_le_cos (x := 1 / 10))
  have hlt : cos ((1:ℝ) / 10) < 1 := by
    have := cos_lt_cos_of_nonneg_of_le_pi_div_two (le_refl 0) (by linarith [two_le_pi]) (by norm_num : (0:ℝ) < 1 / 10)
    rwa [cos_zero] at this
  exact ⟨le_trans (by norm_num) (pow_le_pow_left₀ (by norm_num) h1 2), pow_lt_one₀ (by linarith) hlt two_ne_zero⟩
#print axioms cos_sq_smallAngle_range
end G3D
