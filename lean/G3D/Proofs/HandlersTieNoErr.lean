import G3D.Proofs.HandlersTieBase
import G3D.Proofs.Collinear
/-! Which exceptions the flat handlers can raise — for ALL inputs (no well-formedness assumed).

    The hand-written model maps *any* exception of an inner flat call to "Bug detected" in a few loops
    (`lineEdgesLoop`, `edgeHits`, the loop of `interPlanePolyhedron`), whereas the code lets the inner exception
    propagate.  The lemmas below show that the two readings cannot be told apart: `inter_line_line` never raises,
    `Segment(p, q)` is never called with `p = q` on a collected point set, so the only exception that the collinear
    flat handlers can raise *is* "Bug detected". -/
set_option linter.unusedSimpArgs false
namespace G3D.Tie
open V3 PyRt

theorem parallel_zero_right (u : V3) : V3.parallel u zero = true := by
  simp [V3.parallel, dot, normSq, zero]

theorem parallel_zero_left (u : V3) : V3.parallel zero u = true := by
  simp [V3.parallel, dot, normSq, zero]

theorem Line.contains_of_dv_zero (l : Line) (h : l.dv = zero) (p : V3) : l.contains p = true := by
  unfold Line.contains; rw [h]; exact parallel_zero_right _

open Solver2 in
/-- `inter_line_line` never raises, whatever the two lines are (even with a zero direction vector) -/
theorem interLineLine_ne_error (l1 l2 : Line) (e : IErr) : interLineLine l1 l2 ≠ .error e := by
  by_cases h1 : l1.dv = zero
  · -- a degenerate first line "equals" every line
    have heq : l1.eqv l2 = true := by
      unfold Line.eqv
      rw [Line.contains_of_dv_zero l1 h1, h1, parallel_zero_right]; rfl
    unfold interLineLine; rw [if_pos heq]; intro h; cases h
  by_cases h2 : l2.dv = zero
  · unfold interLineLine
    by_cases heq : l1.eqv l2 = true
    · rw [if_pos heq]; intro h; cases h
    · rw [if_neg heq]
      have hu : Uniform (2+1) (lineLineMatrix l1 l2) := by
        intro r hr; simp only [lineLineMatrix, List.mem_cons, List.not_mem_nil, or_false] at hr
        rcases hr with rfl | rfl | rfl <;> rfl
      have hne : lineLineMatrix l1 l2 ≠ [] := by simp [lineLineMatrix]
      have hs : solvable (solve (lineLineMatrix l1 l2)) = false := by
        by_contra hs
        have hs' : solvable (solve (lineLineMatrix l1 l2)) = true := by simpa using hs
        obtain ⟨x, hx, hsat⟩ := (solvable_iff_consistent 2 _ hu hne).mp hs'
        match x, hx with
        | [a, b], _ =>
          have e := (lineLine_sat_iff l1 l2 a b).mp hsat
          apply heq
          unfold Line.eqv
          rw [Bool.and_eq_true]
          constructor
          · rw [Line.contains_iff l1 h1]
            refine ⟨a, ?_⟩
            rw [e, h2]
            apply V3.ext' <;> simp [add, smul, zero]
          · rw [h2]; exact parallel_zero_left _
      simp only [hs]; intro h; cases h
  · obtain ⟨o, ho, _⟩ := interLineLine_exact l1 l2 h1 h2
    rw [ho]; intro h; cases h

theorem interLineSeg_onlyBug (l : Line) (s : Seg) : OnlyBug (interLineSeg l s) := by
  intro e h
  unfold interLineSeg at h
  split at h
  · cases h
  · cases h
  · cases h
  · cases h; rfl
  · exact absurd ‹_› (interLineLine_ne_error l s.line _)

theorem interLineHalfLine_onlyBug (l : Line) (hl : HalfLine) : OnlyBug (interLineHalfLine l hl) := by
  intro e h
  unfold interLineHalfLine at h
  split at h
  · cases h
  · cases h
  · cases h
  · cases h; rfl
  · exact absurd ‹_› (interLineLine_ne_error l hl.line _)

theorem interLinePlane_ne_error (l : Line) (p : Plane) (e : IErr) : interLinePlane l p ≠ .error e := by
  unfold interLinePlane
  split
  · intro h; cases h
  · split <;> (intro h; cases h)

theorem interPlaneSeg_onlyBug (a : Plane) (s : Seg) : OnlyBug (interPlaneSeg a s) := by
  intro e h
  unfold interPlaneSeg at h
  split at h
  · cases h
  · cases h
  · cases h
  · cases h; rfl
  · exact absurd ‹_› (interLinePlane_ne_error s.line a _)

theorem interPlaneHalfLine_onlyBug (a : Plane) (hl : HalfLine) : OnlyBug (interPlaneHalfLine a hl) := by
  intro e h
  unfold interPlaneHalfLine at h
  split at h
  · cases h
  · cases h
  · cases h
  · cases h; rfl
  · exact absurd ‹_› (interLinePlane_ne_error hl.line a _)

theorem interPlanePlane_onlyBug (a b : Plane) : OnlyBug (interPlanePlane a b) := by
  intro e h
  unfold interPlanePlane at h
  split at h
  · cases h
  · split at h
    · cases h
    · simp only at h
      split at h <;> cases h
      rfl

/-! ### collected point sets are duplicate-free, so `Segment(p, q)` never sees `p = q` -/

theorem ofPointSet_onlyBug {ps : List V3} (h : ps.Nodup) : OnlyBug (ofPointSet ps) := by
  intro e he
  unfold ofPointSet at he
  split at he
  · cases he
  · cases he
  · rename_i p q
    have hpq : p ≠ q := by
      intro hpq; subst hpq; simp at h
    simp [mkSeg, hpq, bind, Except.bind] at he
  · cases he; rfl

theorem crossing_onlyBug (l1 l2 : Line) (c : V3 → Bool) :
    OnlyBug (match interLineLine l1 l2 with
      | .ok none => .ok none
      | .ok (some (.point q)) => .ok (if c q then some (.point q) else none)
      | .ok _ => .error .bug
      | .error e => .error e) := by
  intro e h
  have := interLineLine_ne_error l1 l2
  split at h
  · cases h
  · cases h
  · cases h; rfl
  · rename_i e' he'; exact absurd he' (this e')

theorem interSegSeg_onlyBug (a b : Seg) : OnlyBug (interSegSeg a b) := by
  unfold interSegSeg
  split
  · exact ofPointSet_onlyBug (nodup_addIf _ _ _ (nodup_addIf _ _ _ (nodup_addIf _ _ _ (nodup_addIf _ _ _ List.nodup_nil))))
  · exact crossing_onlyBug _ _ _

theorem interSegHalfLine_onlyBug (a : Seg) (b : HalfLine) : OnlyBug (interSegHalfLine a b) := by
  unfold interSegHalfLine
  split
  · exact ofPointSet_onlyBug (nodup_addIf _ _ _ (nodup_addIf _ _ _ (nodup_addIf _ _ _ List.nodup_nil)))
  · exact crossing_onlyBug _ _ _

theorem interHalfLineHalfLine_onlyBug (a b : HalfLine) : OnlyBug (interHalfLineHalfLine a b) := by
  unfold interHalfLineHalfLine
  by_cases hl : a.line.eqv b.line = true
  · rw [if_pos hl]
    by_cases hab : b.containsHL a = true
    · rw [if_pos hab]; intro e h; cases h
    rw [if_neg hab]
    by_cases hba : a.containsHL b = true
    · rw [if_pos hba]; intro e h; cases h
    rw [if_neg hba]
    exact ofPointSet_onlyBug (nodup_addIf _ _ _ (nodup_addIf _ _ _ List.nodup_nil))
  · rw [if_neg hl]; exact crossing_onlyBug _ _ _

#print axioms interLineLine_ne_error
#print axioms interSegSeg_onlyBug
end G3D.Tie
