import G3D.Extracted.Mmeas
import G3D.Proofs.MeasTieBase
import G3D.Proofs.MeasTieSegment
/-! # mmeas, `ConvexPolyhedron.length`  (C06)
    `G3D.Extracted.m_ConvexPolyhedron_length` is regenerated on every run by tools/extract_mmeas.py from the BODY in
    geometry/polyhedron.py: `l = 0; for segment in self.segment_set: l += segment.length(); return l`.
    It is the sum of the square roots of the model's squared edge lengths, in whatever order the set is iterated.
    Unconditional.  Imports the tie of `Segment.length` because the Python delegates to it. -/
namespace G3D.MeasTie.Polyhedron
open G3D G3D.MeasRt G3D.KTie G3D.Extracted G3D.MeasTie Real

section length
/-- the accumulator loop is the sum of the segment lengths -/
theorem m_ConvexPolyhedron_length_sum (M : MPolyhedron) :
    m_ConvexPolyhedron_length M = (M.segment_set.map m_Segment_length).sum := by
  simp only [m_ConvexPolyhedron_length]
  rw [foldl_add_sum, zero_add]

/-- **`ConvexPolyhedron.length()` = Σ_edges √lenSq**, for every iteration order of `segment_set` -/
theorem m_ConvexPolyhedron_length_tie (B : Polyhedron) (M : MPolyhedron)
    (hs : List.Perm M.segment_set (B.edges.map segToM)) :
    m_ConvexPolyhedron_length M = (B.edgeLenSqs.map (fun q => √((q : ℚ) : ℝ))).sum := by
  rw [m_ConvexPolyhedron_length_sum, sum_map_perm hs]
  unfold Polyhedron.edgeLenSqs
  rw [List.map_map, List.map_map]
  exact congrArg List.sum (List.map_congr_left fun s _ => Segment.m_Segment_length_tie s)

/-- in the model's own order -/
theorem m_ConvexPolyhedron_length_model (B : Polyhedron) :
    m_ConvexPolyhedron_length (bodyToM B) = (B.edgeLenSqs.map (fun q => √((q : ℚ) : ℝ))).sum :=
  m_ConvexPolyhedron_length_tie B (bodyToM B) (List.Perm.refl _)
end length

#print axioms m_ConvexPolyhedron_length_sum
#print axioms m_ConvexPolyhedron_length_tie
#print axioms m_ConvexPolyhedron_length_model
end G3D.MeasTie.Polyhedron
