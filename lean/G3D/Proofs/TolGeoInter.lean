import G3D.Proofs.TolGeoSeg

/-! C19, "intersect as coincident": which tolerance predicate selects the coincident branch of each handler of
    calc/intersection.py, and that eps/1000-perturbed copies take it.

    * `inter_line_line` (266-299): `if l1 == l2: return l1`  — `Line.__eq__`, i.e. `Line.eqT`.
    * `inter_plane_plane` (447-473): `if a == b: return a` — `Plane.__eq__`, i.e. `Plane.eqT`
      (then `a.n.parallel(b.n)` → None, else the common line).
    * `inter_segment_segment` (567-603): `if a.line == b.line` — `Line.eqT` on the carrier lines, then the four
      `Point in Segment` tests (`Segment.containsT`) collect the end points.
    * `inter_halfline_halfline` (919-956): `if a.line == b.line: if a in b: return a` — `Line.eqT` and
      `HalfLine.containsHL`. -/
namespace G3D.TolGeo
open R3

/-- the coincident branch is taken exactly when `Line.__eq__` holds -/
theorem interLineLine_coincident_iff {eps : ℝ} {l l' : Line} :
    interLineLineBranch eps l l' = .coincident ↔ Line.eqT eps l l' := by
  unfold interLineLineBranch
  split_ifs with h <;> simp [h]

/-- (d) **Line × Line**: perturbed copies take the coincident branch (the handler returns `l1`), in both orders -/
theorem interLineLine_coincident {eps : ℝ} {l l' : Line} (heps : 0 < eps)
    (hsv : closeBy (eps / 1000) l.sv l'.sv) (hdv : closeBy (eps / 1000) l.dv l'.dv) :
    interLineLineBranch eps l l' = .coincident ∧ interLineLineBranch eps l' l = .coincident :=
  (Line.eqT_of_close heps hsv hdv).imp interLineLine_coincident_iff.2 interLineLine_coincident_iff.2

/-- the same with the perturbation eps/100 -/
theorem interLineLine_coincident100 {eps : ℝ} {l l' : Line} (heps : 0 < eps)
    (hsv : closeBy (eps / 100) l.sv l'.sv) (hdv : closeBy (eps / 100) l.dv l'.dv) :
    interLineLineBranch eps l l' = .coincident ∧ interLineLineBranch eps l' l = .coincident :=
  (Line.eqT_of_close_gen (by linarith) (by linarith) hsv hdv).imp
    interLineLine_coincident_iff.2 interLineLine_coincident_iff.2

theorem interPlanePlane_coincident_iff {eps : ℝ} {a b : Plane} :
    interPlanePlaneBranch eps a b = .coincident ↔ Plane.eqT eps a b := by
  unfold interPlanePlaneBranch
  split_ifs with h <;> simp [h]

/-- (d) **Plane × Plane**: perturbed copies (point and raw normal, `|r| ≥ 1/8`) take the coincident branch -/
theorem interPlanePlane_coincident {eps : ℝ} {p p' r r' : R3} (heps : 0 < eps) (heps1 : eps ≤ 1)
    (hp : closeBy (eps / 1000) p p') (hr : closeBy (eps / 1000) r r') (hrr : 1 / 64 ≤ dot r r) :
    interPlanePlaneBranch eps (Plane.ofPN p r) (Plane.ofPN p' r') = .coincident ∧
    interPlanePlaneBranch eps (Plane.ofPN p' r') (Plane.ofPN p r) = .coincident :=
  (Plane.eqT_of_close heps heps1 hp hr hrr).imp interPlanePlane_coincident_iff.2 interPlanePlane_coincident_iff.2

theorem Segment.contains_ends_of_close {eps : ℝ} {S S' : Segment} (heps : 0 < eps) (heps1 : eps ≤ 1)
    (hs : closeBy (eps / 1000) S.s S'.s) (he : closeBy (eps / 1000) S.e S'.e)
    (hd : 1 / 100 ≤ dot (sub S.e S.s) (sub S.e S.s)) :
    Segment.containsT eps S' S.s ∧ Segment.containsT eps S' S.e :=
  ⟨by simpa only [add_smul_zero] using
      Segment.containsT_of_close (t := 0) heps heps1 hs he hd le_rfl zero_le_one (Or.inl rfl),
    by simpa only [add_smul_one_sub] using
      Segment.containsT_of_close (t := 1) heps heps1 hs he hd zero_le_one le_rfl (Or.inr (by linarith))⟩

/-- (d) **Segment × Segment**: for perturbed copies (`|e − s| ≥ 1/8`) the collinear branch is taken and all four end-point
    membership tests succeed, so the collected set consists of the four end points (two eps/1000-close pairs). -/
theorem interSegSeg_coincident {eps : ℝ} {S S' : Segment} (heps : 0 < eps) (heps1 : eps ≤ 1)
    (hs : closeBy (eps / 1000) S.s S'.s) (he : closeBy (eps / 1000) S.e S'.e)
    (hd : 1 / 64 ≤ dot (sub S.e S.s) (sub S.e S.s)) :
    segSegCollinearBranch eps S S' ∧ segSegAllEndpointsCollected eps S S' := by
  have hdv := hs.sub he
  have hL : 1 / 8 ≤ len (sub S.e S.s) := le_len (by linarith)
  have hd' := mul_self_le_dot (by norm_num) (len_ge_of_close (c := 1 / 10) hdv (by linarith))
  have h := Segment.contains_ends_of_close heps heps1 hs he (by linarith)
  have h' := Segment.contains_ends_of_close heps heps1 hs.symm he.symm (by linarith)
  exact ⟨(Line.eqT_of_close_gen (l := S.line) (l' := S'.line) (by linarith) (by linarith) hs hdv).1,
    h.1, h.2, h'.1, h'.2⟩

/-- (d) **HalfLine × HalfLine**: for perturbed copies the handler takes `a.line == b.line` and then `a in b`, returning `a` -/
theorem interHlHl_coincident {eps : ℝ} {H H' : HalfLine} (heps : 0 < eps) (heps1 : eps ≤ 1)
    (hp : closeBy (eps / 1000) H.p H'.p) (hv : closeBy (eps / 1000) H.v H'.v)
    (hvv : 1 / 100 ≤ dot H.v H.v) (hM : |H.v.x| ≤ 300 ∧ |H.v.y| ≤ 300 ∧ |H.v.z| ≤ 300) :
    hlHlReturnsFirst eps H H' ∧ hlHlReturnsFirst eps H' H :=
  have hl := Line.eqT_of_close (l := H.line) (l' := H'.line) heps hp hv
  have hc := HalfLine.containsHL_of_close heps heps1 hp hv hvv hM
  ⟨⟨hl.1, hc.1⟩, ⟨hl.2, hc.2⟩⟩

end G3D.TolGeo
