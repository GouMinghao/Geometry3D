import G3D.Proofs.K4a

/-! # Exactness with well-formed results, for every operand pair except polyhedron × polyhedron

`ExactW` records that a returned Segment is proper.  To CHAIN intersections (associativity, C12) the result must again be an
admissible operand: a well-formed flat or a Valid polygon.  `ExactOK` adds that, via the result types of the handlers
with a polygon / polyhedron operand (`TypedHandlers`: they return None, a Point, a Segment or a polygon). -/
namespace G3D
open V3

/-- None, Point or Segment -/
def Shape3 : Option Obj → Prop
  | none => True
  | some (.flat (.point _)) => True
  | some (.flat (.seg _)) => True
  | _ => False

theorem Shape3.isPS {g : Geo} (h : Shape3 (some (.flat g))) : IsPS (some g) := by
  cases g <;> first | trivial | exact h

/-! ### admissible operands, admissible results -/
/-- operands for which exactness is proved: well-formed flats, Valid polygons, polyhedra meeting `ExactHyp` -/
def OpOK : Obj → Prop
  | .flat g => g.WF
  | .polygon P => P.Valid
  | .polyhedron B => B.ExactHyp

/-- None, a well-formed flat or a Valid polygon (never a polyhedron: no handler of these pairs builds one) -/
def ResOK : Option Obj → Prop
  | none => True
  | some (.flat g) => g.WF
  | some (.polygon P) => P.Valid
  | some (.polyhedron _) => False

/-- returns without error an admissible operand (or None) denoting exactly `A ∩ B` -/
def ExactOK (r : ResB) (A B : V3 → Prop) : Prop :=
  ∃ o, r = .ok o ∧ ResOK o ∧ ∀ x, denOptB o x ↔ (A x ∧ B x)

theorem ExactOK.swap {r : ResB} {A B : V3 → Prop} (h : ExactOK r A B) : ExactOK r B A := by
  obtain ⟨o, ho, hw, hd⟩ := h
  exact ⟨o, ho, hw, fun x => by rw [hd x]; exact And.comm⟩

theorem ExactOK.of_W {r : ResB} {A B : V3 → Prop} (h : ExactW r A B) (hs : TyIn [.none, .point, .seg, .polygon] r)
    (hv : ∀ Q, r = .ok (some (.polygon Q)) → Q.Valid) : ExactOK r A B := by
  obtain ⟨o, ho, hw, hd⟩ := h
  refine ⟨o, ho, ?_, hd⟩
  have h4 := hs o ho
  rcases o with _ | ⟨g | Q | _⟩
  · trivial
  · cases g with
    | point _ => trivial
    | seg s => exact hw
    | _ => simp [resTyOf] at h4
  · exact hv Q ho
  · simp [resTyOf] at h4

theorem ExactOK.of_W3 {r : ResB} {A B : V3 → Prop} (h : ExactW r A B) (hs : TyIn [.none, .point, .seg] r) :
    ExactOK r A B :=
  ExactOK.of_W h (hs.mono (by simp)) (fun Q hQ => by simpa [resTyOf] using hs _ hQ)

theorem ExactOK.of_PS {r : ResB} {A B : V3 → Prop} (h : ExactPS r A B) : ExactOK r A B := by
  obtain ⟨o, ho, hw, hd⟩ := h
  refine ⟨o, ho, ?_, hd⟩
  rcases ObjFlatWF_cases o hw with rfl | ⟨q, rfl⟩ | ⟨s, rfl, hs⟩
  · trivial
  · trivial
  · exact hs

theorem interFlatPair_exactOK (x y : Geo) (hx : x.WF) (hy : y.WF) : ExactOK (interFlatPair x y) x.den y.den := by
  obtain ⟨o, ho, hw, hd⟩ := interFlat_exact x y hx hy
  unfold interFlatPair
  rw [ho]
  cases o with
  | none => exact ⟨none, rfl, trivial, fun x => by simpa [denOptB, denOpt] using hd x⟩
  | some g => exact ⟨some (.flat g), rfl, hw g rfl, fun x => by simpa [denOptB, denOpt, ObjDen] using hd x⟩

theorem interPlanePolygon_exactOK (a : Plane) (ha : a.WF) (P : Polygon) (hv : P.Valid) :
    ExactOK (interPlanePolygon a P) a.den (InHull P.pts) := by
  refine ExactOK.of_W (interPlanePolygon_exactW a ha P hv) (interPlanePolygon_typed a P) ?_
  intro Q h
  unfold interPlanePolygon at h
  split at h
  · cases h
  · cases h; exact hv
  · simpa [resTyOf] using interLinePolygon_typed _ P _ h
  · cases h

theorem interPolygonPolygon_polygon_valid (a b : Polygon) (ha : a.Valid) (hb : b.Valid) (Q : Polygon)
    (h : interPolygonPolygon a b = .ok (some (.polygon Q))) : Q.Valid := by
  cases hco : a.plane.eqv b.plane with
  | true => exact (interPolygonPolygon_coplanar_polygon_valid a b ha hb hco Q h).1
  | false =>
    obtain ⟨o, ho, hw, _⟩ := interPolygonPolygon_noncoplanar_exactPS a b ha hb hco
    rw [h] at ho; cases ho
    exact hw.elim

theorem interPolygonPolygon_exactOK (a b : Polygon) (ha : a.Valid) (hb : b.Valid) :
    ExactOK (interPolygonPolygon a b) (InHull a.pts) (InHull b.pts) :=
  ExactOK.of_W (interPolygonPolygon_exact a b ha hb) (interPolygonPolygon_typed a b)
    (interPolygonPolygon_polygon_valid a b ha hb)

theorem interPolygonPolyhedron_exactOK (B : Polyhedron) (hH : B.ExactHyp) (P : Polygon) (hv : P.Valid) :
    ExactOK (interPolygonPolyhedron B P) (InHull P.pts) (InHull B.verts) := by
  refine ExactOK.of_W (interPolygonPolyhedron_exact B hH P hv) (interPolygonPolyhedron_typed B P) ?_
  intro Q h
  unfold interPolygonPolyhedron at h
  split at h
  · cases h
  · simpa [resTyOf] using interPointPolygon_typed _ P _ h
  · simpa [resTyOf] using interSegPolygon_typed _ P _ h
  · rename_i Q0 hQ0
    exact interPolygonPolygon_polygon_valid Q0 P
      (interPlanePolyhedron_polygon_valid P.plane (Polygon.plane_WF P hv) B hH Q0 hQ0) hv Q h
  · cases h
  · cases h

/-- one of the operands is not a polyhedron -/
def NotBothBodies : Obj → Obj → Prop
  | .polyhedron _, .polyhedron _ => False
  | _, _ => True

/-- **every operand pair except polyhedron × polyhedron**: the reference dispatcher returns without error None or an
    admissible operand (well-formed flat / Valid polygon) denoting exactly the common points -/
theorem interRef_exactOK (a b : Obj) (ha : OpOK a) (hb : OpOK b) (hnb : NotBothBodies a b) :
    ExactOK (interRef a b) (ObjDen a) (ObjDen b) := by
  have fp : ∀ g P, g.WF → P.Valid → ExactOK (interRef (.flat g) (.polygon P)) g.den (InHull P.pts) := by
    intro g P hg hP
    cases g with
    | point p => exact ExactOK.of_PS (interPointPolygon_exact p P hP)
    | line l => exact ExactOK.of_PS (interLinePolygon_exact l hg P hP)
    | plane pl => exact interPlanePolygon_exactOK pl hg P hP
    | seg s => exact ExactOK.of_PS (interSegPolygon_exactPS s hg P hP)
    | halfline h => exact ExactOK.of_PS (interPolygonHalfLine_exactPS P hP h hg)
  have fb : ∀ g B, g.WF → B.ExactHyp → ExactOK (interRef (.flat g) (.polyhedron B)) g.den (InHull B.verts) := by
    intro g B hg hB
    obtain ⟨hp, hl, hs, hh, hpl⟩ := flat_polyhedron_exact_hull B hB
    cases g with
    | point p => exact ExactOK.of_W3 (hp p) ((interPointPolyhedron_typed p B).mono (by simp))
    | line l => exact ExactOK.of_W3 (hl l hg) (interLinePolyhedron_typed l B)
    | plane pl =>
      exact ExactOK.of_W (hpl pl hg) (interPlanePolyhedron_typed pl B) (interPlanePolyhedron_polygon_valid pl hg B hB)
    | seg s => exact ExactOK.of_W3 (hs s hg) (interSegPolyhedron_typed s B)
    | halfline h => exact ExactOK.of_W3 (hh h hg) (interPolyhedronHalfLine_typed B h)
  cases a with
  | flat x =>
    cases b with
    | flat y => exact interFlatPair_exactOK x y ha hb
    | polygon P => exact fp x P ha hb
    | polyhedron B => exact fb x B ha hb
  | polygon P =>
    cases b with
    | flat y => rw [interRef_polygon_flat]; exact (fp y P hb ha).swap
    | polygon Q => exact interPolygonPolygon_exactOK P Q ha hb
    | polyhedron B => exact interPolygonPolyhedron_exactOK B hb P ha
  | polyhedron B =>
    cases b with
    | flat y => rw [interRef_polyhedron_flat]; exact (fb y B hb ha).swap
    | polygon P => exact (interPolygonPolyhedron_exactOK B ha P hb).swap
    | polyhedron _ => exact hnb.elim

#print axioms interRef_exactOK
end G3D
