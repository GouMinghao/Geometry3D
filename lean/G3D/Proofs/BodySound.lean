import G3D.Proofs.BodySoundBase
import G3D.Proofs.CtorNondeg

/-! # Soundness of the body handlers, part 2: flat × polygon and polygon × polygon in crossing planes are exact with
    a result of known shape (`ExactPS`, `ExactW`); coplanar ConvexPolygon × ConvexPolygon,
    ConvexPolygon × ConvexPolyhedron, ConvexPolyhedron × ConvexPolyhedron are sound. -/
namespace G3D
open V3

theorem interSegSeg_IsPS (a b : Seg) (o : Option Geo) (h : interSegSeg a b = .ok o) : IsPS o := by
  unfold interSegSeg at h
  by_cases heq : a.line.eqv b.line = true
  · rw [if_pos heq] at h; exact ofPointSet_IsPS _ o h
  · rw [if_neg heq] at h
    split at h
    · cases h; trivial
    · cases h; split <;> trivial
    · cases h
    · cases h

theorem interSegHalfLine_IsPS (a : Seg) (b : HalfLine) (o : Option Geo) (h : interSegHalfLine a b = .ok o) :
    IsPS o := by
  unfold interSegHalfLine at h
  by_cases heq : a.line.eqv b.line = true
  · rw [if_pos heq] at h; exact ofPointSet_IsPS _ o h
  · rw [if_neg heq] at h
    split at h
    · cases h; trivial
    · cases h; split <;> trivial
    · cases h
    · cases h

theorem interPointSeg_IsPS (q : V3) (a : Seg) (o : Option Geo) (h : interPointSeg q a = .ok o) : IsPS o := by
  unfold interPointSeg at h; cases h; split <;> trivial

theorem interPointHalfLine_IsPS (q : V3) (a : HalfLine) (o : Option Geo) (h : interPointHalfLine q a = .ok o) :
    IsPS o := by
  unfold interPointHalfLine at h; cases h; split <;> trivial

theorem interCarrierPolygon_exactPS {X : V3 → Prop} (ln : Line) (hln : ln.WF) (hX : ∀ x, X x → ln.den x)
    (mem : V3 → Bool) (hmem : ∀ q, mem q = true ↔ X q)
    (withPoint : V3 → Res) (hwp : ∀ q, Exact (withPoint q) (· = q) X)
    (hwpS : ∀ q o, withPoint q = .ok o → IsPS o)
    (withSeg : Seg → Res) (hws : ∀ s : Seg, s.WF → Exact (withSeg s) s.den X)
    (hwsS : ∀ s o, withSeg s = .ok o → IsPS o)
    (P : Polygon) (hv : P.Valid) :
    ExactPS (interCarrierPolygon ln mem withPoint withSeg P) X (InHull P.pts) := by
  have hinp := Polygon.hull_in_plane P hv
  obtain ⟨o, ho, _, hd⟩ := interLinePlane_exact ln P.plane hln
  unfold interCarrierPolygon
  rcases interLinePlane_shape ln P.plane o ho with rfl | ⟨q, rfl⟩ | ⟨rfl, hc⟩
  · rw [ho]
    exact ExactPS.mk_none fun x h1 h2 => (hd x).mpr ⟨hX x h1, hinp x h2⟩
  · rw [ho]
    simp only
    by_cases hc : (mem q && P.contains q) = true
    · rw [if_pos hc]
      rw [Bool.and_eq_true] at hc
      refine ⟨_, rfl, trivial, fun x => ?_⟩
      simp only [denOptB, ObjDen, Geo.den]
      constructor
      · rintro rfl; exact ⟨(hmem x).mp hc.1, (Polygon.contains_iff P hv x).mp hc.2⟩
      · rintro ⟨h1, h2⟩; exact (hd x).mpr ⟨hX x h1, hinp x h2⟩
    · rw [if_neg hc]
      refine ExactPS.mk_none fun x h1 h2 => ?_
      have : x = q := (hd x).mpr ⟨hX x h1, hinp x h2⟩
      subst this
      exact hc (by rw [Bool.and_eq_true]; exact ⟨(hmem x).mpr h1, (Polygon.contains_iff P hv x).mpr h2⟩)
  · rw [ho]
    simp only
    obtain ⟨o', ho', hw', hd'⟩ := interLinePolygon_exact ln hln P hv
    rw [ho']
    -- the cut `A'` of the carrier line by the polygon (a Point or a Segment) is then intersected with `X`
    have cut : ∀ {r : ResB} {A' : V3 → Prop}, ExactPS r A' X → (∀ y, A' y ↔ ln.den y ∧ InHull P.pts y) →
        ExactPS r X (InHull P.pts) := fun ⟨o2, ho2, hw2, hd2⟩ hA => ⟨o2, ho2, hw2, fun x => by
      rw [hd2 x, hA x]; exact ⟨fun ⟨h1, h2⟩ => ⟨h2, h1.2⟩, fun ⟨h1, h2⟩ => ⟨⟨hX x h1, h2⟩, h1⟩⟩⟩
    rcases ObjFlatWF_cases o' hw' with rfl | ⟨q, rfl⟩ | ⟨s, rfl, hsW⟩
    · exact ExactPS.mk_none fun x h1 h2 => (hd' x).mpr ⟨hX x h1, h2⟩
    · exact cut (ExactPS_of_liftFlat (hwp q) (hwpS q)) hd'
    · exact cut (ExactPS_of_liftFlat (hws s hsW) (hwsS s)) hd'

theorem interSegPolygon_exactPS (a : Seg) (ha : a.WF) (P : Polygon) (hv : P.Valid) :
    ExactPS (interSegPolygon a P) a.den (InHull P.pts) :=
  interCarrierPolygon_exactPS a.line (a.line_WF ha) (a.den_sub_line ha) a.contains (Seg.contains_iff a ha)
    (fun q => interPointSeg q a) (fun q => interPointSeg_exact q a ha) (fun q => interPointSeg_IsPS q a)
    (fun s => interSegSeg s a) (fun s hs => interSegSeg_exact s a hs ha) (fun s => interSegSeg_IsPS s a) P hv

theorem interPolygonHalfLine_exactPS (P : Polygon) (hv : P.Valid) (h : HalfLine) (hh : h.WF) :
    ExactPS (interPolygonHalfLine P h) h.den (InHull P.pts) :=
  interCarrierPolygon_exactPS h.line (h.line_WF hh) (h.den_sub_line hh) h.contains (HalfLine.contains_iff h hh)
    (fun q => interPointHalfLine q h) (fun q => interPointHalfLine_exact q h hh)
    (fun q => interPointHalfLine_IsPS q h)
    (fun s => interSegHalfLine s h) (fun s hs => interSegHalfLine_exact s h hs hh)
    (fun s => interSegHalfLine_IsPS s h) P hv

/-- `interSegPolygon_exact`, recording that a returned Segment is well formed -/
theorem interSegPolygon_exactW (a : Seg) (ha : a.WF) (P : Polygon) (hv : P.Valid) :
    ExactW (interSegPolygon a P) a.den (InHull P.pts) :=
  (interSegPolygon_exactPS a ha P hv).toExactW

theorem interPolygonHalfLine_exactW (P : Polygon) (hv : P.Valid) (h : HalfLine) (hh : h.WF) :
    ExactW (interPolygonHalfLine P h) h.den (InHull P.pts) :=
  (interPolygonHalfLine_exactPS P hv h hh).toExactW

/-- `interPlanePolygon_exact`, recording that a returned Segment is well formed -/
theorem interPlanePolygon_exactW (a : Plane) (ha : a.WF) (P : Polygon) (hv : P.Valid) :
    ExactW (interPlanePolygon a P) a.den (InHull P.pts) := by
  have hinp := Polygon.hull_in_plane P hv
  have hpW := Polygon.plane_WF P hv
  obtain ⟨o, ho, _, hd⟩ := interPlanePlane_exact a P.plane ha hpW
  unfold interPlanePolygon
  rcases interPlanePlane_shape a P.plane ha hpW o ho with rfl | ⟨rfl, heq⟩ | ⟨L, rfl, hLW⟩
  · rw [ho]
    exact (ExactPS.mk_none fun x h1 h2 => (hd x).mpr ⟨h1, hinp x h2⟩).toExactW
  · rw [ho]
    refine ⟨some (.polygon P), rfl, trivial, fun x => ?_⟩
    simp only [denOptB, ObjDen]
    constructor
    · intro h; exact ⟨((Plane.eqv_den a P.plane ha hpW heq) x).mpr (hinp x h), h⟩
    · exact fun h => h.2
  · rw [ho]
    simp only
    obtain ⟨o', ho', hw', hd'⟩ := interLinePolygon_exact L hLW P hv
    refine ⟨o', ho', hw'.resSegWF, fun x => ?_⟩
    rw [hd' x]
    have hL : ∀ y, L.den y ↔ a.den y ∧ P.plane.den y := fun y => by simpa [denOpt, Geo.den] using hd y
    constructor
    · rintro ⟨h1, h2⟩; exact ⟨((hL x).mp h1).1, h2⟩
    · rintro ⟨h1, h2⟩; exact ⟨(hL x).mpr ⟨h1, hinp x h2⟩, h2⟩

theorem ObjFlatWF.flat {o : Option Obj} (h : ObjFlatWF o) :
    o = none ∨ ∃ g, o = some (.flat g) ∧ g.WF ∧ IsPS (some g) := by
  rcases ObjFlatWF_cases o h with rfl | ⟨q, rfl⟩ | ⟨s, rfl, hs⟩
  · exact Or.inl rfl
  · exact Or.inr ⟨.point q, rfl, trivial, trivial⟩
  · exact Or.inr ⟨.seg s, rfl, hs, trivial⟩

theorem interFlat_IsPS (x y : Geo) (hx : IsPS (some x)) (hy : IsPS (some y)) (o : Option Geo)
    (h : interFlat x y = .ok o) : IsPS o := by
  cases x <;> first | exact hx.elim | skip
  all_goals cases y <;> first | exact hy.elim | skip
  · simp only [interFlat, interPointPoint] at h; cases h; split <;> trivial
  · exact interPointSeg_IsPS _ _ o h
  · exact interPointSeg_IsPS _ _ o h
  · exact interSegSeg_IsPS _ _ o h

/-- two polygons in crossing or parallel distinct planes: both are cut by the common line of the planes, and the two
    cuts (None / Point / Segment) are intersected as flats -/
theorem interPolygonPolygon_noncoplanar_exactPS (a b : Polygon) (ha : a.Valid) (hb : b.Valid)
    (hne : a.plane.eqv b.plane = false) :
    ExactPS (interPolygonPolygon a b) (InHull a.pts) (InHull b.pts) := by
  have haW := Polygon.plane_WF a ha
  have hbW := Polygon.plane_WF b hb
  have hina := Polygon.hull_in_plane a ha
  have hinb := Polygon.hull_in_plane b hb
  obtain ⟨o, ho, _, hd⟩ := interPlanePlane_exact a.plane b.plane haW hbW
  unfold interPolygonPolygon
  rw [ho]
  rcases interPlanePlane_shape a.plane b.plane haW hbW o ho with rfl | ⟨_, heq⟩ | ⟨L, rfl, hL⟩
  · exact ExactPS.mk_none fun x hxa hxb => (hd x).mpr ⟨hina x hxa, hinb x hxb⟩
  · rw [heq] at hne; cases hne
  · obtain ⟨oa, hoa, hwa, hda⟩ := interLinePolygon_exact L hL a ha
    obtain ⟨ob, hob, hwb, hdb⟩ := interLinePolygon_exact L hL b hb
    simp only
    rw [hoa, hob]
    have key : ∀ x, (InHull a.pts x ∧ InHull b.pts x) ↔ (denOptB oa x ∧ denOptB ob x) := by
      intro x
      rw [hda, hdb]
      constructor
      · rintro ⟨h1, h2⟩
        have : L.den x := (hd x).mpr ⟨hina x h1, hinb x h2⟩
        exact ⟨⟨this, h1⟩, ⟨this, h2⟩⟩
      · rintro ⟨⟨_, h1⟩, ⟨_, h2⟩⟩; exact ⟨h1, h2⟩
    rcases hwa.flat with rfl | ⟨x, rfl, hxW, hxS⟩
    · exact ExactPS.mk_none fun z h1 h2 => ((key z).mp ⟨h1, h2⟩).1
    rcases hwb.flat with rfl | ⟨y, rfl, hyW, hyS⟩
    · exact ExactPS.mk_none fun z h1 h2 => ((key z).mp ⟨h1, h2⟩).2
    obtain ⟨o', ho', hw', hd'⟩ := ExactPS_of_liftFlat (interFlat_exact x y hxW hyW) (interFlat_IsPS x y hxS hyS)
    exact ⟨o', ho', hw', fun z => by rw [hd' z, key z]; rfl⟩

theorem interPolygonPolygon_noncoplanar_exactW (a b : Polygon) (ha : a.Valid) (hb : b.Valid)
    (hne : a.plane.eqv b.plane = false) :
    ExactW (interPolygonPolygon a b) (InHull a.pts) (InHull b.pts) :=
  (interPolygonPolygon_noncoplanar_exactPS a b ha hb hne).toExactW

/-! ### coplanar ConvexPolygon × ConvexPolygon -/
theorem crossHits_mem (sb : List Seg) : ∀ (sa : List Seg) (acc out : List V3), crossHits sb sa acc = .ok out →
    (∀ p, p ∈ out ↔ p ∈ acc ∨ ∃ s ∈ sa, ∃ t ∈ sb, interSegSeg t s = .ok (some (.point p))) ∧
    (acc.Nodup → out.Nodup)
  | [], acc, out, h => by cases h; exact hits_nil acc
  | s :: ss, acc, out, h => by
    rw [crossHits] at h
    obtain ⟨acc', h1, h⟩ := Except.bind_ok h
    obtain ⟨hm, hn⟩ := edgeHits_mem _ sb acc acc' h1
    exact hits_cons hm hn (crossHits_mem sb ss acc' out h)

theorem BS.mapM_mem {α β ε : Type} (f : α → Except ε β) : ∀ (l : List α) (out : List β),
    l.mapM f = .ok out → ∀ b ∈ out, ∃ a ∈ l, f a = .ok b
  | [], out, h, b, hb => by simp [List.mapM_nil, pure, Except.pure] at h; cases h; simp at hb
  | a :: l, out, h, b, hb => by
    rw [List.mapM_cons] at h
    obtain ⟨b0, ha, h⟩ := Except.bind_ok h
    obtain ⟨bs, hl, h⟩ := Except.bind_ok h
    cases h
    rcases List.mem_cons.mp hb with rfl | hb
    · exact ⟨a, by simp, ha⟩
    · obtain ⟨a', ha', hfa⟩ := BS.mapM_mem f l bs hl b hb
      exact ⟨a', by simp [ha'], hfa⟩

/-- every Segment `segments()` returns is `Segment(p, q)` for two distinct vertices (any polygon object) -/
theorem Polygon.segments?_mem (P : Polygon) (ss : List Seg) (h : P.segments? = .ok ss) (s : Seg) (hs : s ∈ ss) :
    s.WF ∧ s.a ∈ P.pts ∧ s.b ∈ P.pts := by
  unfold Polygon.segments? at h
  obtain ⟨e, he, hfe⟩ := BS.mapM_mem _ _ ss h s hs
  have hm := closedPairs_mem P.pts e he
  by_cases hne : e.1 = e.2
  · rw [if_pos hne] at hfe; cases hfe
  · rw [if_neg hne] at hfe; cases hfe
    exact ⟨Seg.mk'_WF hne, hm.1, hm.2⟩

def coplanarCollect (a b : Polygon) : Except BErr (List V3) := do
  let acc := (a.pts.filter b.contains).foldl addNew []
  let acc := (b.pts.filter a.contains).foldl addNew acc
  let sa ← liftC a.segments?
  let sb ← liftC b.segments?
  crossHits sb sa acc

def coplanarFinish (acc : List V3) : ResB :=
  match acc with
  | [] => pure none
  | [p] => pt? p
  | [p, q] => do let s ← liftC (if p = q then .error .value else .ok (Seg.mk' p q)); seg? s
  | ps => do
    if (← pointsInALine ps) then throw .bug
    let P ← liftC (Polygon.mk? ps)
    pure (some (.polygon P))

theorem interPolygonPolygon_coplanar_eq (a b : Polygon) (hco : a.plane.eqv b.plane = true) :
    interPolygonPolygon a b = coplanarCollect a b >>= coplanarFinish := by
  have hpp : interPlanePlane a.plane b.plane = .ok (some (.plane a.plane)) := by
    unfold interPlanePlane; rw [if_pos hco]
  unfold interPolygonPolygon coplanarCollect
  rw [hpp]
  simp only [hco, Bool.not_true, Bool.false_eq_true, if_false, bind_assoc]
  rfl
#print axioms interPolygonPolygon_coplanar_eq

/-- the three short cases are `ofHits`; from three points on, "all on one line" is a bug -/
theorem coplanarFinish_cases (acc : List V3) : coplanarFinish acc = ofHits acc ∨
    coplanarFinish acc = (do
      if (← pointsInALine acc) then throw .bug
      ofHits acc) := by
  rcases acc with _ | ⟨p, _ | ⟨q, _ | ⟨r, t⟩⟩⟩
  · exact Or.inl rfl
  · exact Or.inl rfl
  · exact Or.inl rfl
  · exact Or.inr rfl

theorem coplanarFinish_sound {A B : V3 → Prop} (acc : List V3) (h : ∀ p ∈ acc, A p ∧ B p) :
    Sound (coplanarFinish acc) A B := by
  rcases coplanarFinish_cases acc with e | e <;> rw [e]
  · exact ofHits_sound acc h
  · refine Sound.bind _ _ (fun c _ => ?_)
    cases c
    · exact ofHits_sound acc h
    · exact Sound.bind _ _ (fun _ _ => ofHits_sound acc h)

theorem coplanarFinish_polygon (acc : List V3) (P : Polygon) (h : coplanarFinish acc = .ok (some (.polygon P))) :
    Polygon.mk? acc = .ok P := by
  rcases coplanarFinish_cases acc with e | e <;> rw [e] at h
  · exact ofHits_polygon acc P h
  · cases hp : pointsInALine acc with
    | error e => rw [hp] at h; cases h
    | ok c =>
      rw [hp] at h
      cases c
      · exact ofHits_polygon acc P h
      · cases h

/-- **the coplanar branch of `inter_convexpolygon_convexpolygon`, for arbitrary polygon objects** with
    intended denotations `DA`, `DB`: sound as soon as the denotations contain the vertices, are closed under
    segments, and a vertex of the other polygon that passes `__contains__` lies in the denotation.
    Every collected point (contained vertices, edge crossings) lies in both, and the vertices / end points of
    the result are collected points. -/
theorem interPolygonPolygon_coplanar_branch_sound (a b : Polygon) (DA DB : V3 → Prop)
    (hav : ∀ v ∈ a.pts, DA v) (hbv : ∀ v ∈ b.pts, DB v)
    (hac : ∀ u v x, DA u → DA v → Between u v x → DA x)
    (hbc : ∀ u v x, DB u → DB v → Between u v x → DB x)
    (hab : ∀ x ∈ b.pts, a.contains x = true → DA x)
    (hba : ∀ x ∈ a.pts, b.contains x = true → DB x)
    (hco : a.plane.eqv b.plane = true) :
    Sound (interPolygonPolygon a b) DA DB := by
  rw [interPolygonPolygon_coplanar_eq a b hco]
  refine Sound.bind _ _ (fun acc hacc => coplanarFinish_sound acc (fun p hp => ?_))
  obtain ⟨sa, hsa, h1⟩ := Except.bind_ok hacc
  obtain ⟨sb, hsb, h2⟩ := Except.bind_ok h1
  rcases ((crossHits_mem sb sa _ acc h2).1 p).mp hp with h0 | ⟨s, hs, t, ht, hq⟩
  · rw [mem_foldl_addNew, mem_foldl_addNew, List.mem_filter, List.mem_filter] at h0
    rcases h0 with (h0 | h0) | h0
    · cases h0
    · exact ⟨hav p h0.1, hba p h0.1 h0.2⟩
    · exact ⟨hab p h0.1 h0.2, hbv p h0.1⟩
  · obtain ⟨hsW, hsa', hsb'⟩ := Polygon.segments?_mem a sa (BS.liftC_ok hsa) s hs
    obtain ⟨htW, hta', htb'⟩ := Polygon.segments?_mem b sb (BS.liftC_ok hsb) t ht
    have := (interSegSeg_exact t s htW hsW).point_mem p hq
    exact ⟨hac _ _ p (hav _ hsa') (hav _ hsb') this.2, hbc _ _ p (hbv _ hta') (hbv _ htb') this.1⟩
#print axioms interPolygonPolygon_coplanar_branch_sound

theorem InHull.between {l : List V3} {u v x : V3} (hu : InHull l u) (hv : InHull l v) (hx : Between u v x) :
    InHull l x := by
  obtain ⟨t, h0, h1, rfl⟩ := hx
  exact InHull.convex hu hv t h0 h1

/-- **coplanar branch, two Valid polygons**: every vertex / end point of the result lies in both hulls -/
theorem interPolygonPolygon_coplanar_sound (a b : Polygon) (ha : a.Valid) (hb : b.Valid)
    (hco : a.plane.eqv b.plane = true) :
    Sound (interPolygonPolygon a b) (InHull a.pts) (InHull b.pts) := by
  exact interPolygonPolygon_coplanar_branch_sound a b _ _ (vertex_in_hull _) (vertex_in_hull _)
    (fun _ _ _ hu hv hx => InHull.between hu hv hx) (fun _ _ _ hu hv hx => InHull.between hu hv hx)
    (fun x _ h => (Polygon.contains_iff a ha x).mp h) (fun x _ h => (Polygon.contains_iff b hb x).mp h) hco
#print axioms interPolygonPolygon_coplanar_sound

/-- ConvexPolygon × ConvexPolygon, all relative positions of the carrier planes -/
theorem interPolygonPolygon_sound (a b : Polygon) (ha : a.Valid) (hb : b.Valid) :
    Sound (interPolygonPolygon a b) (InHull a.pts) (InHull b.pts) := by
  cases hco : a.plane.eqv b.plane with
  | true => exact interPolygonPolygon_coplanar_sound a b ha hb hco
  | false => exact (interPolygonPolygon_noncoplanar_exactW a b ha hb hco).sound
#print axioms interPolygonPolygon_sound

/-! ### ConvexPolygon × ConvexPolyhedron -/

/-- a polygon returned by `inter_plane_convexpolyhedron` is a face of the body or `ConvexPolygon(hit points)` -/
theorem interPlanePolyhedron_polygon_cases (a : Plane) (B : Polyhedron) (Q : Polygon)
    (hQ : interPlanePolyhedron a B = .ok (some (.polygon Q))) :
    Q ∈ B.faces ∨ ∃ ps, Polygon.mk? ps = .ok Q := by
  rw [interPlanePolyhedron_eq] at hQ
  split at hQ
  · rename_i f hfind
    cases hQ
    exact Or.inl (List.mem_of_find?_eq_some hfind)
  · obtain ⟨out, _, h⟩ := Except.bind_ok hQ
    exact Or.inr ⟨out, ofHits_polygon out Q h⟩

theorem interPlanePolyhedron_polygon_nondeg (a : Plane) (B : Polyhedron) (hg : B.Good) (Q : Polygon)
    (hQ : interPlanePolyhedron a B = .ok (some (.polygon Q))) :
    (∀ p ∈ Q.pts, Q.plane.contains p = true) ∧
      ∃ u ∈ Q.pts, ∃ v ∈ Q.pts, ∃ w ∈ Q.pts, orient Q.plane.n u v w ≠ 0 := by
  rcases interPlanePolyhedron_polygon_cases a B Q hQ with hf | ⟨ps, hm⟩
  · exact ⟨(hg.faceValid Q hf).pts_in_plane, (hg.faceValid Q hf).nondeg⟩
  · exact ⟨(Polygon.mk?_ok ps false Q hm).2.2.2.1, Polygon.mk?_nondeg ps false Q hm⟩

/-- **ConvexPolygon × ConvexPolyhedron**: every vertex / end point of the result lies in the body (passes its
    membership test) and in the hull of the polygon's vertices.  Hypotheses: `B.Good`, `P.Valid` only.  Nothing is
    assumed about the order of the vertices of the plane section: `Polygon.contains_sub_hull` covers arbitrary closed
    chains with three non-collinear vertices. -/
theorem interPolygonPolyhedron_sound (B : Polyhedron) (hg : B.Good) (P : Polygon) (hP : P.Valid) :
    Sound (interPolygonPolyhedron B P) (BodyDen B) (InHull P.pts) := by
  have hpl := interPlanePolyhedron_sound P.plane (Polygon.plane_WF P hP) B hg
  unfold interPolygonPolyhedron
  split
  · exact Sound.none
  · rename_i q hq
    obtain ⟨_, hv⟩ := hpl _ hq
    have hqB := (hv q (by simp [resVerts])).2
    unfold interPointPolygon
    by_cases hc : P.contains q = true
    · rw [if_pos hc]; exact Sound.pt hqB ((Polygon.contains_iff P hP q).mp hc)
    · rw [if_neg hc]; exact Sound.none
  · rename_i s hs
    obtain ⟨hsW, hv⟩ := hpl _ hs
    have ha := (hv s.a (by simp [resVerts])).2
    have hb := (hv s.b (by simp [resVerts])).2
    exact (interSegPolygon_exactW s hsW P hP).sound.mono
      (fun x hx _ => Polyhedron.contains_seg B s ha hb x hx) (fun _ _ h => h)
  · rename_i Q hQ
    obtain ⟨_, hv⟩ := hpl _ hQ
    have hv' : ∀ v ∈ Q.pts, P.plane.den v ∧ BodyDen B v := hv
    obtain ⟨hQpl, hnd⟩ := interPlanePolyhedron_polygon_nondeg P.plane B hg Q hQ
    -- the section's membership test implies membership in the body
    have hsub : ∀ x, Q.contains x = true → B.contains x = true := fun x hx =>
      Polyhedron.contains_of_hull B Q.pts (fun v hm => (hv' v hm).2) x
        (Polygon.contains_sub_hull Q hQpl hnd x hx)
    -- the stored plane of the section is parallel to the plane of `P`
    have hpar : V3.parallel Q.plane.n P.plane.n = true := by
      obtain ⟨u, hu, v, hvv, w, hw, hne⟩ := hnd
      refine parallel_normals_of_three Q.plane P.plane (p0 := u) (p1 := v) (p2 := w) ?_
        ((Plane.contains_iff _ _).mp (hQpl u hu)) ((Plane.contains_iff _ _).mp (hQpl v hvv))
        ((Plane.contains_iff _ _).mp (hQpl w hw)) (hv' u hu).1 (hv' v hvv).1 (hv' w hw).1
      intro hz
      apply hne
      unfold orient; rw [hz]; simp [dot, zero]
    by_cases heq : Q.plane.eqv P.plane = true
    · exact interPolygonPolygon_coplanar_branch_sound Q P (BodyDen B) (InHull P.pts)
        (fun v hm => (hv' v hm).2) (vertex_in_hull _)
        (fun _ _ _ hu hw hx => Polyhedron.contains_between B hu hw hx)
        (fun _ _ _ hu hw hx => InHull.between hu hw hx)
        (fun x _ h => hsub x h) (fun x _ h => (Polygon.contains_iff P hP x).mp h) heq
    · have hpp : interPlanePlane Q.plane P.plane = .ok none := by
        unfold interPlanePlane; rw [if_neg heq, if_pos hpar]
      have : interPolygonPolygon Q P = .ok none := by
        unfold interPolygonPolygon; rw [hpp]
      rw [this]; exact Sound.none
  · exact Sound.error _
  · exact Sound.error _

#print axioms interPolygonPolyhedron_sound

/-! ### none / error propagation (early exits) -/
theorem interPolygonPolyhedron_none_of_plane (B : Polyhedron) (P : Polygon)
    (h : interPlanePolyhedron P.plane B = .ok none) : interPolygonPolyhedron B P = .ok none := by
  unfold interPolygonPolyhedron; rw [h]

theorem interPolygonPolyhedron_error_of_plane (B : Polyhedron) (P : Polygon) (e : BErr)
    (h : interPlanePolyhedron P.plane B = .error e) : interPolygonPolyhedron B P = .error e := by
  unfold interPolygonPolyhedron; rw [h]

theorem interPolygonPolyhedron_point_of_plane (B : Polyhedron) (P : Polygon) (q : V3)
    (h : interPlanePolyhedron P.plane B = .ok (some (.flat (.point q)))) :
    interPolygonPolyhedron B P = interPointPolygon q P := by
  unfold interPolygonPolyhedron; rw [h]

theorem interPolygonPolyhedron_seg_of_plane (B : Polyhedron) (P : Polygon) (s : Seg)
    (h : interPlanePolyhedron P.plane B = .ok (some (.flat (.seg s)))) :
    interPolygonPolyhedron B P = interSegPolygon s P := by
  unfold interPolygonPolyhedron; rw [h]

theorem interPolygonPolyhedron_polygon_of_plane (B : Polyhedron) (P Q : Polygon)
    (h : interPlanePolyhedron P.plane B = .ok (some (.polygon Q))) :
    interPolygonPolyhedron B P = interPolygonPolygon Q P := by
  unfold interPolygonPolyhedron; rw [h]

theorem interPlanePolygon_none_of_plane (a : Plane) (P : Polygon)
    (h : interPlanePlane a P.plane = .ok none) : interPlanePolygon a P = .ok none := by
  unfold interPlanePolygon; rw [h]

theorem interLinePolygon_none_of_plane (l : Line) (P : Polygon)
    (h : interLinePlane l P.plane = .ok none) : interLinePolygon l P = .ok none := by
  unfold interLinePolygon; rw [h]

theorem interPolygonPolygon_none_of_plane (a b : Polygon)
    (h : interPlanePlane a.plane b.plane = .ok none) : interPolygonPolygon a b = .ok none := by
  unfold interPolygonPolygon; rw [h]

theorem clipFaces_none (X : Polyhedron) : ∀ (fs : List Polygon) (acc : Parts),
    (∀ f ∈ fs, interPolygonPolyhedron X f = .ok none) → clipFaces X fs acc = .ok acc := by
  intro fs
  induction fs with
  | nil => intro acc _; rfl
  | cons f fs ih =>
    intro acc h
    rw [clipFaces, h f (by simp)]
    exact ih acc (fun f' hf' => h f' (by simp [hf']))

/-- if no face of either body meets the other body, the result is `None` -/
theorem interPolyhedronPolyhedron_none (A B : Polyhedron)
    (hA : ∀ f ∈ A.faces, interPolygonPolyhedron B f = .ok none)
    (hB : ∀ f ∈ B.faces, interPolygonPolyhedron A f = .ok none) :
    interPolyhedronPolyhedron A B = .ok none := by
  unfold interPolyhedronPolyhedron
  rw [clipFaces_none B A.faces {} hA]
  simp only [bind, Except.bind]
  rw [clipFaces_none A B.faces {} hB]
  rfl

theorem interLinePolyhedron_loop_none (l : Line) : ∀ (fs : List Polygon),
    (∀ f ∈ fs, interLinePolygon l f = .ok none) → interLinePolyhedron.loop l fs [] = .ok none := by
  intro fs
  induction fs with
  | nil => intro _; rfl
  | cons f fs ih =>
    intro h
    rw [interLinePolyhedron.loop, h f (by simp)]
    exact ih (fun f' hf' => h f' (by simp [hf']))

/-- a line that misses every face misses the body -/
theorem interLinePolyhedron_none (l : Line) (B : Polyhedron)
    (h : ∀ f ∈ B.faces, interLinePolygon l f = .ok none) : interLinePolyhedron l B = .ok none :=
  interLinePolyhedron_loop_none l B.faces h

/-! ### ConvexPolyhedron × ConvexPolyhedron -/
theorem BS.mem_addSeg (l : List Seg) (s x : Seg) (h : x ∈ addSeg l s) : x ∈ l ∨ x = s := by
  unfold addSeg at h
  split at h
  · exact Or.inl h
  · simpa using h

theorem BS.mem_addPolygon (l : List Polygon) (P x : Polygon) (h : x ∈ addPolygon l P) : x ∈ l ∨ x = P := by
  unfold addPolygon at h
  split at h
  · exact Or.inl h
  · simpa using h

/-- every vertex / end point recorded in the parts satisfies `Q`; recorded segments are well formed -/
def Parts.All (Q : V3 → Prop) (p : Parts) : Prop :=
  (∀ g ∈ p.gons, ∀ v ∈ g.pts, Q v) ∧ (∀ s ∈ p.segs, s.WF ∧ Q s.a ∧ Q s.b) ∧ (∀ v ∈ p.pts, Q v)

theorem clipFaces_inv (X : Polyhedron) (Q : V3 → Prop) : ∀ (fs : List Polygon) (acc out : Parts),
    (∀ f ∈ fs, Sound (interPolygonPolyhedron X f) Q Q) → acc.All Q → clipFaces X fs acc = .ok out → out.All Q := by
  intro fs
  induction fs with
  | nil => intro acc out _ hacc h; simp only [clipFaces] at h; cases h; exact hacc
  | cons f fs ih =>
    intro acc out hf hacc h
    have hf' : ∀ f' ∈ fs, Sound (interPolygonPolyhedron X f') Q Q := fun f' hm => hf f' (by simp [hm])
    have hs := hf f (by simp)
    obtain ⟨hg, hsg, hp⟩ := hacc
    unfold clipFaces at h
    split at h
    · exact ih acc out hf' ⟨hg, hsg, hp⟩ h
    · rename_i q hq
      obtain ⟨_, hv⟩ := hs _ hq
      refine ih { acc with pts := addNew acc.pts q } out hf' ⟨hg, hsg, ?_⟩ h
      exact BS.all_addNew hp (hv q (by simp [resVerts])).1
    · rename_i s hq
      obtain ⟨hw, hv⟩ := hs _ hq
      refine ih { acc with segs := addSeg acc.segs s } out hf' ⟨hg, ?_, hp⟩ h
      intro x hx
      rcases BS.mem_addSeg _ _ _ hx with hx | rfl
      · exact hsg x hx
      · exact ⟨hw, (hv x.a (by simp [resVerts])).1, (hv x.b (by simp [resVerts])).1⟩
    · rename_i R hq
      obtain ⟨_, hv⟩ := hs _ hq
      refine ih { acc with gons := addPolygon acc.gons R } out hf' ⟨?_, hsg, hp⟩ h
      intro x hx
      rcases BS.mem_addPolygon _ _ _ hx with hx | rfl
      · exact hg x hx
      · exact fun v hm => (hv v hm).1
    · exact ih acc out hf' ⟨hg, hsg, hp⟩ h
    · cases h

/-- `ConvexPolyhedron(polygons)` only regroups vertices: the vertices are those of the input polygons -/
theorem BS.mem_collectVerts_iff (input : List Polygon) (v : V3) :
    v ∈ collectVerts input ↔ ∃ f ∈ input, v ∈ f.pts := by
  have gen : ∀ (l : List Polygon) (acc : List V3),
      v ∈ l.foldl (fun acc f => f.pts.foldl addNew acc) acc ↔ v ∈ acc ∨ ∃ f ∈ l, v ∈ f.pts := by
    intro l
    induction l with
    | nil => intro acc; simp
    | cons f l ih =>
      intro acc
      rw [List.foldl_cons, ih, mem_foldl_addNew, List.exists_mem_cons_iff, or_assoc]
  exact (gen input []).trans (by simp)

theorem BS.mem_collectVerts (input : List Polygon) (v : V3) (h : v ∈ collectVerts input) :
    ∃ f ∈ input, v ∈ f.pts := (BS.mem_collectVerts_iff input v).mp h

theorem BS.collectVerts_mem (input : List Polygon) (f : Polygon) (hf : f ∈ input) (v : V3) (hv : v ∈ f.pts) :
    v ∈ collectVerts input := (BS.mem_collectVerts_iff input v).mpr ⟨f, hf, hv⟩

/-- **ConvexPolyhedron × ConvexPolyhedron**: every vertex / end point of the result passes the membership
    tests of both bodies.  Hypotheses: `A.Good`, `B.Good` only. -/
theorem interPolyhedronPolyhedron_sound (A B : Polyhedron) (hA : A.Good) (hB : B.Good) :
    Sound (interPolyhedronPolyhedron A B) (BodyDen A) (BodyDen B) := by
  have h1 : ∀ f ∈ A.faces, Sound (interPolygonPolyhedron B f)
      (fun v => BodyDen A v ∧ BodyDen B v) (fun v => BodyDen A v ∧ BodyDen B v) := by
    intro f hf
    exact (interPolygonPolyhedron_sound B hB f (hA.faceValid f hf)).mono
      (fun x hb hh => ⟨hA.face_sub f hf x hh, hb⟩) (fun x hb hh => ⟨hA.face_sub f hf x hh, hb⟩)
  have h2 : ∀ f ∈ B.faces, Sound (interPolygonPolyhedron A f)
      (fun v => BodyDen A v ∧ BodyDen B v) (fun v => BodyDen A v ∧ BodyDen B v) := by
    intro f hf
    exact (interPolygonPolyhedron_sound A hA f (hB.faceValid f hf)).mono
      (fun x ha hh => ⟨ha, hB.face_sub f hf x hh⟩) (fun x ha hh => ⟨ha, hB.face_sub f hf x hh⟩)
  unfold interPolyhedronPolyhedron
  refine Sound.bind _ _ (fun p1 hp1 => ?_)
  refine Sound.bind _ _ (fun p2 hp2 => ?_)
  have hall1 : p1.All (fun v => BodyDen A v ∧ BodyDen B v) :=
    clipFaces_inv B _ A.faces {} p1 h1 ⟨by simp, by simp, by simp⟩ hp1
  obtain ⟨hg, hsg, hp⟩ : p2.All (fun v => BodyDen A v ∧ BodyDen B v) :=
    clipFaces_inv A _ B.faces p1 p2 h2 hall1 hp2
  split
  · refine Sound.bind _ _ (fun R hR => ?_)
    obtain ⟨_, _, ⟨_, hverts, _⟩, _⟩ := Polyhedron.mk?_ok p2.gons R (BS.liftC_ok hR)
    apply Sound.polyhedron
    intro v hv
    rw [hverts] at hv
    obtain ⟨f, hf, hvf⟩ := BS.mem_collectVerts _ v hv
    exact hg f hf v hvf
  · rename_i Q hQ
    exact Sound.polygon (fun v hv => hg Q (by rw [hQ]; simp) v hv)
  · exact Sound.error _
  · rename_i s _ hs
    have := hsg s (by rw [hs]; simp)
    exact Sound.seg this.1 this.2.1 this.2.2
  · exact Sound.error _
  · rename_i p _ _ hpp
    have := hp p (by rw [hpp]; simp)
    exact Sound.pt this.1 this.2
  · exact Sound.none
#print axioms interPolyhedronPolyhedron_sound

end G3D
