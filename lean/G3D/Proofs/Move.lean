import G3D.Model.Move
import G3D.Proofs.CtorPolygon
import G3D.Proofs.Equality

/-! C07 for Segment, on top of the algebra of translations of `V3` and the one statement about histories of moves
    that every `move` theorem uses; C15 (constructors of the flat types); C05 (composite membership). -/
namespace G3D
open V3

theorem sub_add_add (a b v : V3) : sub (add a v) (add b v) = sub a b := by
  apply V3.ext' <;> simp only [add, sub] <;> ring

theorem add_assoc' (a v w : V3) : add (add a v) w = add a (add v w) := by
  apply V3.ext' <;> simp only [add] <;> ring

theorem add_right_comm' (a v w : V3) : add (add a v) w = add (add a w) v := by
  apply V3.ext' <;> simp only [add] <;> ring

theorem add_neg_self' (v : V3) : add v (neg v) = zero := by
  apply V3.ext' <;> simp [add, neg, zero]

theorem add_neg_cancel_right' (a v : V3) : add (add a v) (neg v) = a := by
  rw [add_assoc', add_neg_self', add_zero']

theorem add_right_cancel' {a b v : V3} (h : add a v = add b v) : a = b := by
  rw [← add_neg_cancel_right' a v, h, add_neg_cancel_right']

theorem add_right_inj' {a b v : V3} : add a v = add b v ↔ a = b :=
  ⟨add_right_cancel', fun h => by rw [h]⟩

theorem add_injective (v : V3) : Function.Injective (fun p : V3 => add p v) :=
  fun _ _ h => add_right_cancel' h

/-- `x + v` lies at offset `w` from `a + v` iff `x` lies at offset `w` from `a`: the form in which every
    parametrised denotation (`x = a + t·d`) meets a translation -/
theorem add_eq_add_add_iff (x a w v : V3) : add x v = add (add a v) w ↔ x = add a w := by
  rw [add_right_comm', add_right_inj']

theorem fold_moves {X : Type} (mv : X → V3 → X) (x : X) (hmm : ∀ v w, mv (mv x v) w = mv x (add v w)) :
    ∀ (vs : List V3) (v : V3), vs.foldl mv (mv x v) = mv x (vs.foldl add v) := by
  intro vs
  induction vs with
  | nil => intro v; rfl
  | cons w vs ih => intro v; rw [List.foldl_cons, List.foldl_cons, hmm, ih]

theorem fold_moves' {X : Type} (mv : X → V3 → X) (x : X) (hmm : ∀ v w, mv (mv x v) w = mv x (add v w))
    (h0 : mv x zero = x) (vs : List V3) : vs.foldl mv x = mv x (vs.foldl add zero) := by
  conv_lhs => rw [← h0]
  exact fold_moves mv x hmm vs zero

/-! ### C07, Segment -/
theorem Seg.move_WF (s : Seg) (hs : s.WF) (v : V3) : (s.move v).1.WF ∧ (s.move v).2 = (s.move v).1 :=
  ⟨Seg.mk'_WF fun h => hs.1 (add_right_cancel' h), rfl⟩

/-- the moved receiver IS the freshly constructed object at the translated position -/
theorem Seg.move_eq_fresh (s : Seg) (v : V3) : (s.move v).1 = Seg.mk' (add s.a v) (add s.b v) := rfl
theorem HalfLine.move_eq_fresh (h : HalfLine) (v : V3) : (h.move v).1 = HalfLine.mk' (add h.p v) h.v := rfl

theorem Seg.move_den (s : Seg) (v x : V3) : (s.move v).1.den (add x v) ↔ s.den x := by
  simp only [Seg.move, Seg.mk', Seg.den, sub_add_add, add_eq_add_add_iff]

theorem Seg.move_move (s : Seg) (v w : V3) : ((s.move v).1.move w).1 = (s.move (add v w)).1 := by
  simp only [Seg.move, Seg.mk', add_assoc']

theorem Seg.move_zero (s : Seg) (hs : s.WF) : (s.move zero).1 = s := by
  obtain ⟨a, b, l⟩ := s
  have hl : l = ⟨a, sub b a⟩ := hs.2
  simp only [Seg.move, Seg.mk', add_zero', hl]

theorem Seg.move_back (s : Seg) (hs : s.WF) (v : V3) : ((s.move v).1.move (neg v)).1 = s := by
  rw [Seg.move_move, add_neg_self', Seg.move_zero s hs]

/-- histories: after any list of moves the receiver is the fresh segment at the total translation -/
theorem Seg.moves_fold (s : Seg) (vs : List V3) :
    (vs.foldl (fun r v => (r.move v).1) s).a = add s.a (vs.foldl add zero) ∧
    (vs.foldl (fun r v => (r.move v).1) s).b = add s.b (vs.foldl add zero) := by
  cases vs with
  | nil => exact ⟨(add_zero' _).symm, (add_zero' _).symm⟩
  | cons v vs =>
    rw [List.foldl_cons, List.foldl_cons, zero_add',
      fold_moves (fun r v => (Seg.move r v).1) s (Seg.move_move s) vs v]
    exact ⟨rfl, rfl⟩

/-- D2: on the pinned tree the invariant is lost (witness checked by evaluation) -/
theorem Seg.movePinned_breaks_WF :
    ∃ s : Seg, s.WF ∧ ∃ v, ¬ (s.movePinned v).1.WF := by
  refine ⟨Seg.mk' ⟨0,0,0⟩ ⟨1,0,0⟩, Seg.mk'_WF (by decide), ⟨0,1,0⟩, ?_⟩
  intro h
  have := h.2
  simp only [Seg.movePinned, Seg.mk'] at this
  have hy := congrArg (fun l : Line => l.sv.y) this
  simp [add] at hy

/-! ### C15, constructors never return an object violating its invariant -/
theorem Line.mk?_ok (a dv : V3) (l : Line) (h : Line.mk? a dv = .ok l) : l.WF := by
  unfold Line.mk? at h; split at h
  · cases h
  · rename_i hne; cases h; exact hne
theorem Line.mk?_rejects (a : V3) : Line.mk? a zero = .error .value := by simp [Line.mk?]
theorem Line.ofPoints?_rejects (a : V3) : Line.ofPoints? a a = .error .value := by
  have : sub a a = zero := by apply V3.ext' <;> simp [sub, zero]
  simp [Line.ofPoints?, Line.mk?, this]
theorem Seg.mk?_ok (a b : V3) (s : Seg) (h : Seg.mk? a b = .ok s) : s.WF := by
  unfold Seg.mk? at h; split at h
  · cases h
  · rename_i hne; cases h; exact Seg.mk'_WF hne
theorem Seg.mk?_rejects (a : V3) : Seg.mk? a a = .error .value := by simp [Seg.mk?]
theorem HalfLine.mk?_ok (a b : V3) (hl : HalfLine) (h : HalfLine.mk? a b = .ok hl) : hl.WF := by
  unfold HalfLine.mk? at h; split at h
  · cases h
  · rename_i hne; cases h
    exact ⟨fun h0 => hne (sub_eq_zero_iff.mp h0).symm, rfl⟩
theorem Polygon.mk?_rejects_short (l : List V3) (h : l.length < 3) : Polygon.mk? l = .error .value := by
  simp [Polygon.mk?, h]

/-! ### C05, composite membership: by convexity of the container -/
theorem Line.den_convex (l : Line) (x y : V3) (t : Rat) (hx : l.den x) (hy : l.den y) :
    l.den (add x (smul t (sub y x))) := by
  obtain ⟨a, rfl⟩ := hx; obtain ⟨b, rfl⟩ := hy
  exact ⟨a + t * (b - a), by apply V3.ext' <;> simp only [add, smul, sub] <;> ring⟩

theorem Line.containsSeg_iff (l : Line) (hl : l.WF) (s : Seg) :
    l.containsSeg s = true ↔ ∀ x, s.den x → l.den x := by
  unfold Line.containsSeg
  rw [Bool.and_eq_true, Line.contains_iff l hl, Line.contains_iff l hl]
  constructor
  · rintro ⟨ha, hb⟩ x ⟨t, _, _, rfl⟩; exact Line.den_convex l _ _ t ha hb
  · intro h; exact ⟨h _ s.a_mem_den, h _ s.b_mem_den⟩

theorem Plane.containsSeg_iff (p : Plane) (s : Seg) :
    p.containsSeg s = true ↔ ∀ x, s.den x → p.den x := by
  unfold Plane.containsSeg
  rw [Bool.and_eq_true, Plane.contains_iff, Plane.contains_iff]
  constructor
  · rintro ⟨ha, hb⟩ x ⟨t, _, _, rfl⟩
    simp only [Plane.den, dot, sub, add, smul] at *
    linear_combination (1 - t) * ha + t * hb
  · intro h; exact ⟨h _ s.a_mem_den, h _ s.b_mem_den⟩

theorem Polygon.containsSeg_iff (P : Polygon) (hv : P.Valid) (s : Seg) :
    P.containsSeg s = true ↔ ∀ x, s.den x → InHull P.pts x := by
  unfold Polygon.containsSeg
  rw [Bool.and_eq_true, Polygon.contains_iff P hv, Polygon.contains_iff P hv]
  constructor
  · rintro ⟨ha, hb⟩ x ⟨t, h0, h1, rfl⟩; exact ha.convex hb t h0 h1
  · intro h; exact ⟨h _ s.a_mem_den, h _ s.b_mem_den⟩
#print axioms Seg.moves_fold
#print axioms Polygon.containsSeg_iff
end G3D
