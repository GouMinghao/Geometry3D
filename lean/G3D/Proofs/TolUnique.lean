import G3D.Proofs.Tol
import Mathlib.Algebra.Order.Field.Power

/-! Uniqueness of `SIG_FIGURES = round(log10(1/eps))`, completeness of the window search `sigOf`, and
    full restoration of the configuration by `set_eps(old_eps)`. -/
namespace G3D.Tol

/-- `pow10neg` is antitone in its integer argument -/
theorem pow10neg_anti {a b : Int} (h : a ≤ b) : pow10neg b ≤ pow10neg a := by
  rw [pow10neg_eq_zpow, pow10neg_eq_zpow]
  exact zpow_le_zpow_right₀ (by norm_num) (by omega)

theorem pow10neg_strictAnti {a b : Int} (h : a < b) : pow10neg b < pow10neg a := by
  rw [pow10neg_eq_zpow, pow10neg_eq_zpow]
  exact zpow_lt_zpow_right₀ (by norm_num) (by omega)

theorem pow10neg_pos (k : Int) : 0 < pow10neg k := by
  rw [pow10neg_eq_zpow]; positivity

private theorem isSigOf_le (e : Rat) (k k' : Int) (h : isSigOf e k = true) (h' : isSigOf e k' = true) :
    k' ≤ k := by
  rw [isSigOf_iff] at h h'
  have := (zpow_lt_zpow_iff_right₀ (by norm_num : (1 : Rat) < 10)).1 (h'.2.1.trans_lt h.2.2)
  omega

/-- the significant-figure count of an eps is unique -/
theorem isSigOf_unique (e : Rat) (k k' : Int) (h : isSigOf e k = true) (h' : isSigOf e k' = true) :
    k = k' :=
  le_antisymm (isSigOf_le e k' k h' h) (isSigOf_le e k k' h h')

/-- the window searched by `sigOf` is exactly `-350 ≤ k < 350` -/
theorem sigOf_window (e : Rat) (k : Int) (h : sigOf e = some k) : -350 ≤ k ∧ k < 350 := by
  unfold sigOf at h
  have hm := List.mem_of_find?_eq_some h
  simp only [List.mem_map, List.mem_range] at hm
  obtain ⟨i, hi, rfl⟩ := hm
  constructor <;> simp only [Int.ofNat_eq_natCast] <;> omega

/-- completeness of the search inside its window -/
theorem sigOf_complete (e : Rat) (k : Int) (h : isSigOf e k = true) (hw : -350 ≤ k ∧ k < 350) :
    sigOf e = some k := by
  cases hs : sigOf e with
  | some k' => rw [isSigOf_unique e k' k (sigOf_spec e k' hs) h]
  | none =>
    exfalso
    unfold sigOf at hs
    rw [List.find?_eq_none] at hs
    have hmem : k ∈ (List.range 700).map (fun (i : Nat) => (Int.ofNat i) - 350) := by
      simp only [List.mem_map, List.mem_range]
      refine ⟨(k + 350).toNat, by omega, ?_⟩
      simp only [Int.ofNat_eq_natCast]
      omega
    exact hs k hmem h

/-- `sigOf e = some k` iff `k` is the (unique) sig count and lies in the window -/
theorem sigOf_eq_some_iff (e : Rat) (k : Int) :
    sigOf e = some k ↔ isSigOf e k = true ∧ -350 ≤ k ∧ k < 350 :=
  ⟨fun h => ⟨sigOf_spec e k h, sigOf_window e k h⟩, fun h => sigOf_complete e k h.1 h.2⟩

/-- restoring the previous eps restores the *whole* previous configuration.  (No window hypothesis is
    needed here: `h2` already says the search succeeded, and uniqueness identifies the result.) -/
theorem restore_full (c : Cfg) (hc : Inv c) (e : Rat) (c1 c2 : Cfg) (_h1 : setEps c e = some c1)
    (h2 : setEps c1 c.eps = some c2) : c2 = c := by
  obtain ⟨k, hk, rfl⟩ := setEps_eq_some.1 h2
  rw [isSigOf_unique c.eps k c.sig (sigOf_spec _ _ hk) hc]

/-- with the window hypothesis the restoring call is also guaranteed to succeed -/
theorem restore_succeeds (c : Cfg) (hc : Inv c) (hw : -350 ≤ c.sig ∧ c.sig < 350) (c1 : Cfg) :
    setEps c1 c.eps = some c := by
  unfold setEps
  rw [sigOf_complete c.eps c.sig hc hw]
  rfl

/-- hence the statement in the requested form, with the window -/
theorem restore_full' (c : Cfg) (hc : Inv c) (hw : -350 ≤ c.sig ∧ c.sig < 350) (e : Rat) (c1 c2 : Cfg)
    (_h1 : setEps c e = some c1) (h2 : setEps c1 c.eps = some c2) : c2 = c := by
  rw [restore_succeeds c hc hw c1] at h2
  exact (Option.some.inj h2).symm

/-- on reachable configurations `setEps` is a function of `eps` alone and `sig` is determined by `eps` -/
theorem Inv_sig_determined (c c' : Cfg) (hc : Inv c) (hc' : Inv c') (he : c.eps = c'.eps) : c = c' := by
  obtain ⟨e, k⟩ := c
  obtain ⟨e', k'⟩ := c'
  obtain rfl : e = e' := he
  rw [isSigOf_unique e k k' hc hc']

#print axioms isSigOf_unique
#print axioms sigOf_complete
#print axioms restore_full
#print axioms restore_succeeds
#print axioms Inv_sig_determined
end G3D.Tol
