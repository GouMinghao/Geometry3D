import G3D.Proofs.Euler4

/-! # Euler's polyhedron formula, part 5: assembly

    `V - E + F = 2` for every `Valid`, `FaceLocal` polyhedron in which every directed edge occurs once:
    * `E` = number of ascending directed edges (`Eu.edges_count`) = `Σ_f (1 + #ascending corners of f)`
      (`Eu.face_count`) = `F + #ascending corners`;
    * the middle vertex is a bijection from the ascending corners onto the vertices other than the lowest and the
      highest one (`Eu.asc_unique`, `Eu.asc_exists`), so `#ascending corners = V - 2`. -/
namespace G3D
open V3

theorem Eu.sum_map_one_add {α : Type} (g : α → Nat) (l : List α) :
    (l.map (fun x => 1 + g x)).sum = l.length + (l.map g).sum := by
  rw [List.sum_map_add, List.map_const', List.sum_replicate, smul_eq_mul, mul_one]

/-- all corners of all faces -/
def Eu.corners (B : Polyhedron) : List (V3 × V3 × V3) := B.faces.flatMap (fun f => Eu.cycTriples f.pts)

theorem Eu.mem_corners (B : Polyhedron) (t : V3 × V3 × V3) :
    t ∈ Eu.corners B ↔ ∃ f ∈ B.faces, t ∈ Eu.cycTriples f.pts := by
  unfold Eu.corners; rw [List.mem_flatMap]

theorem Eu.corners_nodup {B : Polyhedron} (H : Eu.Hyp B) : (Eu.corners B).Nodup := by
  unfold Eu.corners
  rw [List.nodup_flatMap]
  refine ⟨fun f hf => (Eu.cycTriples_mid_nodup f.pts (H.valid.faces_valid f hf).nodup).of_map, ?_⟩
  refine List.Pairwise.imp_of_mem ?_ H.faces_nodup
  intro f g hf hg hne
  simp only [Function.onFun]
  intro t ht1 ht2
  exact hne (H.disjoint f g hf hg _ (Eu.cycTriples_mem _ t ht1).2 (Eu.cycTriples_mem _ t ht2).2)

/-- the ascending directed edges: one per face and one per ascending corner (`Eu.face_count` summed over the faces) -/
theorem Eu.asc_edges {B : Polyhedron} (H : Eu.Hyp B) (d : V3) (hgen : Eu.Generic B d) :
    (dirEdges (B.faces.map (·.pts))).countP (fun e => decide (dot d e.1 < dot d e.2)) =
      B.faces.length + (Eu.corners B).countP (Eu.amT d) := by
  rw [K4.FacetBody.dirEdges_eq, List.countP_flatMap]
  unfold Eu.corners
  rw [List.countP_flatMap, ← Eu.sum_map_one_add]
  congr 1
  apply List.map_congr_left
  intro f hf
  exact Eu.face_count f (H.valid.faces_valid f hf) d (hgen.face f hf)

/-- the middle vertex maps the ascending corners bijectively onto the vertices other than the lowest and the
    highest one (`Eu.asc_unique`, `Eu.asc_exists`) -/
theorem Eu.asc_corners {B : Polyhedron} (H : Eu.Hyp B) (d : V3) (hgen : Eu.Generic B d) :
    (Eu.corners B).countP (Eu.amT d) + 2 = (collectVerts B.faces).length := by
  set V := collectVerts B.faces with hV
  have hVnd : V.Nodup := collectVerts_nodup B.faces
  -- the lowest and the highest vertex
  obtain ⟨f0, hf0⟩ := List.exists_mem_of_ne_nil _ H.valid.nonempty
  obtain ⟨e, he⟩ := Eu.exists_edge f0 (H.valid.faces_valid f0 hf0)
  have hp0 : e.1 ∈ V := (mem_collectVerts _ _).mpr ⟨f0, hf0, (closedPairs_mem _ _ he).1⟩
  have hp1 : e.2 ∈ V := (mem_collectVerts _ _).mpr ⟨f0, hf0, (closedPairs_mem _ _ he).2⟩
  have hVne : V ≠ [] := List.ne_nil_of_mem hp0
  obtain ⟨vmax, hmaxV, hmax⟩ := exists_max_of_list (fun x => dot d x) V hVne
  obtain ⟨vmin, hminV, hmin0⟩ := exists_max_of_list (fun x => - dot d x) V hVne
  have hmin : ∀ w ∈ V, dot d vmin ≤ dot d w := fun w hw => neg_le_neg_iff.mp (hmin0 w hw)
  have hne : vmax ≠ vmin := by
    intro h
    have a0 := hmin _ hp0; have a1 := hmin _ hp1
    have b0 := hmax _ hp0; have b1 := hmax _ hp1
    rw [h] at b0 b1
    exact hgen _ hp0 _ hp1 ((H.valid.faces_valid f0 hf0).edge_ne e he) (by linarith)
  set A := (Eu.corners B).filter (Eu.amT d) with hA
  have hAmem : ∀ t, t ∈ A ↔ (∃ f ∈ B.faces, t ∈ Eu.cycTriples f.pts) ∧ Eu.amT d t = true := by
    intro t; rw [hA, List.mem_filter, Eu.mem_corners]
  have hMnd : (A.map (fun t => t.2.1)).Nodup := by
    apply List.Nodup.map_on _ ((Eu.corners_nodup H).filter _)
    intro t ht t' ht' hmid
    obtain ⟨⟨f, hf, htf⟩, ha⟩ := (hAmem t).mp ht
    obtain ⟨⟨g, hg, htg⟩, ha'⟩ := (hAmem t').mp ht'
    exact (Eu.asc_unique H d f g hf hg t t' htf htg hmid ha ha').2
  have hMmem : ∀ v, v ∈ A.map (fun t => t.2.1) ↔ v ∈ (V.erase vmax).erase vmin := by
    intro v
    rw [(hVnd.erase _).mem_erase_iff, hVnd.mem_erase_iff, List.mem_map]
    constructor
    · rintro ⟨t, ht, rfl⟩
      obtain ⟨⟨f, hf, htf⟩, ha⟩ := (hAmem t).mp ht
      simp only [Eu.amT, decide_eq_true_iff] at ha
      have c := Eu.corner f (H.valid.faces_valid f hf) t htf
      have hV : ∀ {x}, x ∈ f.pts → x ∈ V := fun hx => (mem_collectVerts _ _).mpr ⟨f, hf, hx⟩
      refine ⟨?_, ?_, hV c.mid⟩
      · intro h
        rw [h] at ha
        exact not_le.mpr ha.1 (hmin _ (hV c.pred))
      · intro h
        rw [h] at ha
        exact not_le.mpr ha.2 (hmax _ (hV c.succ))
    · rintro ⟨hv2, hv1, hvV⟩
      have h1 : dot d v < dot d vmax := lt_of_le_of_ne (hmax v hvV) (hgen v hvV vmax hmaxV hv1)
      have h2 : dot d vmin < dot d v := lt_of_le_of_ne (hmin v hvV) (hgen vmin hminV v hvV (Ne.symm hv2))
      obtain ⟨f, hf, t, ht, htv, ha⟩ := Eu.asc_exists H d hgen v vmax vmin hvV hmaxV hminV h1 h2
      exact ⟨t, (hAmem t).mpr ⟨⟨f, hf, ht⟩, ha⟩, htv⟩
  have hperm : List.Perm (A.map (fun t => t.2.1)) ((V.erase vmax).erase vmin) :=
    (List.perm_ext_iff_of_nodup hMnd ((hVnd.erase _).erase _)).mpr hMmem
  rw [List.countP_eq_length_filter, ← hA, ← List.length_map (f := fun t : V3 × V3 × V3 => t.2.1), hperm.length_eq,
    ← List.length_erase_add_one hmaxV, ← List.length_erase_add_one ((List.mem_erase_of_ne hne.symm).mpr hminV)]

/-- **Euler's formula for a generic functional** -/
theorem Eu.euler_of_generic {B : Polyhedron} (H : Eu.Hyp B) (d : V3) (hgen : Eu.Generic B d) :
    ((collectVerts B.faces).length : Int) - (edgesOf B.faces []).length + B.faces.length = 2 := by
  have hsep : ∀ e ∈ dirEdges (B.faces.map (·.pts)), dot d e.1 ≠ dot d e.2 := by
    intro e he
    obtain ⟨f, hf, hef⟩ := (mem_dirEdges B.faces e).mp he
    have hm := closedPairs_mem _ _ hef
    exact hgen.face f hf _ hm.1 _ hm.2 ((H.valid.faces_valid f hf).edge_ne e hef)
  have hE := Eu.edges_count B.faces d H.valid.closed H.nodup hsep
  rw [Eu.asc_edges H d hgen] at hE
  have := Eu.asc_corners H d hgen
  omega
#print axioms Eu.euler_of_generic

/-- a functional separating finitely many points -/
theorem Eu.exists_separating (V : List V3) : ∃ d : V3, ∀ u ∈ V, ∀ w ∈ V, u ≠ w → dot d u ≠ dot d w := by
  set ms := (V.flatMap (fun u => V.map (fun w => sub u w))).filter (fun m => decide (m ≠ zero)) with hms
  obtain ⟨d, hd⟩ := K4.exists_generic ms (by
    intro m hm
    rw [hms, List.mem_filter] at hm
    simpa using hm.2)
  refine ⟨d, fun u hu w hw hne => ?_⟩
  have hsub : sub u w ≠ zero := fun h => hne (sub_eq_zero_iff.mp h)
  have hm : sub u w ∈ ms := by
    rw [hms, List.mem_filter]
    exact ⟨List.mem_flatMap.mpr ⟨u, hu, List.mem_map.mpr ⟨w, hw, rfl⟩⟩, by simpa using hsub⟩
  have := hd _ hm
  intro h
  apply this
  have : dot (sub u w) d = dot d u - dot d w := by simp only [dot, sub]; ring
  rw [this, h]; ring

/-- **EULER'S POLYHEDRON FORMULA** for the bodies of the model: a valid convex polyhedron without coplanar
    neighbouring faces (`FaceLocal`) in whose face list every directed edge occurs once satisfies
    `V - E + F = 2`, with `V`, `E` the vertex and edge counts of the constructor `ConvexPolyhedron(...)` -/
theorem Polyhedron.euler (B : Polyhedron) (hV : B.Valid) (hloc : B.FaceLocal)
    (hnd : (dirEdges (B.faces.map (·.pts))).Nodup) :
    ((collectVerts B.faces).length : Int) - (edgesOf B.faces []).length + B.faces.length = 2 := by
  obtain ⟨d, hd⟩ := Eu.exists_separating (collectVerts B.faces)
  exact Eu.euler_of_generic ⟨hV, hloc, hnd⟩ d hd
#print axioms Polyhedron.euler

/-- **corollary**: the polygons `gons` have Euler number 2 as soon as the faces the constructor stores for them
    (`flipOf c g` = `g` or `-g`) form a body that satisfies the hypotheses: the counts of the constructor depend on
    the vertex set and the undirected edges only -/
theorem Eu.eulerOf_eq_two_of_flip (gons : List Polygon) (hgv : ∀ g ∈ gons, g.Valid) (c : V3) (R : Polyhedron)
    (hF : R.faces = gons.map (flipOf c)) (hV : R.Valid) (hloc : R.FaceLocal)
    (hnd : (dirEdges (R.faces.map (·.pts))).Nodup) : K4.eulerOf gons = 2 := by
  have hverts : ∀ v, (∃ g ∈ gons, v ∈ g.pts) ↔ (∃ f ∈ gons.map (flipOf c), v ∈ f.pts) := by
    intro v
    constructor
    · rintro ⟨g, hg, hv⟩
      exact ⟨flipOf c g, List.mem_map.mpr ⟨g, hg, rfl⟩, (SameSet.flipOf_mem c g (hgv g hg) v).mpr hv⟩
    · rintro ⟨f, hf, hv⟩
      obtain ⟨g, hg, rfl⟩ := List.mem_map.mp hf
      exact ⟨g, hg, (SameSet.flipOf_mem c g (hgv g hg) v).mp hv⟩
  have h := R.euler hV hloc hnd
  rw [hF] at h
  unfold K4.eulerOf
  rw [(collectVerts_perm gons _ hverts).length_eq, edgesOf_length_eq gons _ (Bridge.sameUEdges_flip c gons hgv), h.symm,
    List.length_map]
#print axioms Eu.eulerOf_eq_two_of_flip

/-- facet bodies (the bodies assembled by `intersection(polyhedron, polyhedron)`) satisfy Euler's formula -/
theorem K4.FacetBody.euler {A B R : Polyhedron} (hb : K4.FacetBody A B R) :
    ((collectVerts R.faces).length : Int) - (edgesOf R.faces []).length + R.faces.length = 2 :=
  R.euler hb.valid hb.faceLocal hb.dirEdges_nodup

end G3D
