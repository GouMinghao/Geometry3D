import G3D.Proofs.SameSet
import G3D.Proofs.HashKey
import Mathlib.Algebra.BigOperators.Group.List.Basic
import G3D.Proofs.MeasBody

/-! # `==` / `hash` of ConvexPolygon and ConvexPolyhedron for an ARBITRARY point hash

In the code `ConvexPolygon.__hash__` hashes the tuple
  ("ConvexPolygon", round(Σ_points hash(p), sig), hash(plane) + hash(-plane), hash(plane) * hash(-plane))
and `ConvexPolyhedron.__hash__` the tuple ("ConvexPolyhedron", round(Σ_faces hash(f)), round(Σ_vertices hash(p))), and `==` of
both types compares these hashes.  Whatever function `hash(Point)` is (here: any `h : V3 → Int`) and whatever the plane hash is
(here: any function of the model's canonical plane key, which is proved sign- and representation-independent):

    same point set  ⇒  equal hash tuple  ⇒  `a == b` and `hash(a) == hash(b)`.

The converse — different sets give different sums — holds only up to hash collisions and is not claimed. -/
namespace G3D
open V3

/-- the polygon's hash tuple for a point hash `h` and a plane hash `hp` that depends only on the canonical plane key -/
def Polygon.hashTupleAbs {κ : Type} (h : V3 → Int) (hp : ((Int × Rat) × (Int × Rat) × (Int × Rat)) × (Int × Rat) → κ)
    (P : Polygon) : Int × κ := ((P.pts.map h).sum, hp (Plane.hashKey P.plane))

theorem Polygon.pts_perm_of_same {P Q : Polygon} (hP : P.Valid) (hQ : Q.Valid) (hs : P.same Q = true) :
    List.Perm P.pts Q.pts := by
  rw [Polygon.same_iff] at hs
  rw [List.perm_ext_iff_of_nodup hP.nodup hQ.nodup]
  exact fun p => ⟨hs.1 p, hs.2.1 p⟩

/-- **equal polygons have equal hash tuples**, for every point hash and every plane hash of the canonical key -/
theorem Polygon.hashTupleAbs_eq_of_same {κ : Type} (h : V3 → Int)
    (hp : ((Int × Rat) × (Int × Rat) × (Int × Rat)) × (Int × Rat) → κ) {P Q : Polygon} (hP : P.Valid) (hQ : Q.Valid)
    (hs : P.same Q = true) : P.hashTupleAbs h hp = Q.hashTupleAbs h hp := by
  unfold Polygon.hashTupleAbs
  have hperm := Polygon.pts_perm_of_same hP hQ hs
  have hk : Plane.hashKey P.plane = Plane.hashKey Q.plane :=
    (Plane.eqv_iff_hashKey P.plane Q.plane (Polygon.plane_WF P hP) (Polygon.plane_WF Q hQ)).mp ((Polygon.same_iff P Q).mp hs).2.2
  rw [(hperm.map h).sum_eq, hk]

/-- … hence two Valid polygons denoting the same point set have equal hash tuples (so the code's `==` is True and the
    hashes agree), whatever the vertex order, start vertex or orientation they were built with -/
theorem Polygon.hashTupleAbs_eq_of_same_hull {κ : Type} (h : V3 → Int)
    (hp : ((Int × Rat) × (Int × Rat) × (Int × Rat)) × (Int × Rat) → κ) {P Q : Polygon} (hP : P.Valid) (hQ : Q.Valid)
    (hd : ∀ x, InHull P.pts x ↔ InHull Q.pts x) : P.hashTupleAbs h hp = Q.hashTupleAbs h hp :=
  Polygon.hashTupleAbs_eq_of_same h hp hP hQ ((Polygon.same_iff_same_hull P Q hP hQ).mpr hd)

#print axioms Polygon.hashTupleAbs_eq_of_same_hull

/-- the polyhedron's hash tuple: (Σ_faces hash(face), Σ_vertices hash(vertex)) for a face hash `hf` that depends only on the
    face's hash tuple -/
def Polyhedron.hashTupleAbs {κ : Type} (h : V3 → Int)
    (hp : ((Int × Rat) × (Int × Rat) × (Int × Rat)) × (Int × Rat) → κ) (hf : Int × κ → Int) (B : Polyhedron) : Int × Int :=
  ((B.faces.map (fun f => hf (f.hashTupleAbs h hp))).sum, (B.verts.map h).sum)

/-- **equal polyhedra have equal hash tuples**: for bodies with Valid, pairwise different faces and duplicate-free vertex lists
    (every constructed body), `sameB` (same vertex set, same face set) gives equal sums of face hashes and of vertex hashes,
    for every point hash, plane hash and face hash -/
theorem Polyhedron.hashTupleAbs_eq_of_sameB {κ : Type} (h : V3 → Int)
    (hp : ((Int × Rat) × (Int × Rat) × (Int × Rat)) × (Int × Rat) → κ) (hf : Int × κ → Int) {A B : Polyhedron}
    (hAf : ∀ f ∈ A.faces, f.Valid) (hBf : ∀ f ∈ B.faces, f.Valid)
    (hAd : A.faces.Pairwise (fun f g => ¬ f.same g = true)) (hBd : B.faces.Pairwise (fun f g => ¬ f.same g = true))
    (hAv : A.verts.Nodup) (hBv : B.verts.Nodup) (hs : A.sameB B = true) :
    A.hashTupleAbs h hp hf = B.hashTupleAbs h hp hf := by
  obtain ⟨hv1, hv2, hf1, hf2⟩ := (Polyhedron.sameB_iff A B).mp hs
  have hvperm : List.Perm A.verts B.verts := by
    rw [List.perm_ext_iff_of_nodup hAv hBv]
    exact fun p => ⟨hv1 p, hv2 p⟩
  let R : Polygon → Polygon → Prop := fun f g => f.Valid ∧ g.Valid ∧ f.same g = true
  have hsym : ∀ a b, R a b → R b a := fun a b ⟨ha, hb, hab⟩ => ⟨hb, ha, by rw [Polygon.same_comm b a hb ha]; exact hab⟩
  have htr : ∀ a b c, R a b → R b c → R a c := fun a b c ⟨ha, hb, hab⟩ ⟨_, hc, hbc⟩ =>
    ⟨ha, hc, Polygon.same_trans a b c ha hb hc hab hbc⟩
  have hφ : ∀ a b, R a b → hf (a.hashTupleAbs h hp) = hf (b.hashTupleAbs h hp) := fun a b ⟨ha, hb, hab⟩ => by
    rw [Polygon.hashTupleAbs_eq_of_same h hp ha hb hab]
  have hfperm := Meas.perm_map_of_classes R hsym htr (fun f => hf (f.hashTupleAbs h hp)) hφ A.faces B.faces
    (hAd.imp (fun hn hr => hn hr.2.2)) (hBd.imp (fun hn hr => hn hr.2.2))
    (fun a ha => by obtain ⟨b, hb, hab⟩ := hf1 a ha; exact ⟨b, hb, hAf a ha, hBf b hb, hab⟩)
    (fun b hb => by
      obtain ⟨a, ha, hba⟩ := hf2 b hb
      exact ⟨a, ha, hsym _ _ ⟨hBf b hb, hAf a ha, hba⟩⟩)
  unfold Polyhedron.hashTupleAbs
  rw [hfperm.sum_eq, (hvperm.map h).sum_eq]

#print axioms Polyhedron.hashTupleAbs_eq_of_sameB
end G3D
