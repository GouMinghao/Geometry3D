import G3D.Extracted.Mpolyhedron
import G3D.Proofs.MethodsTiePolyhedronShared
import G3D.Model.SameSet
/-! # Tie, group `mpolyhedron`, role EQUALITY (C08): `ConvexPolyhedron.__eq__` = `Polyhedron.sameB` (the body compares the vertex sets and the face tuples element by element; translated loop by loop — repair D12: `==` used to compare hashes).  Conventions, trusted readings and the deviations found: `G3D.Proofs.MethodsTie`, header of `G3D.Model.PyRtM`. -/
set_option linter.style.nameCheck false
namespace G3D.Tie
open V3 PyRt Extracted

theorem pyInM_polygon_seq (f : Polygon) (fs : List Polygon) :
    pyInM (Val.obj (.polygon f)) (Val.seq (fs.map Obj.polygon)) = .ok (.bool (fs.any (fun g => f.same g))) := by
  simp [pyInM, objHashable, objSame, List.any_map, Function.comp_def]

theorem m_ConvexPolyhedron___eq___eq (A B : Polyhedron) :
    m_ConvexPolyhedron___eq__ (Self.ofPolyhedron A) (.obj (.polyhedron B)) = .ok (.bool (A.sameB B)) := by
  unfold m_ConvexPolyhedron___eq__
  simp [pyrt, Self.ofPolyhedron, Val.ptSet, List.forIn_map, pyInM_pt_seq, pyInM_polygon_seq, pyAttr_point_set, forIn_return, forIn_return', Polyhedron.sameB, -List.all_eq_true, -List.any_eq_true, -List.any_eq_false]
  rw [List.all_eq_not_any_not (l := A.faces), List.all_eq_not_any_not (l := B.faces)]
  cases A.verts.all (fun x => decide (x ∈ B.verts)) <;> cases B.verts.all (fun x => decide (x ∈ A.verts)) <;>
    cases A.faces.any (fun x => !B.faces.any fun g => x.same g) <;>
    cases B.faces.any (fun x => !A.faces.any fun g => x.same g) <;> rfl

theorem m_ConvexPolyhedron___eq___other (A : Polyhedron) (P : Polygon) :
    m_ConvexPolyhedron___eq__ (Self.ofPolyhedron A) (.obj (.polygon P)) = .ok (.bool false) := by
  unfold m_ConvexPolyhedron___eq__
  simp [pyrt]
end G3D.Tie
