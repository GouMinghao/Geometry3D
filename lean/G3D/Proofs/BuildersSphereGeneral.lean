import Mathlib.Tactic.Ring
import Mathlib.Tactic.Linarith
import G3D.Proofs.Builders
import G3D.Proofs.BuildersSphere

/-! C14, Sphere skeleton for EVERY n1 ≥ 3, n2 ≥ 2: V = n1(2n2 − 1) + 2, E = n1(4n2 − 1), F = 2·n1·n2, Euler, simplicity, every undirected edge on
    exactly two faces, and after the constructor's orientation repair every directed edge once and its reverse once.

    Method: the ids of `sphereFaces` are `ring·n1 + position`; the face list is the image, under this injective
    coding, of a face list over coordinates `(ring, position)` (n2 = m + 2: upper rings 0..m+1, lower rings
    m+2..2m+2, poles (2m+3, 0), (2m+3, 1)); over coordinates all the comparisons are linear (`omega`).
    The repaired face list is the list of the faces of the upper half, each followed by its mirror image in the
    equatorial plane, flipped (`sMir`, `sOrientedC`); so only the upper half is gone through case by case, and the
    lower half follows from the injectivity of the mirror map and from what it does to the equator. -/
namespace G3D
namespace Builders
open G3D.BuildersReal

/-! ### coordinates -/
abbrev SC := Nat × Nat

/-- id of the coordinate `(ring, position)` -/
def sEnc (n1 : Nat) (c : SC) : Nat := c.1 * n1 + c.2

/-- ring coordinate of the lower ring `j` (`j = 0`: the equator, shared with the upper half) -/
def sLr (m j : Nat) : Nat := if j = 0 then 0 else m + 2 + (j - 1)

@[simp] theorem sLr_zero (m : Nat) : sLr m 0 = 0 := rfl
@[simp] theorem sLr_succ (m j : Nat) : sLr m (j + 1) = m + 2 + j := by simp [sLr]

/-- the mirror image in the equatorial plane: upper ring `j` ↦ lower ring `j` (the equator is fixed), top pole
    `(2m+3, 0)` ↦ bottom pole `(2m+3, 1)` -/
def sMir (m : Nat) (c : SC) : SC := if c.1 = 2 * m + 3 then (2 * m + 3, 1) else (sLr m c.1, c.2)

theorem sMir_ring {m r : Nat} (p : Nat) (h : r ≤ m + 1) : sMir m (r, p) = (sLr m r, p) := by
  have : r ≠ 2 * m + 3 := by omega
  simp [sMir, this]

theorem sMir_pole (m p : Nat) : sMir m (2 * m + 3, p) = (2 * m + 3, 1) := by simp [sMir]

/-- upper band `j`, sector `i`, as coded -/
def sQuad (n1 i j : Nat) : List SC := [(j, i), (j, (i + 1) % n1), (j + 1, (i + 1) % n1), (j + 1, i)]

/-- top cap triangle of sector `i`, after the orientation repair -/
def sCap (n1 m i : Nat) : List SC := [(2 * m + 3, 0), (m + 1, i), (m + 1, (i + 1) % n1)]

def sUpC (n1 m i : Nat) : List (List SC) := (List.range (m + 1)).map (sQuad n1 i) ++ [sCap n1 m i]

def sUpF (n1 m : Nat) : List (List SC) := (List.range n1).flatMap (sUpC n1 m)

def sOrientedC (n1 m : Nat) : List (List SC) := (sUpF n1 m).flatMap (fun f => [f, flipCycle (f.map (sMir m))])

theorem sEnc_mc (n1 p : Nat) : sEnc n1 (0, p) = sMc n1 p := by simp [sEnc, sMc]
theorem sEnc_tc (n1 j p : Nat) : sEnc n1 (j + 1, p) = sTc n1 j p := by simp [sEnc, sTc, Nat.add_comm]
theorem sEnc_bc (n1 m j p : Nat) : sEnc n1 (m + 2 + j, p) = sBc n1 (m + 2) j p := rfl
theorem sEnc_top (n1 m : Nat) : sEnc n1 (2 * m + 3, 0) = sTop n1 (m + 2) := by simp [sEnc, sTop]; omega
theorem sEnc_bot (n1 m : Nat) : sEnc n1 (2 * m + 3, 1) = sBot n1 (m + 2) := by simp [sEnc, sBot]; omega

theorem sphereOriented_coords (n1 m : Nat) :
    sphereOriented n1 (m + 2) = (sOrientedC n1 m).map (List.map (sEnc n1)) := by
  rw [BA.sphereOriented_eq, sOrientedC, sUpF, List.flatMap_assoc, List.map_flatMap]
  apply List.flatMap_congr
  intro i _
  unfold BA.sphereBlockIds sUpC sQuad sCap
  rw [Nat.add_sub_cancel, List.range_eq_range', List.range'_succ]
  simp only [List.flatMap_cons, List.flatMap_append, List.flatMap_map, List.map_append, List.map_flatMap, List.map_cons,
    List.cons_append, List.nil_append, List.flatMap_nil, List.append_nil, List.map_nil, ← flipCycle_map,
    sMir_ring _ (Nat.zero_le _), sMir_ring _ (Nat.le_add_left 1 m), sMir_ring _ (Nat.le_refl _), sMir_pole, sLr_zero,
    sLr_succ, ← sEnc_mc, ← sEnc_tc, ← sEnc_bc, ← sEnc_top, ← sEnc_bot]
  congr 3
  apply List.flatMap_congr
  intro j hj
  obtain ⟨hj1, hj2⟩ := List.mem_range'_1.mp hj
  obtain ⟨j', rfl⟩ : ∃ j', j = j' + 1 := ⟨j - 1, by omega⟩
  simp only [sMir_ring _ (show j' + 1 ≤ m + 1 by omega), sMir_ring _ (show j' + 1 + 1 ≤ m + 1 by omega), sLr_succ,
    Nat.add_sub_cancel]

abbrev sUpper (n1 m : Nat) (c : SC) : Prop := (c.1 ≤ m + 1 ∧ c.2 < n1) ∨ (c.1 = 2 * m + 3 ∧ c.2 = 0)

theorem sMir_spec {n1 m : Nat} {c : SC} (h : sUpper n1 m c) :
    (c.1 = 0 ∧ (sMir m c).1 = 0 ∧ (sMir m c).2 = c.2) ∨
      (0 < c.1 ∧ c.1 ≤ m + 1 ∧ (sMir m c).1 = m + 1 + c.1 ∧ (sMir m c).2 = c.2) ∨
      (c.1 = 2 * m + 3 ∧ c.2 = 0 ∧ (sMir m c).1 = 2 * m + 3 ∧ (sMir m c).2 = 1) := by
  obtain ⟨r, p⟩ := c
  rcases h with ⟨hr, _⟩ | ⟨hr, hp⟩
  · rw [sMir_ring p hr]
    rcases r with _ | r
    · exact Or.inl ⟨rfl, rfl, rfl⟩
    · exact Or.inr (Or.inl ⟨r.succ_pos, hr, by rw [sLr_succ]; exact Nat.add_right_comm (m + 1) 1 r, rfl⟩)
  · simp only [] at hr
    rw [hr, sMir_pole]
    exact Or.inr (Or.inr ⟨rfl, hp, rfl, rfl⟩)

theorem sMir_upper {n1 m : Nat} {c c' : SC} (h : sUpper n1 m c) (h' : sUpper n1 m c') (e : sMir m c = c') :
    c.1 = 0 ∧ c' = c := by
  have s := sMir_spec h
  rw [e] at s
  clear h
  have : c.1 = 0 ∧ c'.1 = c.1 ∧ c'.2 = c.2 := by omega
  exact ⟨this.1, Prod.ext this.2.1 this.2.2⟩

theorem sMir_inj {n1 m : Nat} {c c' : SC} (h : sUpper n1 m c) (h' : sUpper n1 m c') (e : sMir m c = sMir m c') :
    c = c' := by
  have s := sMir_spec h
  have s' := sMir_spec h'
  rw [e] at s
  clear h h'
  have : c.1 = c'.1 ∧ c.2 = c'.2 := by omega
  exact Prod.ext this.1 this.2

theorem sMir_equator (m : Nat) (c : SC) (h : c.1 = 0) : sMir m c = c := by
  obtain ⟨r, p⟩ := c
  subst h
  exact sMir_ring p (Nat.zero_le _)

theorem mem_sUpF {n1 m : Nat} {f : List SC} : f ∈ sUpF n1 m ↔
    ∃ i, i < n1 ∧ ((∃ j, j < m + 1 ∧ f = sQuad n1 i j) ∨ f = sCap n1 m i) := by
  simp [sUpF, sUpC, eq_comm]

theorem sFace_nodup {n1 i : Nat} (m j : Nat) (h3 : 3 ≤ n1) (hi : i < n1) :
    (sQuad n1 i j).Nodup ∧ (sCap n1 m i).Nodup := by
  have hE := sm_cases hi
  simp only [sQuad, sCap, List.nodup_cons, List.mem_cons, List.not_mem_nil, or_false, Prod.mk.injEq, List.nodup_nil,
    and_true, not_or, not_false_eq_true]
  omega

theorem sUpF_props {n1 m : Nat} (h3 : 3 ≤ n1) {f : List SC} (hf : f ∈ sUpF n1 m) :
    3 ≤ f.length ∧ f.Nodup ∧ ∀ c ∈ f, sUpper n1 m c := by
  obtain ⟨i, hi, h⟩ := mem_sUpF.mp hf
  have he : (i + 1) % n1 < n1 := Nat.mod_lt _ (by omega)
  rcases h with ⟨j, hj, rfl⟩ | rfl
  · refine ⟨by simp [sQuad], (sFace_nodup m j h3 hi).1, ?_⟩
    simp only [sQuad, sUpper, List.forall_mem_cons, List.not_mem_nil, false_imp_iff, implies_true, and_true]
    omega
  · refine ⟨by simp [sCap], (sFace_nodup m 0 h3 hi).2, ?_⟩
    simp only [sCap, sUpper, List.forall_mem_cons, List.not_mem_nil, false_imp_iff, implies_true, and_true, or_true, true_and]
    omega

theorem flipCycle_length {α : Type} (f : List α) : (flipCycle f).length = f.length := by
  cases f <;> simp [flipCycle]

theorem flipCycle_nodup {α : Type} (f : List α) : (flipCycle f).Nodup ↔ f.Nodup := by
  cases f <;> simp [flipCycle]

theorem mem_flipCycle {α : Type} (f : List α) (a : α) : a ∈ flipCycle f ↔ a ∈ f := by
  cases f <;> simp [flipCycle]

theorem mem_sOrientedC {n1 m : Nat} {g : List SC} : g ∈ sOrientedC n1 m ↔
    ∃ f ∈ sUpF n1 m, g = f ∨ g = flipCycle (f.map (sMir m)) := by
  simp [sOrientedC]

theorem sFaceC_props {n1 m : Nat} (h3 : 3 ≤ n1) {g : List SC} (hg : g ∈ sOrientedC n1 m) :
    3 ≤ g.length ∧ g.Nodup ∧ ∀ c ∈ g, (c.1 < 2 * m + 3 ∧ c.2 < n1) ∨ (c.1 = 2 * m + 3 ∧ c.2 < 2) := by
  obtain ⟨f, hf, rfl | rfl⟩ := mem_sOrientedC.mp hg <;> obtain ⟨h1, h2, hu⟩ := sUpF_props h3 hf
  · refine ⟨h1, h2, fun c hc => ?_⟩
    rcases hu c hc with ⟨hr, hp⟩ | ⟨hr, hp⟩
    · exact Or.inl ⟨by omega, hp⟩
    · exact Or.inr ⟨hr, by omega⟩
  · refine ⟨by rw [flipCycle_length, List.length_map]; exact h1,
      (flipCycle_nodup _).mpr (h2.map_on fun c hc c' hc' e => sMir_inj (hu c hc) (hu c' hc') e), fun c hc => ?_⟩
    rw [mem_flipCycle, List.mem_map] at hc
    obtain ⟨c', hc', rfl⟩ := hc
    have hp : c'.2 < n1 := by have := hu c' hc'; omega
    rcases sMir_spec (hu c' hc') with ⟨_, e1, e2⟩ | ⟨_, _, e1, e2⟩ | ⟨_, _, e1, e2⟩
    · exact Or.inl ⟨by omega, by omega⟩
    · exact Or.inl ⟨by omega, by omega⟩
    · exact Or.inr ⟨e1, by omega⟩

theorem sFaceC_pos {n1 m : Nat} (h3 : 3 ≤ n1) {g : List SC} (hg : g ∈ sOrientedC n1 m) {c : SC} (hc : c ∈ g) :
    c.2 < n1 := by
  have := (sFaceC_props h3 hg).2.2 c hc
  omega

abbrev SE := SC × SC

def sUpE (n1 m : Nat) : List SE := (sUpF n1 m).flatMap cyc

theorem cyc_three {α : Type} (a b c : α) : cyc [a, b, c] = [(a, b), (b, c), (c, a)] := rfl

theorem cyc_four {α : Type} (a b c d : α) : cyc [a, b, c, d] = [(a, b), (b, c), (c, d), (d, a)] := rfl

theorem sSecE_eq (n1 m i : Nat) : (sUpC n1 m i).flatMap cyc =
    (List.range (m + 1)).flatMap (fun j => cyc (sQuad n1 i j)) ++ cyc (sCap n1 m i) := by
  simp [sUpC, List.flatMap_append, List.flatMap_map]

theorem mem_sUpE {n1 m : Nat} {x : SE} : x ∈ sUpE n1 m ↔ ∃ i, i < n1 ∧
    ((∃ j, j < m + 1 ∧ (x = ((j, i), (j, (i + 1) % n1)) ∨ x = ((j, (i + 1) % n1), (j + 1, (i + 1) % n1)) ∨
        x = ((j + 1, (i + 1) % n1), (j + 1, i)) ∨ x = ((j + 1, i), (j, i)))) ∨
      x = ((2 * m + 3, 0), (m + 1, i)) ∨ x = ((m + 1, i), (m + 1, (i + 1) % n1)) ∨
        x = ((m + 1, (i + 1) % n1), (2 * m + 3, 0))) := by
  rw [sUpE, sUpF, List.flatMap_assoc, List.mem_flatMap]
  simp only [List.mem_range, sSecE_eq, List.mem_append, List.mem_flatMap, sQuad, sCap, cyc_four, cyc_three, List.mem_cons, List.not_mem_nil, or_false]

theorem sUpE_upper {n1 m : Nat} (h3 : 3 ≤ n1) {x : SE} (h : x ∈ sUpE n1 m) :
    sUpper n1 m x.1 ∧ sUpper n1 m x.2 := by
  obtain ⟨f, hf, hx⟩ := List.mem_flatMap.mp h
  exact ⟨(sUpF_props h3 hf).2.2 _ (cyc_mem f x hx).1, (sUpF_props h3 hf).2.2 _ (cyc_mem f x hx).2⟩

theorem sUpE_equator {n1 m : Nat} {x : SE} (h : x ∈ sUpE n1 m) (h1 : x.1.1 = 0) (h2 : x.2.1 = 0) :
    x.1.2 < n1 ∧ x.2.2 = (x.1.2 + 1) % n1 := by
  obtain ⟨i, hi, ⟨j, hj, rfl | rfl | rfl | rfl⟩ | rfl | rfl | rfl⟩ := mem_sUpE.mp h
  · exact ⟨hi, rfl⟩
  all_goals (simp only [] at h1 h2; omega)

theorem sUpE_noloop {n1 m : Nat} (h3 : 3 ≤ n1) {x : SE} (h : x ∈ sUpE n1 m) : x.1 ≠ x.2 := by
  obtain ⟨i, hi, ⟨j, hj, rfl | rfl | rfl | rfl⟩ | rfl | rfl | rfl⟩ := mem_sUpE.mp h <;>
    have hE := sm_cases hi <;> simp only [ne_eq, Prod.mk.injEq] <;> omega

theorem sUpE_rev {n1 m : Nat} {x : SE} (h : x ∈ sUpE n1 m) : (x.2, x.1) ∈ sUpE n1 m ∨ (x.1.1 = 0 ∧ x.2.1 = 0) := by
  obtain ⟨i, hi, h⟩ := mem_sUpE.mp h
  have he : (i + 1) % n1 < n1 := Nat.mod_lt _ (by omega)
  obtain ⟨hp, hs⟩ := pred_mod hi
  rcases h with ⟨j, hj, rfl | rfl | rfl | rfl⟩ | rfl | rfl | rfl
  · rcases j with _ | j
    · exact Or.inr ⟨rfl, rfl⟩
    · exact Or.inl (mem_sUpE.mpr ⟨i, hi, Or.inl ⟨j, by omega, Or.inr (Or.inr (Or.inl rfl))⟩⟩)
  · exact Or.inl (mem_sUpE.mpr ⟨_, he, Or.inl ⟨j, hj, Or.inr (Or.inr (Or.inr rfl))⟩⟩)
  · rcases Nat.lt_or_ge (j + 1) (m + 1) with h1 | h1
    · exact Or.inl (mem_sUpE.mpr ⟨i, hi, Or.inl ⟨j + 1, h1, Or.inl rfl⟩⟩)
    · obtain rfl : j = m := by omega
      exact Or.inl (mem_sUpE.mpr ⟨i, hi, Or.inr (Or.inr (Or.inl rfl))⟩)
  · exact Or.inl (mem_sUpE.mpr ⟨_, hp, Or.inl ⟨j, hj, Or.inr (Or.inl (by rw [hs]))⟩⟩)
  · exact Or.inl (mem_sUpE.mpr ⟨_, hp, Or.inr (Or.inr (Or.inr (by rw [hs])))⟩)
  · exact Or.inl (mem_sUpE.mpr ⟨i, hi, Or.inl ⟨m, by omega, Or.inr (Or.inr (Or.inl rfl))⟩⟩)
  · exact Or.inl (mem_sUpE.mpr ⟨_, he, Or.inr (Or.inl rfl)⟩)

theorem nodup_flatMap_of_inj {κ α : Type} {l : List κ} {f : κ → List α} (hl : l.Nodup) (hf : ∀ k ∈ l, (f k).Nodup)
    (inj : ∀ k ∈ l, ∀ k' ∈ l, ∀ x ∈ f k, x ∈ f k' → k = k') : (l.flatMap f).Nodup :=
  List.nodup_flatMap.mpr
    ⟨hf, List.Pairwise.imp_of_mem (fun hk hk' hne x h1 h2 => hne (inj _ hk _ hk' x h1 h2)) hl⟩

/-- an edge of a band quadrilateral determines its sector and band -/
theorem sQuadE_inj {n1 i i' j j' : Nat} (h3 : 3 ≤ n1) (hi : i < n1) (hi' : i' < n1) {x : SE}
    (h : x ∈ cyc (sQuad n1 i j)) (h' : x ∈ cyc (sQuad n1 i' j')) : i = i' ∧ j = j' := by
  have hE := sm_cases hi
  have hE' := sm_cases hi'
  simp only [sQuad, cyc_four, List.mem_cons, List.not_mem_nil, or_false] at h h'
  rcases h with rfl | rfl | rfl | rfl <;> rcases h' with h' | h' | h' | h' <;>
    simp only [Prod.mk.injEq] at h' <;> omega

theorem sCapE_inj {n1 m i i' : Nat} (hi : i < n1) (hi' : i' < n1) {x : SE}
    (h : x ∈ cyc (sCap n1 m i)) (h' : x ∈ cyc (sCap n1 m i')) : i = i' := by
  have hE := sm_cases hi
  have hE' := sm_cases hi'
  simp only [sCap, cyc_three, List.mem_cons, List.not_mem_nil, or_false] at h h'
  rcases h with rfl | rfl | rfl <;> rcases h' with h' | h' | h' <;> simp only [Prod.mk.injEq] at h' <;> omega

theorem sQuad_cap_disj {n1 m i i' j : Nat} (h3 : 3 ≤ n1) (hi : i < n1) (hi' : i' < n1) (hj : j < m + 1) {x : SE}
    (h : x ∈ cyc (sQuad n1 i j)) (h' : x ∈ cyc (sCap n1 m i')) : False := by
  have hE := sm_cases hi
  have hE' := sm_cases hi'
  simp only [sQuad, sCap, cyc_four, cyc_three, List.mem_cons, List.not_mem_nil, or_false] at h h'
  rcases h with rfl | rfl | rfl | rfl <;> rcases h' with h' | h' | h' <;> simp only [Prod.mk.injEq] at h' <;> omega

/-- the edges start at different vertices -/
theorem cyc_nodup {α : Type} {l : List α} (h : l.Nodup) : (cyc l).Nodup := by
  cases l with
  | nil => exact List.nodup_nil
  | cons p ps =>
    rw [cyc_cons]
    exact List.Nodup.of_map Prod.fst (by rwa [List.map_fst_zip (by simp)])

theorem sUpE_nodup {n1 : Nat} (m : Nat) (h3 : 3 ≤ n1) : (sUpE n1 m).Nodup := by
  unfold sUpE sUpF
  rw [List.flatMap_assoc]
  refine nodup_flatMap_of_inj List.nodup_range (fun i hi => ?_) (fun i hi i' hi' x h h' => ?_)
  · have hi := List.mem_range.mp hi
    rw [sSecE_eq, List.nodup_append]
    refine ⟨nodup_flatMap_of_inj List.nodup_range (fun j _ => cyc_nodup (sFace_nodup m j h3 hi).1)
      (fun j _ j' _ x h h' => (sQuadE_inj h3 hi hi h h').2), cyc_nodup (sFace_nodup m 0 h3 hi).2, ?_⟩
    intro a ha b hb hab
    subst hab
    obtain ⟨j, hj, ha⟩ := List.mem_flatMap.mp ha
    exact sQuad_cap_disj h3 hi hi (List.mem_range.mp hj) ha hb
  · have hi := List.mem_range.mp hi
    have hi' := List.mem_range.mp hi'
    rw [sSecE_eq, List.mem_append, List.mem_flatMap] at h h'
    rcases h with ⟨j, hj, h⟩ | h <;> rcases h' with ⟨j', hj', h'⟩ | h'
    · exact (sQuadE_inj h3 hi hi' h h').1
    · exact (sQuad_cap_disj h3 hi hi' (List.mem_range.mp hj) h h').elim
    · exact (sQuad_cap_disj h3 hi' hi (List.mem_range.mp hj') h' h).elim
    · exact sCapE_inj hi hi' h h'

/-- the mirror image of a directed edge, reversed: what the flip of the mirrored face makes of it -/
def sMirE (m : Nat) (x : SE) : SE := (sMir m x.2, sMir m x.1)

def sEdgesC (n1 m : Nat) : List SE := (sOrientedC n1 m).flatMap cyc

theorem sEdgesC_perm (n1 m : Nat) : (sEdgesC n1 m).Perm (sUpE n1 m ++ (sUpE n1 m).map (sMirE m)) := by
  have hf : ∀ f : List SC,
      [f, flipCycle (f.map (sMir m))].flatMap cyc = cyc f ++ ((cyc f).map (sMirE m)).reverse := by
    intro f
    simp only [List.flatMap_cons, List.flatMap_nil, List.append_nil, cyc_flipCycle, cyc_map, List.map_map]
    rfl
  unfold sEdgesC sOrientedC sUpE
  rw [List.flatMap_assoc, List.map_flatMap]
  refine List.Perm.trans (List.Perm.flatMap_left _ fun f _ => ?_) (List.flatMap_append_perm _ _ _).symm
  rw [hf]
  exact (List.reverse_perm _).append_left _

theorem mem_sEdgesC {n1 m : Nat} {x : SE} : x ∈ sEdgesC n1 m ↔ x ∈ sUpE n1 m ∨ ∃ y ∈ sUpE n1 m, sMirE m y = x := by
  rw [(sEdgesC_perm n1 m).mem_iff, List.mem_append, List.mem_map]

/-- an edge of the upper half is not the reversed mirror image of one: that could only be along the equator, where
    both would have to run forwards -/
theorem sUpE_mir_disj {n1 m : Nat} (h3 : 3 ≤ n1) {y : SE} (hy : y ∈ sUpE n1 m) : sMirE m y ∉ sUpE n1 m := by
  intro hx
  obtain ⟨hx1, hx2⟩ := sUpE_upper h3 hx
  obtain ⟨hy1, hy2⟩ := sUpE_upper h3 hy
  obtain ⟨a1, a2⟩ := sMir_upper hy2 hx1 rfl
  obtain ⟨b1, b2⟩ := sMir_upper hy1 hx2 rfl
  have ex := sUpE_equator hx (by rw [a2]; exact a1) (by rw [b2]; exact b1)
  have ey := sUpE_equator hy b1 a1
  rw [a2, b2] at ex
  have s1 := sm_cases ey.1
  have s2 := sm_cases ex.1
  omega

/-- every directed edge occurs once (coordinates) -/
theorem sEdgesC_nodup (n1 m : Nat) (h3 : 3 ≤ n1) : (sEdgesC n1 m).Nodup := by
  rw [(sEdgesC_perm n1 m).nodup_iff, List.nodup_append]
  refine ⟨sUpE_nodup m h3, (sUpE_nodup m h3).map_on fun x hx y hy e => ?_, fun x hx y hy e => ?_⟩
  · obtain ⟨hx1, hx2⟩ := sUpE_upper h3 hx
    obtain ⟨hy1, hy2⟩ := sUpE_upper h3 hy
    exact Prod.ext (sMir_inj hx1 hy1 (congrArg Prod.snd e)) (sMir_inj hx2 hy2 (congrArg Prod.fst e))
  · obtain ⟨z, hz, rfl⟩ := List.mem_map.mp hy
    exact sUpE_mir_disj h3 hz (e ▸ hx)

/-- positions are below n1 -/
theorem sEdgesC_valid {n1 m : Nat} (h3 : 3 ≤ n1) {x : SE} (h : x ∈ sEdgesC n1 m) : x.1.2 < n1 ∧ x.2.2 < n1 := by
  obtain ⟨g, hg, hx⟩ := List.mem_flatMap.mp h
  exact ⟨sFaceC_pos h3 hg (cyc_mem g x hx).1, sFaceC_pos h3 hg (cyc_mem g x hx).2⟩

/-- no loops -/
theorem sEdgesC_noloop (n1 m : Nat) (h3 : 3 ≤ n1) (x : SE) (h : x ∈ sEdgesC n1 m) : x.1 ≠ x.2 := by
  rcases mem_sEdgesC.mp h with h | ⟨y, hy, rfl⟩
  · exact sUpE_noloop h3 h
  · exact fun e => sUpE_noloop h3 hy (sMir_inj (sUpE_upper h3 hy).1 (sUpE_upper h3 hy).2 e.symm)

/-- the reverse of every directed edge occurs too (coordinates) -/
theorem sEdgesC_rev (n1 m : Nat) (x : SE) (h : x ∈ sEdgesC n1 m) : (x.2, x.1) ∈ sEdgesC n1 m := by
  rcases mem_sEdgesC.mp h with h | ⟨y, hy, rfl⟩
  · rcases sUpE_rev h with h' | ⟨h1, h2⟩
    · exact mem_sEdgesC.mpr (Or.inl h')
    · exact mem_sEdgesC.mpr (Or.inr ⟨x, h, Prod.ext (sMir_equator m _ h2) (sMir_equator m _ h1)⟩)
  · rcases sUpE_rev hy with h' | ⟨h1, h2⟩
    · exact mem_sEdgesC.mpr (Or.inr ⟨_, h', rfl⟩)
    · have e : ((sMirE m y).2, (sMirE m y).1) = y := Prod.ext (sMir_equator m _ h1) (sMir_equator m _ h2)
      rw [e]
      exact mem_sEdgesC.mpr (Or.inl hy)

/-! ### transfer to the ids -/
theorem dirEdges_mapG {α : Type} (g : α → Nat) (fs : List (List α)) :
    dirEdges (fs.map (List.map g)) = (fs.flatMap cyc).map (Prod.map g g) := by
  unfold dirEdges
  induction fs with
  | nil => rfl
  | cons f fs ih => simp only [List.map_cons, List.flatMap_cons, List.map_append, cyc_map, ih]

theorem sphere_dirEdges (n1 m : Nat) :
    dirEdges (sphereOriented n1 (m + 2)) = (sEdgesC n1 m).map (Prod.map (sEnc n1) (sEnc n1)) := by
  rw [sphereOriented_coords, dirEdges_mapG, sEdgesC]

theorem sEnc_inj {n1 : Nat} {c c' : SC} (h : c.2 < n1) (h' : c'.2 < n1) (he : sEnc n1 c = sEnc n1 c') : c = c' := by
  obtain ⟨h1, h2⟩ := key_inj h h' he
  exact Prod.ext h1 h2

/-- C14, Sphere, every n1 ≥ 3, n2 ≥ 2: after the orientation repair every directed edge occurs exactly once and its
    reverse exactly once -/
theorem sphere_closedDir_general (n1 n2 : Nat) (h3 : 3 ≤ n1) (h2 : 2 ≤ n2) : ClosedDir (sphereOriented n1 n2) := by
  obtain ⟨m, rfl⟩ := Nat.exists_eq_add_of_le' h2
  apply closedDir_of_nodup
  · rw [sphere_dirEdges]
    apply List.Nodup.map_on _ (sEdgesC_nodup n1 m h3)
    intro x hx y hy h
    obtain ⟨hx1, hx2⟩ := sEdgesC_valid h3 hx
    obtain ⟨hy1, hy2⟩ := sEdgesC_valid h3 hy
    simp only [Prod.map, Prod.mk.injEq] at h
    exact Prod.ext (sEnc_inj hx1 hy1 h.1) (sEnc_inj hx2 hy2 h.2)
  · intro e he
    rw [sphere_dirEdges] at he ⊢
    obtain ⟨x, hx, rfl⟩ := List.mem_map.mp he
    exact List.mem_map.mpr ⟨(x.2, x.1), sEdgesC_rev n1 m x hx, rfl⟩

theorem sphere_noloop (n1 m : Nat) (h3 : 3 ≤ n1) : ∀ e ∈ dirEdges (sphereOriented n1 (m + 2)), e.1 ≠ e.2 := by
  intro e he
  rw [sphere_dirEdges] at he
  obtain ⟨x, hx, rfl⟩ := List.mem_map.mp he
  obtain ⟨hx1, hx2⟩ := sEdgesC_valid h3 hx
  intro h
  exact sEdgesC_noloop n1 m h3 x hx (sEnc_inj hx1 hx2 h)

theorem sphereFlips_length (n1 n2 : Nat) : (sphereFlips n1 n2).length = (sphereFaces n1 n2).length := by
  simp [sphereFlips, sphereFaces, List.length_flatMap]

/-- C14, Sphere, every n1 ≥ 3, n2 ≥ 2: every undirected edge of the face list as coded lies on exactly two faces -/
theorem sphere_closedUndir_general (n1 n2 : Nat) (h3 : 3 ≤ n1) (h2 : 2 ≤ n2) : ClosedUndir (sphereFaces n1 n2) := by
  have hcd := sphere_closedDir_general n1 n2 h3 h2
  obtain ⟨m, rfl⟩ := Nat.exists_eq_add_of_le' h2
  exact (closedUndir_of_flips (sphereFlips_length n1 (m + 2)) hcd (sphere_noloop n1 m h3)).1

/-- C14, Sphere, every n1 ≥ 3, n2 ≥ 2: E = n1·(4·n2 − 1) -/
theorem sphere_edgeCount_general (n1 n2 : Nat) (h3 : 3 ≤ n1) (h2 : 2 ≤ n2) :
    edgeCount (sphereFaces n1 n2) = n1 * (4 * n2 - 1) := by
  have hcd := sphere_closedDir_general n1 n2 h3 h2
  obtain ⟨m, rfl⟩ := Nat.exists_eq_add_of_le' h2
  have h := (closedUndir_of_flips (sphereFlips_length n1 (m + 2)) hcd (sphere_noloop n1 m h3)).2
  -- per sector two quadrilaterals on the equator, `m` more pairs of them, and two triangles
  have hs : ((sphereFaces n1 (m + 2)).map List.length).sum = 2 * (n1 * (4 * m + 7)) := by
    simp [sphereFaces, List.flatMap_def, List.sum_flatten, Function.comp_def]
    ring
  rw [hs] at h
  rw [show 4 * (m + 2) - 1 = 4 * m + 7 by omega]
  exact Nat.eq_of_mul_eq_mul_left two_pos h

/-! ### simplicity -/
theorem forall_applyFlips {α : Type} {P : List α → Prop} (hP : ∀ f, P (flipCycle f) ↔ P f)
    (mask : List Bool) (fs : List (List α)) (h : mask.length = fs.length) :
    (∀ g ∈ applyFlips mask fs, P g) ↔ ∀ f ∈ fs, P f := by
  have e := congrArg (fun l : List Prop => ∀ p ∈ l, p) (map_applyFlips P (fun f => propext (hP f)) mask fs h.ge)
  simpa only [List.forall_mem_map, eq_iff_iff] using e

theorem simple_of_applyFlips (mask : List Bool) (fs : List Face) (h : mask.length = fs.length)
    (hs : Simple (applyFlips mask fs)) : Simple fs :=
  (forall_applyFlips (fun f => by rw [flipCycle_length, flipCycle_nodup]) mask fs h).mp hs

/-- C14, Sphere, every n1 ≥ 3, n2 ≥ 2: every face as coded has at least three, pairwise different vertices -/
theorem sphere_simple_general (n1 n2 : Nat) (h3 : 3 ≤ n1) (h2 : 2 ≤ n2) : Simple (sphereFaces n1 n2) := by
  obtain ⟨m, rfl⟩ := Nat.exists_eq_add_of_le' h2
  apply simple_of_applyFlips (sphereFlips n1 (m + 2)) _ (sphereFlips_length n1 (m + 2))
  show Simple (sphereOriented n1 (m + 2))
  rw [sphereOriented_coords]
  intro f hf
  obtain ⟨g, hg, rfl⟩ := List.mem_map.mp hf
  obtain ⟨h1, h2', _⟩ := sFaceC_props h3 hg
  refine ⟨by rw [List.length_map]; exact h1, ?_⟩
  apply List.Nodup.map_on _ h2'
  intro x hx y hy h
  exact sEnc_inj (sFaceC_pos h3 hg hx) (sFaceC_pos h3 hg hy) h

/-! ### vertices -/
theorem mem_flatten_applyFlips (v : Nat) (mask : List Bool) (fs : List Face) (h : mask.length = fs.length) :
    v ∈ (applyFlips mask fs).flatten ↔ v ∈ fs.flatten := by
  have := forall_applyFlips (P := (v ∉ ·)) (fun f => not_congr (mem_flipCycle f v)) mask fs h
  simpa [List.mem_flatten] using not_congr this

theorem sUpper_mem {n1 m : Nat} (h3 : 3 ≤ n1) {c : SC} (h : sUpper n1 m c) : ∃ f ∈ sUpF n1 m, c ∈ f := by
  obtain ⟨r, p⟩ := c
  rcases h with ⟨hr, hp⟩ | ⟨hr, hp⟩ <;> simp only [] at hr hp
  · rcases Nat.lt_or_ge r (m + 1) with h1 | h1
    · exact ⟨_, mem_sUpF.mpr ⟨p, hp, Or.inl ⟨r, h1, rfl⟩⟩, by simp [sQuad]⟩
    · obtain rfl : r = m + 1 := by omega
      exact ⟨_, mem_sUpF.mpr ⟨p, hp, Or.inl ⟨m, by omega, rfl⟩⟩, by simp [sQuad]⟩
  · exact ⟨_, mem_sUpF.mpr ⟨0, by omega, Or.inr rfl⟩, by simp [sCap, hr, hp]⟩

theorem mem_sOrientedC_flatten (n1 m : Nat) (h3 : 3 ≤ n1) (c : SC) : c ∈ (sOrientedC n1 m).flatten ↔
    (c.1 < 2 * m + 3 ∧ c.2 < n1) ∨ (c.1 = 2 * m + 3 ∧ c.2 < 2) := by
  constructor
  · intro hc
    obtain ⟨g, hg, hcg⟩ := List.mem_flatten.mp hc
    exact (sFaceC_props h3 hg).2.2 c hcg
  · intro h
    obtain ⟨c', hu, e⟩ : ∃ c', sUpper n1 m c' ∧ (c' = c ∨ sMir m c' = c) := by
      obtain ⟨r, p⟩ := c
      rcases h with ⟨hr, hp⟩ | ⟨hr, hp⟩ <;> simp only [] at hr hp
      · rcases Nat.lt_or_ge r (m + 2) with h1 | h1
        · exact ⟨_, Or.inl ⟨by omega, hp⟩, Or.inl rfl⟩
        · obtain ⟨j, rfl⟩ := Nat.exists_eq_add_of_le h1
          exact ⟨(j + 1, p), Or.inl ⟨by omega, hp⟩, Or.inr (by rw [sMir_ring p (by omega), sLr_succ])⟩
      · subst hr
        obtain rfl | rfl : p = 0 ∨ p = 1 := by omega
        · exact ⟨_, Or.inr ⟨rfl, rfl⟩, Or.inl rfl⟩
        · exact ⟨_, Or.inr ⟨rfl, rfl⟩, Or.inr (sMir_pole m 0)⟩
    obtain ⟨f, hf, hc'⟩ := sUpper_mem h3 hu
    rcases e with rfl | rfl
    · exact List.mem_flatten.mpr ⟨f, mem_sOrientedC.mpr ⟨f, hf, Or.inl rfl⟩, hc'⟩
    · exact List.mem_flatten.mpr ⟨_, mem_sOrientedC.mpr ⟨f, hf, Or.inr rfl⟩,
        (mem_flipCycle _ _).mpr (List.mem_map_of_mem hc')⟩

theorem sEnc_range {n1 : Nat} (R v : Nat) (h2 : 2 ≤ n1) :
    v < R * n1 + 2 ↔ ∃ c : SC, ((c.1 < R ∧ c.2 < n1) ∨ (c.1 = R ∧ c.2 < 2)) ∧ sEnc n1 c = v := by
  constructor
  · intro hv
    rcases Nat.lt_or_ge v (R * n1) with h | h
    · exact ⟨(v / n1, v % n1), Or.inl ⟨Nat.div_lt_of_lt_mul (by rwa [Nat.mul_comm]), Nat.mod_lt _ (by omega)⟩,
        Nat.div_add_mod' v n1⟩
    · exact ⟨(R, v - R * n1), Or.inr ⟨rfl, by simp only []; omega⟩, by simp only [sEnc]; omega⟩
  · rintro ⟨⟨r, p⟩, ⟨hr, hp⟩ | ⟨rfl, hp⟩, rfl⟩
    · have := Nat.mul_le_mul_right n1 (Nat.succ_le_of_lt hr)
      simp only [sEnc, Nat.succ_mul] at this ⊢
      omega
    · simp only [sEnc]
      omega

/-- C14, Sphere, every n1 ≥ 3, n2 ≥ 2: V = n1·(2·n2 − 1) + 2 -/
theorem sphere_vertexCount_general (n1 n2 : Nat) (h3 : 3 ≤ n1) (h2 : 2 ≤ n2) :
    vertexCount (sphereFaces n1 n2) = n1 * (2 * n2 - 1) + 2 := by
  obtain ⟨m, rfl⟩ := Nat.exists_eq_add_of_le' h2
  apply dedup_length_of_mem_iff_lt
  intro v
  rw [← mem_flatten_applyFlips v (sphereFlips n1 (m + 2)) _ (sphereFlips_length n1 (m + 2)),
    show 2 * (m + 2) - 1 = 2 * m + 3 by omega, Nat.mul_comm, sEnc_range _ v (by omega)]
  show v ∈ (sphereOriented n1 (m + 2)).flatten ↔ _
  rw [sphereOriented_coords, ← List.map_flatten, List.mem_map]
  exact exists_congr fun c => and_congr_left' (mem_sOrientedC_flatten n1 m h3 c)

/-- C14, Sphere skeleton for EVERY n1 ≥ 3, n2 ≥ 2: 2·n2 − 1 rings of n1 points and two poles,
    V = n1(2n2 − 1) + 2, E = n1(4n2 − 1), F = 2·n1·n2, Euler, every face simple, every undirected edge on exactly two
    faces, and after the orientation repair of the constructor every directed edge once and its reverse once -/
theorem sphere_skeleton_general (n1 n2 : Nat) (h3 : 3 ≤ n1) (h2 : 2 ≤ n2) :
    vertexCount (sphereFaces n1 n2) = n1 * (2 * n2 - 1) + 2 ∧ edgeCount (sphereFaces n1 n2) = n1 * (4 * n2 - 1) ∧
      faceCount (sphereFaces n1 n2) = 2 * n1 * n2 ∧ Euler (sphereFaces n1 n2) ∧ Simple (sphereFaces n1 n2) ∧
      ClosedUndir (sphereFaces n1 n2) ∧ ClosedDir (sphereOriented n1 n2) := by
  have hV := sphere_vertexCount_general n1 n2 h3 h2
  have hE := sphere_edgeCount_general n1 n2 h3 h2
  have hF : faceCount (sphereFaces n1 n2) = 2 * n1 * n2 := sphere_faceCount n1 n2 h2
  refine ⟨hV, hE, hF, ?_, sphere_simple_general n1 n2 h3 h2, sphere_closedUndir_general n1 n2 h3 h2,
    sphere_closedDir_general n1 n2 h3 h2⟩
  unfold Euler
  rw [hV, hE, hF]
  obtain ⟨m, rfl⟩ := Nat.exists_eq_add_of_le' h2
  rw [show 2 * (m + 2) - 1 = 2 * m + 3 by omega, show 4 * (m + 2) - 1 = 4 * m + 7 by omega]
  ring

/-- every placement of the ids in space of the repaired Sphere skeleton is a `ClosedSurface`, every n1 ≥ 3, n2 ≥ 2 -/
theorem sphere_closedSurface_general (n1 n2 : Nat) (h3 : 3 ≤ n1) (h2 : 2 ≤ n2) (g : Nat → V3) :
    ClosedSurface ((sphereOriented n1 n2).map (List.map g)) :=
  closedSurface_of_closedDir _ (sphere_closedDir_general n1 n2 h3 h2) g

#print axioms sphere_closedDir_general
#print axioms sphere_closedUndir_general
#print axioms sphere_edgeCount_general
#print axioms sphere_simple_general
#print axioms sphere_vertexCount_general
#print axioms sphere_skeleton_general
#print axioms sphere_closedSurface_general
end Builders
end G3D
