import G3D.Proofs.ExactAll
import G3D.Proofs.Algebra

/-! # C12 beyond flats: algebraic laws for every operand triple in which no two polyhedra meet directly

Corollaries of `interRef_exactOK` (K0–K3, K6): results are admissible operands again, so intersections chain. -/
namespace G3D
open V3

theorem ResOK.opOK {o : Obj} (h : ResOK (some o)) : OpOK o := by
  cases o with
  | flat g => exact h
  | polygon P => exact h
  | polyhedron _ => exact h.elim

theorem ResOK.notBoth_left {o : Obj} (h : ResOK (some o)) (c : Obj) : NotBothBodies o c := by
  cases o with
  | flat g => trivial
  | polygon P => trivial
  | polyhedron _ => exact h.elim

theorem ResOK.notBoth_right {o : Obj} (h : ResOK (some o)) (a : Obj) : NotBothBodies a o := by
  cases o with
  | flat g => cases a <;> trivial
  | polygon P => cases a <;> trivial
  | polyhedron _ => exact h.elim

/-- result of a first intersection fed into a second one (`None` absorbs) -/
def interOptLB (o : Option Obj) (c : Obj) : ResB :=
  match o with
  | none => .ok none
  | some g => interRef g c

def interOptRB (a : Obj) (o : Option Obj) : ResB :=
  match o with
  | none => .ok none
  | some g => interRef a g

theorem interOptLB_exact (o : Option Obj) (hw : ResOK o) (c : Obj) (hc : OpOK c) :
    ExactOK (interOptLB o c) (denOptB o) (ObjDen c) := by
  cases o with
  | none => exact ⟨none, rfl, trivial, fun x => ⟨False.elim, And.left⟩⟩
  | some g => exact interRef_exactOK g c hw.opOK hc (hw.notBoth_left c)

theorem interOptRB_exact (a : Obj) (ha : OpOK a) (o : Option Obj) (hw : ResOK o) :
    ExactOK (interOptRB a o) (ObjDen a) (denOptB o) := by
  cases o with
  | none => exact ⟨none, rfl, trivial, fun x => ⟨False.elim, And.right⟩⟩
  | some g => exact interRef_exactOK a g ha hw.opOK (hw.notBoth_right a)

/-- **associativity**: for admissible a, b, c such that neither (a, b) nor (b, c) is a pair of polyhedra, both nestings
    return without error and denote exactly a ∩ b ∩ c -/
theorem interRef_assoc (a b c : Obj) (ha : OpOK a) (hb : OpOK b) (hc : OpOK c)
    (hab : NotBothBodies a b) (hbc : NotBothBodies b c) :
    ∃ ab bc l r, interRef a b = .ok ab ∧ interRef b c = .ok bc ∧
      interOptLB ab c = .ok l ∧ interOptRB a bc = .ok r ∧ ResOK l ∧ ResOK r ∧
      (∀ x, denOptB l x ↔ (ObjDen a x ∧ ObjDen b x ∧ ObjDen c x)) ∧
      (∀ x, denOptB r x ↔ (ObjDen a x ∧ ObjDen b x ∧ ObjDen c x)) := by
  obtain ⟨ab, h1, w1, d1⟩ := interRef_exactOK a b ha hb hab
  obtain ⟨bc, h2, w2, d2⟩ := interRef_exactOK b c hb hc hbc
  obtain ⟨l, hl, wl, dl⟩ := interOptLB_exact ab w1 c hc
  obtain ⟨r, hr, wr, dr⟩ := interOptRB_exact a ha bc w2
  exact ⟨ab, bc, l, r, h1, h2, hl, hr, wl, wr, fun x => by rw [dl x, d1 x, and_assoc], fun x => by rw [dr x, d2 x]⟩

/-- every admissible operand has a point -/
theorem OpOK.nonempty (a : Obj) (ha : OpOK a) (hnb : NotBothBodies a a) : ∃ x, ObjDen a x := by
  cases a with
  | flat g => exact g.nonempty
  | polygon P =>
    obtain ⟨p0, p1, p2, rest, hp, _, _⟩ := ha
    exact ⟨p0, vertex_in_hull _ _ (by rw [hp]; simp)⟩
  | polyhedron _ => exact hnb.elim

theorem ExactOK.of_subset {r : ResB} {A B : V3 → Prop} (h : ExactOK r A B) (hsub : ∀ x, A x → B x) (hne : ∃ x, A x) :
    ∃ g, r = .ok (some g) ∧ OpOK g ∧ ∀ x, ObjDen g x ↔ A x := by
  obtain ⟨o, ho, hw, hd⟩ := h
  cases o with
  | none => obtain ⟨x, hx⟩ := hne; exact ((hd x).mpr ⟨hx, hsub x hx⟩).elim
  | some g => exact ⟨g, ho, hw.opOK, fun x => (hd x).trans ⟨And.left, fun h => ⟨h, hsub x h⟩⟩⟩

/-- `intersection(a, a)` denotes `a` (flats and polygons) -/
theorem interRef_self (a : Obj) (ha : OpOK a) (hnb : NotBothBodies a a) :
    ∃ g, interRef a a = .ok (some g) ∧ OpOK g ∧ ∀ x, ObjDen g x ↔ ObjDen a x :=
  (interRef_exactOK a a ha ha hnb).of_subset (fun _ h => h) (OpOK.nonempty a ha hnb)

/-- if `a ⊆ b` (a non-empty) then `intersection(a, b)` and `intersection(b, a)` denote `a` -/
theorem interRef_of_subset (a b : Obj) (ha : OpOK a) (hb : OpOK b) (hnb : NotBothBodies a b) (hnb' : NotBothBodies b a)
    (hsub : ∀ x, ObjDen a x → ObjDen b x) (hne : ∃ x, ObjDen a x) :
    (∃ g, interRef a b = .ok (some g) ∧ ∀ x, ObjDen g x ↔ ObjDen a x) ∧
    (∃ g, interRef b a = .ok (some g) ∧ ∀ x, ObjDen g x ↔ ObjDen a x) := by
  obtain ⟨g, hg, _, hd⟩ := (interRef_exactOK a b ha hb hnb).of_subset hsub hne
  obtain ⟨g', hg', _, hd'⟩ := (interRef_exactOK b a hb ha hnb').swap.of_subset hsub hne
  exact ⟨⟨g, hg, hd⟩, ⟨g', hg', hd'⟩⟩

/-- symmetry on the denoted sets -/
theorem interRef_symm (a b : Obj) (ha : OpOK a) (hb : OpOK b) (hnb : NotBothBodies a b) (hnb' : NotBothBodies b a) :
    ∃ o1 o2, interRef a b = .ok o1 ∧ interRef b a = .ok o2 ∧ ∀ x, denOptB o1 x ↔ denOptB o2 x := by
  obtain ⟨o1, h1, _, d1⟩ := interRef_exactOK a b ha hb hnb
  obtain ⟨o2, h2, _, d2⟩ := interRef_exactOK b a hb ha hnb'
  exact ⟨o1, o2, h1, h2, fun x => by rw [d1 x, d2 x, and_comm]⟩

#print axioms interRef_assoc
end G3D
