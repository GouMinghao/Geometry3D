import G3D.Extracted.Kforms
import G3D.Model.Flat
import G3D.Proofs.Vec
/-! # kforms, constructor pins: the zero-direction test of `Line.__init__`  (C17, C19)
    `G3D.Extracted.impl_*` are regenerated on every run (tools/extract_kforms.py, engine tools/kernels_engine.py): the REAL code is run on
    symbolic numbers, every comparison against the tolerance is recorded (operands and shape) and answered from a scripted
    path.  Each kernel has its own `section`: when the walk of ONE kernel fails the generated file holds only the marker
    `impl_<kernel>_EXTRACTION_FAILED` for it and exactly the theorems of that section stop compiling. -/
namespace G3D.KTie.Kforms
open G3D V3 G3D.Extracted

section lineCtor
theorem lineCtor_tie (p v : V3) : impl_lineCtor_residual0 p v = v.x := by simp [impl_lineCtor_residual0]

theorem lineCtor_path : impl_lineCtor_path = [("abs(R) < eps", false)] := rfl
end lineCtor

section lineCtorReject
/-- the constructor's rejection test, read exactly, is `dv = 0`, the negation of the model's `Line.WF` -/
theorem lineCtorReject_iff (p v : V3) :
    (impl_lineCtorReject_residual0 p v = 0 ∧ impl_lineCtorReject_residual1 p v = 0 ∧ impl_lineCtorReject_residual2 p v = 0)
      ↔ ¬ (⟨p, v⟩ : Line).WF := by
  simp only [impl_lineCtorReject_residual0, impl_lineCtorReject_residual1, impl_lineCtorReject_residual2, Line.WF,
    ne_eq, not_not, sub_zero]
  constructor
  · rintro ⟨h1, h2, h3⟩; apply V3.ext' <;> simp [zero, h1, h2, h3]
  · rintro rfl; simp [zero]

theorem lineCtorReject_path :
    impl_lineCtorReject_path = [("abs(R) < eps", true), ("abs(R) < eps", true), ("abs(R) < eps", true)] := rfl
end lineCtorReject

section combined
theorem lineCtor_paths :
    impl_lineCtor_path = [("abs(R) < eps", false)] ∧
    impl_lineCtorReject_path = [("abs(R) < eps", true), ("abs(R) < eps", true), ("abs(R) < eps", true)] :=
  ⟨lineCtor_path, lineCtorReject_path⟩
end combined

end G3D.KTie.Kforms
