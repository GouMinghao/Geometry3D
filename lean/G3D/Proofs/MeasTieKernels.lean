import G3D.Proofs.MeasTieBase
import G3D.Extracted.Kdist
import G3D.Extracted.Kvecr
import G3D.Proofs.KTieKdist
/-! # mmeas: the runtime functions of `G3D/Model/MeasRt.lean` ARE the terms that the symbolic-execution kernels extract
    The measure translator calls `Point.distance`, `Vector.length`, `Vector.normalized` and `distance(Point, Plane)` as
    runtime functions with hand-written defining equations.  The kernel translators `kdist` and `kvecr` (tools/extract_kdist.py,
    tools/extract_kvecr.py) RUN those real functions on symbolic numbers on every check; here the defining equations are
    proved equal to the extracted terms, so an edit of one of these callees breaks a theorem of this module
    (and the kernel's own tie).  Independent of `G3D/Extracted/Mmeas.lean`. -/
namespace G3D.MeasTie.Kernels
open G3D G3D.MeasRt G3D.KTie G3D.Extracted G3D.MeasTie Real

section pointDistance
/-- `Point.distance` -/
theorem pointDistance_kdist (p q : RVec) : pointDistance p q = impl_pointDistance p q := rfl
end pointDistance

section vector
/-- `Vector.length` -/
theorem vLength_kvecr (a : RVec) : vLength a = impl_length a := by
  simp only [vLength, impl_length, sum0]; rfl

/-- `Vector.normalized` -/
theorem vNormalized_kvecr (a : RVec) : vNormalized a = impl_normalized a := by
  simp only [vNormalized, vLength, impl_normalized, sum0]
  apply RVec.ext' <;> simp only [RVec.smul, RVec.normSq] <;> ring
end vector

section distPointPlane
/-- `distance(Point, Plane)` on a plane built from the normal `n ≠ 0` (which stores `n/|n|`): the runtime's closed form is the
    value of the walked code path (auxiliary line, intersection with the plane, `distance(a, foot)`) -/
theorem distPointPlane_kdist (x p n : RVec) (h : n ≠ RVec.zero) :
    distPointPlane x ⟨p, vNormalized n⟩ = impl_distPointPlane x p n := by
  rw [distPointPlane_unit x p n h, Kdist.distPointPlane_closed x p n h]

/-- … hence the square root of the model's `pyramidHeightSqViaDistance` (= `distSqPointPlane apex plane`) -/
theorem distPointPlane_model_sq (f : Polygon) (apex : V3) (hn : f.plane.n ≠ V3.zero) :
    ∃ d2 : ℚ, pyramidHeightSqViaDistance f apex = .ok d2 ∧
      distPointPlane apex.toR (planeToM f.plane) = √((d2 : ℚ) : ℝ) := by
  obtain ⟨d2, h1, h2⟩ := Kdist.distPointPlane_tie apex f.plane hn
  refine ⟨d2, h1, ?_⟩
  simp only [planeToM]
  rw [distPointPlane_kdist _ _ _ (toR_nonzero hn), h2]
end distPointPlane

#print axioms pointDistance_kdist
#print axioms vLength_kvecr
#print axioms vNormalized_kvecr
#print axioms distPointPlane_kdist
#print axioms distPointPlane_model_sq
end G3D.MeasTie.Kernels
