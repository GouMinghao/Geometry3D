import G3D.Proofs.K3
import G3D.Proofs.CtorQueries
import G3D.Proofs.MovePolyhedron
import G3D.Proofs.CtorExample

/-! # Bridge: the body returned by `ConvexPolyhedron(...)` meets the hypotheses of the exactness theorems (K3)

    * `Polyhedron.mk?_edges_exact`: for every successful constructor call on `Valid` input polygons the stored edge
      list consists of well-formed Segments, each of them an edge of a stored face (`EdgesReal`), and every edge of
      every stored face is listed (`EdgesComplete`).
    * `Polyhedron.mk?_reoriented_exactHyp`: the constructor applied to the faces of a `Valid`, `FaceLocal` reference
      body (any order / starting vertex / orientation) returns a body satisfying `Polyhedron.ExactHyp`.
    * `Polyhedron.moved_exactHyp`: so does the body left behind by `move`. -/
namespace G3D
open V3


/-- every stored edge is `Segment(p_i, p_{i+1})` of some polygon of the list, and is well-formed -/
theorem Bridge.edgesOf_real (fs : List Polygon) (hd : ∀ f ∈ fs, ∀ e ∈ closedPairs f.pts, e.1 ≠ e.2)
    (s : Seg) (hs : s ∈ edgesOf fs []) :
    s.WF ∧ ∃ f ∈ fs, ∃ e ∈ closedPairs f.pts, s.a = e.1 ∧ s.b = e.2 := by
  rcases edgesOf_mem fs [] s hs with h | ⟨f, hf, e, he, rfl⟩
  · cases h
  · exact ⟨Seg.mk'_WF (hd f hf e he), f, hf, e, he, rfl, rfl⟩

/-- every edge of every polygon of the list is stored, in one of the two directions -/
theorem Bridge.edgesOf_complete (fs : List Polygon) (f : Polygon) (hf : f ∈ fs) (e : V3 × V3)
    (he : e ∈ closedPairs f.pts) :
    ∃ s ∈ edgesOf fs [], (s.a = e.1 ∧ s.b = e.2) ∨ (s.a = e.2 ∧ s.b = e.1) := by
  obtain ⟨x, hx, hxs⟩ := edgesOf_covers fs [] f hf e he
  refine ⟨x, hx, ?_⟩
  rcases (Seg.same_iff x (Seg.mk' e.1 e.2)).mp hxs with h | h
  · exact Or.inl h
  · exact Or.inr ⟨h.2, h.1⟩

/-- the same two facts for a second face list with the same undirected edges -/
theorem Bridge.edgesOf_exact_of_sameUEdges (fs gs : List Polygon)
    (hd : ∀ f ∈ fs, ∀ e ∈ closedPairs f.pts, e.1 ≠ e.2) (hU : SameUEdges fs gs) :
    (∀ s ∈ edgesOf fs [], s.WF) ∧
    (∀ s ∈ edgesOf fs [], ∃ g ∈ gs, ∃ e ∈ closedPairs g.pts, (s.a = e.1 ∧ s.b = e.2) ∨ (s.a = e.2 ∧ s.b = e.1)) ∧
    (∀ g ∈ gs, ∀ e ∈ closedPairs g.pts, ∃ s ∈ edgesOf fs [], (s.a = e.1 ∧ s.b = e.2) ∨ (s.a = e.2 ∧ s.b = e.1)) := by
  refine ⟨fun s hs => (Bridge.edgesOf_real fs hd s hs).1, ?_, ?_⟩
  · intro s hs
    obtain ⟨_, f, hf, e, he, ha, hb⟩ := Bridge.edgesOf_real fs hd s hs
    obtain ⟨g, hg, hge⟩ := hU.1 f hf e he
    rcases hge with hge | hge
    · exact ⟨g, hg, e, hge, Or.inl ⟨ha, hb⟩⟩
    · exact ⟨g, hg, (e.2, e.1), hge, Or.inr ⟨ha, hb⟩⟩
  · intro g hg e he
    obtain ⟨f, hf, hfe⟩ := hU.2 g hg e he
    rcases hfe with hfe | hfe
    · exact Bridge.edgesOf_complete fs f hf e hfe
    · obtain ⟨s, hs, h⟩ := Bridge.edgesOf_complete fs f hf (e.2, e.1) hfe
      exact ⟨s, hs, h.symm⟩


theorem Bridge.sameUEdges_flip (c : V3) (input : List Polygon) (hv : ∀ g ∈ input, g.Valid) :
    SameUEdges input (input.map (flipOf c)) := by
  constructor
  · intro f hf e he
    exact ⟨flipOf c f, List.mem_map.mpr ⟨f, hf, rfl⟩, (flipOf_edges c f (hv f hf)).2 e he⟩
  · intro g' hg' e he
    obtain ⟨g, hg, rfl⟩ := List.mem_map.mp hg'
    exact ⟨g, hg, (flipOf_edges c g (hv g hg)).1 e he⟩


/-- **the stored edges are exact.**  For EVERY successful `ConvexPolyhedron(input)` on `Valid` polygons: the stored
    edges are well-formed Segments, each is an edge of a stored face, and every edge of every stored face is stored
    (in one direction).  Validity of the input polygons is used for `-polygon` (a flipped face is the reversed cycle
    only when the angular sort reproduces the cycle, i.e. for a strictly convex cycle). -/
theorem Polyhedron.mk?_edges_exact (input : List Polygon) (hv : ∀ g ∈ input, g.Valid) (B : Polyhedron)
    (h : Polyhedron.mk? input = .ok B) :
    (∀ s ∈ B.edges, s.WF) ∧ B.EdgesReal ∧ B.EdgesComplete := by
  obtain ⟨_, hE, hd, _, hF, _⟩ := Polyhedron.mk?_eq input B h
  have hU := Bridge.sameUEdges_flip B.center input hv
  obtain ⟨h1, h2, h3⟩ := Bridge.edgesOf_exact_of_sameUEdges input (input.map (flipOf B.center)) hd hU
  unfold Polyhedron.EdgesReal Polyhedron.EdgesComplete
  rw [hE, hF]
  exact ⟨h1, h2, h3⟩
#print axioms Polyhedron.mk?_edges_exact

/-- the same for a body that stores a face list and the edge list computed from it (receiver of `move`, judged
    bodies): no flip is involved, distinct consecutive vertices suffice -/
theorem Bridge.edges_exact_of_eq (B : Polyhedron) (hE : B.edges = edgesOf B.faces [])
    (hd : ∀ f ∈ B.faces, ∀ e ∈ closedPairs f.pts, e.1 ≠ e.2) :
    (∀ s ∈ B.edges, s.WF) ∧ B.EdgesReal ∧ B.EdgesComplete := by
  unfold Polyhedron.EdgesReal Polyhedron.EdgesComplete
  rw [hE]
  exact Bridge.edgesOf_exact_of_sameUEdges B.faces B.faces hd (sameUEdges_of_perm (List.Perm.refl _))

/-! ### `FaceLocal` is invariant under outward copies and permutation of the faces -/

theorem Bridge.faceLocal_of_outwardCopy (fs hs : List Polygon)
    (h1 : ∀ h ∈ hs, ∃ f ∈ fs, OutwardCopy f h) (h2 : ∀ f ∈ fs, ∃ h ∈ hs, OutwardCopy f h)
    (hloc : ∀ f ∈ fs, ∀ e ∈ closedPairs f.pts,
      ∃ g ∈ fs, g.side e.1 = 0 ∧ g.side e.2 = 0 ∧ ∃ v ∈ f.pts, g.side v < 0) :
    ∀ f' ∈ hs, ∀ e ∈ closedPairs f'.pts,
      ∃ g' ∈ hs, g'.side e.1 = 0 ∧ g'.side e.2 = 0 ∧ ∃ v ∈ f'.pts, g'.side v < 0 := by
  intro f' hf' e he
  obtain ⟨f, hf, hoc⟩ := h1 f' hf'
  obtain ⟨g, hg, ha, hb, v, hvf, hvs⟩ := hloc f hf e (hoc.closedPairs_perm.mem_iff.mp he)
  obtain ⟨g', hg', hoc'⟩ := h2 g hg
  obtain ⟨k, hk, _, hside⟩ := hoc'.samePlane
  exact ⟨g', hg', by rw [hside, ha, mul_zero], by rw [hside, hb, mul_zero], v, (hoc.mem_iff v).mpr hvf,
    (hoc'.samePlane.side_neg_iff v).mpr hvs⟩


/-- **bridge, any successful call.**  `input` = the faces of the `Valid`, `FaceLocal` body `B0` in any order, with any
    starting vertex and any orientation.  Every body the constructor returns on `input` satisfies the hypotheses of
    the exactness theorems. -/
theorem Polyhedron.mk?_reoriented_exactHyp_of_ok (B0 : Polyhedron) (hV : B0.Valid) (hloc : B0.FaceLocal)
    (F input : List Polygon) (hperm : List.Perm F B0.faces) (hrel : List.Forall₂ Reoriented F input)
    (B : Polyhedron) (h : Polyhedron.mk? input = .ok B) : B.Valid ∧ B.ExactHyp := by
  obtain ⟨hBV, _, _, hcop, _⟩ := Polyhedron.mk?_reoriented_queries B0 hV F input hperm hrel B h
  have hvin : ∀ g ∈ input, g.Valid := fun g hg => let ⟨_, _, hr⟩ := Forall₂.exists_left hrel g hg; hr.valid
  obtain ⟨e1, e2, e3⟩ := Polyhedron.mk?_edges_exact input hvin B h
  have hl : B.FaceLocal := by
    apply Bridge.faceLocal_of_outwardCopy B0.faces B.faces
    · intro h' hh'
      obtain ⟨f, hf, hoc⟩ := Forall₂.exists_left hcop h' hh'
      exact ⟨f, hperm.mem_iff.mp hf, hoc⟩
    · intro f hf
      exact Forall₂.exists_right hcop f (hperm.mem_iff.mpr hf)
    · exact hloc
  exact ⟨hBV, hBV.proper hl, e1, e2, e3⟩
#print axioms Polyhedron.mk?_reoriented_exactHyp_of_ok

/-- **bridge, in the situation of `Polyhedron.mk?_reoriented`** (Euler's formula for `B0` assumed): the constructor
    succeeds and the result satisfies `Polyhedron.ExactHyp` -/
theorem Polyhedron.mk?_reoriented_exactHyp (B0 : Polyhedron) (hV : B0.Valid) (hloc : B0.FaceLocal)
    (F input : List Polygon) (hperm : List.Perm F B0.faces) (hrel : List.Forall₂ Reoriented F input)
    (hEuler : ((collectVerts B0.faces).length : Int) - (edgesOf B0.faces []).length + B0.faces.length = 2) :
    ∃ B, Polyhedron.mk? input = .ok B ∧ B.Valid ∧ B.ExactHyp := by
  obtain ⟨B, hB, _⟩ := Polyhedron.mk?_reoriented B0 hV F input hperm hrel hEuler
  exact ⟨B, hB, Polyhedron.mk?_reoriented_exactHyp_of_ok B0 hV hloc F input hperm hrel B hB⟩
#print axioms Polyhedron.mk?_reoriented_exactHyp

/-- consequence: the five flat × ConvexPolyhedron handlers are exact on every constructed body -/
theorem Polyhedron.mk?_reoriented_flat_exact (B0 : Polyhedron) (hV : B0.Valid) (hloc : B0.FaceLocal)
    (F input : List Polygon) (hperm : List.Perm F B0.faces) (hrel : List.Forall₂ Reoriented F input)
    (B : Polyhedron) (h : Polyhedron.mk? input = .ok B) :
    (∀ p : V3, ExactW (interPointPolyhedron p B) (· = p) (InHull B.verts)) ∧
    (∀ l : Line, l.WF → ExactW (interLinePolyhedron l B) l.den (InHull B.verts)) ∧
    (∀ s : Seg, s.WF → ExactW (interSegPolyhedron s B) s.den (InHull B.verts)) ∧
    (∀ hl : HalfLine, hl.WF → ExactW (interPolyhedronHalfLine B hl) hl.den (InHull B.verts)) ∧
    (∀ a : Plane, a.WF → ExactW (interPlanePolyhedron a B) a.den (InHull B.verts)) :=
  flat_polyhedron_exact_hull B (Polyhedron.mk?_reoriented_exactHyp_of_ok B0 hV hloc F input hperm hrel B h).2


/-- the body `move` leaves behind (and returns) satisfies the hypotheses again -/
theorem Polyhedron.moved_exactHyp (B : Polyhedron) (hV : B.Valid) (hloc : B.FaceLocal) (v : V3) :
    (B.moved v).ExactHyp := by
  obtain ⟨hMV, _⟩ := B.moved_valid hV v
  have hfacts : ∀ f ∈ B.faces, _ := fun f hf => moved_face f (hV.faces_valid f hf) (hV.center_in_plane f hf) v
  have hpts : ∀ f ∈ B.faces, ((rebuild f).translate v).pts = f.pts.map (fun p => add p v) :=
    fun f hf => (hfacts f hf).2.2.2.1
  have hE : (B.moved v).edges = edgesOf (B.moved v).faces [] := by
    show (edgesOf B.faces []).map (segT v) = edgesOf (B.faces.map (fun f => (rebuild f).translate v)) []
    exact (edgesOf_map v _ B.faces hpts).symm
  obtain ⟨e1, e2, e3⟩ := Bridge.edges_exact_of_eq (B.moved v) hE
    (fun f hf => (hMV.faces_valid f hf).edge_ne)
  have hl : (B.moved v).FaceLocal := by
    intro f' hf' e he
    obtain ⟨f, hf, rfl⟩ := List.mem_map.mp hf'
    rw [hpts f hf, closedPairs_map] at he
    obtain ⟨e0, he0, rfl⟩ := List.mem_map.mp he
    obtain ⟨g, hg, ha, hb, w, hwf, hws⟩ := hloc f hf e0 he0
    obtain ⟨_, _, _, _, _, t, ht, _, hside, _⟩ := hfacts g hg
    refine ⟨(rebuild g).translate v, List.mem_map.mpr ⟨g, hg, rfl⟩, ?_, ?_, add w v, ?_, ?_⟩
    · show ((rebuild g).translate v).side (add e0.1 v) = 0
      rw [hside, ha, mul_zero]
    · show ((rebuild g).translate v).side (add e0.2 v) = 0
      rw [hside, hb, mul_zero]
    · rw [hpts f hf]; exact List.mem_map.mpr ⟨w, hwf, rfl⟩
    · rw [hside]; exact mul_neg_of_pos_of_neg ht hws
  exact ⟨hMV.proper hl, e1, e2, e3⟩
#print axioms Polyhedron.moved_exactHyp

/-- any successful `move` of a `Valid`, `FaceLocal` body: receiver-after and returned body satisfy `ExactHyp` -/
theorem Polyhedron.move_ok_exactHyp (B : Polyhedron) (hV : B.Valid) (hloc : B.FaceLocal) (v : V3)
    (B' R : Polyhedron) (h : B.move v = .ok (B', R)) : B'.ExactHyp ∧ R.ExactHyp := by
  obtain ⟨hR, hB', _⟩ := Polyhedron.move_ok_valid B hV v B' R h
  rw [hR, hB']
  exact ⟨B.moved_exactHyp hV hloc v, B.moved_exactHyp hV hloc v⟩

end G3D

/-! ### a concrete instance: the unit cube, faces listed backwards and every face turned inside out -/
namespace G3D
open V3

/-- `-f` (or `f` if that raised) -/
def Bridge.negOf (f : Polygon) : Polygon := match f.neg? with | .ok q => q | .error _ => f

theorem Bridge.reoriented_negOf (f : Polygon) (hf : f.Valid) : Reoriented f (Bridge.negOf f) := by
  obtain ⟨Q, _, _, _, hQ, _⟩ := Polygon.neg?_of_valid f hf
  have : Bridge.negOf f = Q := by unfold Bridge.negOf; rw [hQ]
  rw [this]
  exact Reoriented.of_neg f Q hf hQ

/-- the six faces of the unit cube in reverse order, every one replaced by its negative (normals pointing inwards,
    cycles reversed) -/
def Bridge.cubeInput : List Polygon := unitCube.faces.reverse.map Bridge.negOf

theorem unitCube_faceLocal : unitCube.FaceLocal := unitCube.faceLocal_of_faceLocalB unitCube_validB.2.2

/-- the hypotheses of `Polyhedron.mk?_reoriented_exactHyp` hold for this input -/
theorem Bridge.cubeInput_hyp :
    List.Perm unitCube.faces.reverse unitCube.faces ∧
    List.Forall₂ Reoriented unitCube.faces.reverse Bridge.cubeInput :=
  ⟨List.reverse_perm _, Forall₂.map_self Bridge.negOf _ (fun f hf =>
    Bridge.reoriented_negOf f (unitCube_valid.faces_valid f (List.mem_reverse.mp hf)))⟩

/-- … so the constructor accepts it and the result satisfies `ExactHyp` (by the theorem) -/
example : ∃ B, Polyhedron.mk? Bridge.cubeInput = .ok B ∧ B.Valid ∧ B.ExactHyp :=
  Polyhedron.mk?_reoriented_exactHyp unitCube unitCube_valid unitCube_faceLocal _ _
    Bridge.cubeInput_hyp.1 Bridge.cubeInput_hyp.2 unitCube_euler

/-- … and the same by evaluation: the constructor returns a body with 12 edges on which the Bool judge of `ExactHyp`
    says yes, none of the stored faces being the input face (all six are flipped back) -/
example : (match Polyhedron.mk? Bridge.cubeInput with
    | .ok B => B.exactHypB && B.edges.length == 12 && B.faces.all (fun f => !Bridge.cubeInput.contains f)
    | .error _ => false) = true := by decide +kernel

/-- the moved unit cube, by the theorem and by evaluation -/
example (v : V3) : (unitCube.moved v).ExactHyp := unitCube.moved_exactHyp unitCube_valid unitCube_faceLocal v
example : (unitCube.moved ⟨1/2, -3, 7/5⟩).exactHypB = true := by decide +kernel
end G3D
