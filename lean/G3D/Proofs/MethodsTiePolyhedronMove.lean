import G3D.Extracted.Mpolyhedron
import G3D.Proofs.MethodsTiePolyhedronShared
import G3D.Proofs.MethodsTiePolyhedronHelpers
/-! # Tie, group `mpolyhedron`, role MOVE (C07; `*_move_reject` C15): `move` = `Polyhedron.move`, unconditional.
    Imports `MethodsTiePolyhedronHelpers` (`move` calls the three helper methods); the final `ConvexPolyhedron(..)` is the model's constructor, so `MethodsTiePolyhedronCtor` is NOT needed.  Conventions, trusted readings and the deviations found: `G3D.Proofs.MethodsTie`, header of `G3D.Model.PyRtM`. -/
set_option linter.style.nameCheck false
namespace G3D.Tie
open V3 PyRt Extracted

theorem m_ConvexPolyhedron_move_eq (B : Polyhedron) (v : V3) :
    m_ConvexPolyhedron_move (Self.ofPolyhedron B) (.vec v) =
      (fun r : Polyhedron × Polyhedron => (Self.ofPolyhedron r.1, Val.obj (.polyhedron r.2))) <$> liftM (B.move v) := by
  unfold m_ConvexPolyhedron_move
  simp only [Self.ofPolyhedron, pyrt, pyFld_some, List.map_map, decide_true, if_true]
  rw [show pyListLit [] = .ok ((fun l : List Polygon => Val.seq (l.map Obj.polygon)) []) from rfl]
  simp only [pyrt]
  rw [forIn_repr (Val.obj ∘ Obj.polygon) (fun l : List Polygon => Val.seq (l.map Obj.polygon)) B.faces _
    (fun f acc => do let Q ← liftC (f.move v).2; pure (ForInStep.yield (acc ++ [Q])))]
  rotate_left
  · intro f _ acc
    cases hq : (f.move v).2 <;> simp [pyrt, hq, liftC, ForInStep.map']
  rw [forIn_append_mapM, ← liftC_mapM]
  unfold Polyhedron.move
  cases hfs : B.faces.mapM (fun f => (f.move v).2) with
  | error e => rfl
  | ok fs =>
    simp only [liftC, pyrt, List.nil_append]
    simp only [List.map_map]
    conv in forIn _ _ _ => arg 2; change (fun st : List V3 × List Seg => setVE (moveSelf B fs) st.1 st.2) ([], [])
    rw [forIn_repr (Val.obj ∘ Obj.polygon) (fun st : List V3 × List Seg => setVE (moveSelf B fs) st.1 st.2) fs _ collectStep]
    rotate_left
    · intro f _ st
      exact collect_body_eq _ f st.1 st.2
    rw [collect_forIn]
    simp only [liftC2, pyrt]
    cases collectEdges fs [] with
    | error e => rfl
    | ok es =>
      simp only [liftC, pyrt]
      rw [m_ConvexPolyhedron__get_center_point_eq _ (collectVerts fs) rfl]
      by_cases hvz : collectVerts fs = []
      · simp [hvz, liftM]
      have hlen0 : ¬ (collectVerts fs).length = 0 := by simpa using hvz
      simp only [hvz, if_false, pyrt, setVE, moveSelf, pyFld_some, List.length_map, Int.sub_zero, Int.toNat_natCast, hlen0]
      conv in forIn _ _ _ => arg 2; change moveRepr fs (collectVerts fs) es (meanV (collectVerts fs)) []
      rw [forIn_repr_idx0 (moveRepr fs (collectVerts fs) es (meanV (collectVerts fs))) (fun _ _ => True) _
        (fun f d => do let r ← liftM (moveFace (meanV (collectVerts fs)) f); pure (ForInStep.yield (d ++ [r]))) fs [] trivial]
      rotate_left
      · -- one round: a face that would have to be flipped raises (item assignment to a tuple), otherwise its pyramid is added
        intro k f hf d _
        generalize meanV (collectVerts fs) = c
        have hidx : pyIndexM (Val.seq (fs.map Obj.polygon)) (.int (k : Int)) = .ok (.obj (.polygon f)) :=
          pyIndexM_seq_nat _ k _ (by simp [hf])
        simp only [moveRepr, pyrt, hidx, Int.cast_zero]
        by_cases hflip : dot (sub f.plane.p c) f.plane.n < 0
        · simp only [hflip, decide_true, if_true, moveFace]
          cases hneg : f.neg? <;> simp [liftC, liftM]
        · simp only [hflip, decide_false, if_false, Bool.false_eq_true, moveFace]
          by_cases hc : f.plane.contains c = true
          · simp [hc, liftM]
          · simp [hc, pySetAddM, liftM, ForInStep.map', moveRepr, flatPyr_append, ptObj]
      · intro k f hf d d' _ _
        trivial
      rw [forIn_append_mapM, ← liftM_mapM]
      cases hpy : fs.mapM (moveFace (meanV (collectVerts fs))) with
      | error e => cases e <;> rfl
      | ok pyr =>
        simp only [liftM, pyrt, List.nil_append]
        rw [m_ConvexPolyhedron__check_normal_eq _ fs (meanV (collectVerts fs)) rfl rfl]
        rw [m_ConvexPolyhedron__euler_check_eq _ (fs.map Obj.polygon) ((collectVerts fs).map ptObj) (es.map sgObj) rfl rfl rfl]
        simp only [← all_outward, List.length_map, pyrt, pyNot, Val.truthy]
        by_cases hall : fs.all (outward (meanV (collectVerts fs))) = true
        · by_cases he : ((collectVerts fs).length : Int) - es.length + fs.length = 2
          · simp only [hall, he, moveRepr, pyrt, pyConvexPolyhedron_polygon]
            cases Polyhedron.mk? fs <;> simp [liftC]
          · simp [hall, he]
        · simp [hall]

/-- `move` rejects a non-Vector argument (C15) -/
theorem m_ConvexPolyhedron_move_reject (self : Self) (o : Obj) : m_ConvexPolyhedron_move self (.obj o) = .error .notImpl := by
  unfold m_ConvexPolyhedron_move; simp [pyrt]

end G3D.Tie
