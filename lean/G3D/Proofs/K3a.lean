import G3D.Proofs.K5
import G3D.Proofs.BodySoundAll

/-! # Kernel K3, part a: completeness (hence exactness) of Point / Line × ConvexPolyhedron

    * `Polyhedron.Proper` : the hypothesis bundle (`ValidCore` + `FaceLocal`; follows from `ValidProper`);
      `Polyhedron.HullCore` : the weaker bundle (`ValidCore` + `contains ⊆ hull`) that also every `Valid` body
      (coplanar neighbouring faces allowed) satisfies
    * `Polyhedron.exists_face_along`, `Polyhedron.bounded` : boundedness (some face looks along every direction; every
      line meets the body in a bounded parameter set) — for `HullCore`
    * `Polyhedron.line_interval` : `l ∩ K` is a closed parameter interval whose ends are tight on faces — `HullCore`
    * `segmentFromPointList_exact` : `get_segment_from_point_list` on a collected list
    * `interPointPolyhedron_exact` (no hypothesis), `interLinePolyhedron_exact` (`Proper`),
      `interLinePolyhedron_exact_partial` (`Valid`, provided the early return is not taken) -/
namespace G3D
open V3

/-! ### 1. Point × ConvexPolyhedron -/
theorem interPointPolyhedron_exact (p : V3) (B : Polyhedron) :
    ExactW (interPointPolyhedron p B) (· = p) (BodyDen B) := by
  unfold interPointPolyhedron
  by_cases hc : B.contains p = true
  · rw [if_pos hc]
    refine ⟨_, rfl, trivial, fun x => ?_⟩
    simp only [denOptB, ObjDen, Geo.den]
    constructor
    · rintro rfl; exact ⟨rfl, hc⟩
    · exact fun h => h.1
  · rw [if_neg hc]
    exact (ExactPS.mk_none fun x (hx : x = p) h => hc (hx ▸ h)).toExactW

/-! ### the hypothesis bundle -/

/-- core validity (faces valid polygons with centre in plane, vertices listed and inside, closed surface) plus
    `FaceLocal` (across every edge of a face there is a face not coplanar with it) -/
structure Polyhedron.Proper (B : Polyhedron) : Prop where
  core : B.ValidCore
  faceLocal : B.FaceLocal

theorem Polyhedron.ValidProper.proper {B : Polyhedron} (hV : B.ValidProper) : B.Proper :=
  ⟨⟨hV.nonempty, hV.faces_valid, hV.center_in_plane, hV.pts_sub, hV.verts_inside, hV.closed⟩, hV.faceLocal⟩

theorem Polyhedron.Valid.proper {B : Polyhedron} (hV : B.Valid) (hloc : B.FaceLocal) : B.Proper :=
  ⟨⟨hV.nonempty, hV.faces_valid, hV.center_in_plane, hV.pts_sub, hV.verts_inside, hV.closed⟩, hloc⟩

theorem Polyhedron.Proper.hull {B : Polyhedron} (hP : B.Proper) (x : V3) (hx : B.contains x = true) :
    InHull B.verts x :=
  B.contains_subset_hull_of_faceLocal hP.core.nonempty hP.core.faces_valid hP.core.center_in_plane
    hP.core.pts_sub hP.core.closed hP.faceLocal x hx

theorem Polyhedron.Proper.contains_iff_hull {B : Polyhedron} (hP : B.Proper) (x : V3) :
    B.contains x = true ↔ InHull B.verts x :=
  ⟨hP.hull x, B.hull_subset_contains hP.core.verts_inside x⟩

theorem Polyhedron.Proper.face_sub {B : Polyhedron} (hP : B.Proper) (f : Polygon) (hf : f ∈ B.faces) (x : V3)
    (hx : InHull f.pts x) : B.contains x = true :=
  Polyhedron.face_sub hP.core.verts_inside (hP.core.pts_sub f hf) x hx

/-- body ∩ plane(face) ⊆ face -/
theorem Polyhedron.Proper.tight {B : Polyhedron} (hP : B.Proper) (y : V3) (hy : B.contains y = true)
    (f : Polygon) (hf : f ∈ B.faces) (ht : f.side y = 0) : InHull f.pts y :=
  (Polygon.contains_iff f (hP.core.faces_valid f hf) y).mp
    (B.face_of_tight hP.core.faces_valid hP.core.center_in_plane hP.faceLocal y hy f hf ht)

/-- a point of a face lies in its plane -/
theorem Polyhedron.Proper.side_of_face {B : Polyhedron} (hP : B.Proper) (f : Polygon) (hf : f ∈ B.faces) (x : V3)
    (hx : InHull f.pts x) : f.side x = 0 := by
  have h1 := Polygon.hull_in_plane f (hP.core.faces_valid f hf) x hx
  apply (f.side_zero_inPlane (hP.core.center_in_plane f hf) x).mpr
  simp only [G3D.inPlane, beq_iff_eq]
  exact h1

/-- body ∩ plane(face) = face -/
theorem Polyhedron.Proper.face_iff {B : Polyhedron} (hP : B.Proper) (f : Polygon) (hf : f ∈ B.faces) (x : V3) :
    InHull f.pts x ↔ (B.contains x = true ∧ f.side x = 0) :=
  ⟨fun h => ⟨hP.face_sub f hf x h, hP.side_of_face f hf x h⟩, fun h => hP.tight x h.1 f hf h.2⟩

/-- what boundedness needs: core validity and `contains ⊆ hull` (K5).  Holds for `Valid` bodies (coplanar
    neighbouring faces allowed) and for `Proper` bodies -/
structure Polyhedron.HullCore (B : Polyhedron) : Prop where
  core : B.ValidCore
  hull : ∀ x, B.contains x = true → InHull B.verts x

theorem Polyhedron.Proper.hullCore {B : Polyhedron} (hP : B.Proper) : B.HullCore := ⟨hP.core, hP.hull⟩

theorem Polyhedron.Valid.hullCore {B : Polyhedron} (hV : B.Valid) : B.HullCore :=
  ⟨⟨hV.nonempty, hV.faces_valid, hV.center_in_plane, hV.pts_sub, hV.verts_inside, hV.closed⟩,
    B.contains_subset_hull hV⟩

/-! ### boundedness -/

/-- the hull of finitely many points contains no ray -/
theorem hull_ray_absurd (pts : List V3) (o d : V3) (hd : d ≠ zero)
    (h : ∀ t : Rat, 0 ≤ t → InHull pts (pt o d t)) : False := by
  have h0 := h 0 (le_refl _)
  have hne : pts ≠ [] := fun e => InHull_nil _ (e ▸ h0)
  obtain ⟨v, _, hmax⟩ := exists_max_of_list (fun p => dot p d) pts hne
  have hN := normSq_pos hd
  have hall : ∀ p ∈ pts, dot (sub p v) d ≤ 0 := by
    intro p hp
    have := hmax p hp
    simp only [dot, sub] at this ⊢
    linarith
  have e0 := h0.halfspace v d hall
  rw [pt_at_zero] at e0
  set t := (dot v d - dot o d) / normSq d + 1 with ht
  have ht0 : 0 ≤ t := by
    have : 0 ≤ (dot v d - dot o d) / normSq d := by
      apply div_nonneg _ (le_of_lt hN)
      simp only [dot, sub] at e0 ⊢; linarith
    linarith
  have e1 := (h t ht0).halfspace v d hall
  have e2 : dot (sub (pt o d t) v) d = dot o d - dot v d + t * normSq d := by
    simp only [pt, dot, sub, add, smul, normSq]; ring
  have e3 : t * normSq d = dot v d - dot o d + normSq d := by
    rw [ht]; field_simp
  rw [e2, e3] at e1
  linarith

/-- **boundedness**: a valid closed convex polyhedron has a face looking along every direction -/
theorem Polyhedron.exists_face_along (B : Polyhedron) (hH : B.HullCore) (d : V3) (hd : d ≠ zero) :
    ∃ f ∈ B.faces, 0 < dot f.plane.n d := by
  by_contra hcon
  push Not at hcon
  obtain ⟨f0, hf0⟩ := List.exists_mem_of_ne_nil _ hH.core.nonempty
  obtain ⟨p0, p1, p2, rest, hp, _, _⟩ := hH.core.faces_valid f0 hf0
  have hp0 : p0 ∈ B.verts := hH.core.pts_sub f0 hf0 p0 (by rw [hp]; simp)
  have hc0 := Polyhedron.contains_vert B hH.core.verts_inside p0 hp0
  apply hull_ray_absurd B.verts p0 d hd
  intro t ht
  apply hH.hull
  rw [B.contains_iff_side]
  intro f hf
  rw [f.side_pt]
  have h1 := (B.contains_iff_side p0).mp hc0 f hf
  have h2 := hcon f hf
  linarith [mul_nonpos_of_nonneg_of_nonpos ht h2]

theorem Polyhedron.exists_face_against (B : Polyhedron) (hH : B.HullCore) (d : V3) (hd : d ≠ zero) :
    ∃ f ∈ B.faces, dot f.plane.n d < 0 := by
  obtain ⟨f, hf, h⟩ := B.exists_face_along hH (neg d) (K3.neg_ne_zero hd)
  refine ⟨f, hf, ?_⟩
  have : dot f.plane.n (neg d) = - dot f.plane.n d := by simp only [dot, neg]; ring
  rw [this] at h; linarith

/-- **`Polyhedron.bounded`**: every line meets the body in a bounded parameter set -/
theorem Polyhedron.bounded (B : Polyhedron) (hH : B.HullCore) (o d : V3) (hd : d ≠ zero) :
    ∃ M : Rat, ∀ t, B.contains (pt o d t) = true → -M ≤ t ∧ t ≤ M := by
  obtain ⟨f, hf, hfd⟩ := B.exists_face_along hH d hd
  obtain ⟨g, hg, hgd⟩ := B.exists_face_against hH d hd
  refine ⟨max (|f.side o / dot f.plane.n d|) (|g.side o / dot g.plane.n d|), ?_⟩
  intro t ht
  have h1 := (B.contains_iff_side _).mp ht f hf
  have h2 := (B.contains_iff_side _).mp ht g hg
  rw [Polygon.side_pt] at h1 h2
  have a1 : t ≤ - (f.side o / dot f.plane.n d) := by
    rw [le_neg, div_le_iff₀ hfd]; linarith
  have a2 : - (g.side o / dot g.plane.n d) ≤ t := by
    rw [neg_le, le_div_iff_of_neg hgd]; linarith
  constructor
  · have := le_max_right (|f.side o / dot f.plane.n d|) (|g.side o / dot g.plane.n d|)
    have := le_abs_self (g.side o / dot g.plane.n d)
    linarith
  · have := le_max_left (|f.side o / dot f.plane.n d|) (|g.side o / dot g.plane.n d|)
    have := neg_le_abs (f.side o / dot f.plane.n d)
    linarith

/-- **`Polyhedron.line_interval`**: a line that meets the body meets it in a closed parameter interval; the lower
    end is tight on a face looking against the direction, the upper end on a face looking along it -/
theorem Polyhedron.line_interval (B : Polyhedron) (hH : B.HullCore) (o d : V3) (hd : d ≠ zero)
    (hne : ∃ t, B.contains (pt o d t) = true) :
    ∃ tlo thi : Rat, tlo ≤ thi ∧ (∀ t, B.contains (pt o d t) = true ↔ (tlo ≤ t ∧ t ≤ thi)) ∧
      (∃ f ∈ B.faces, f.side (pt o d tlo) = 0 ∧ dot f.plane.n d < 0) ∧
      (∃ f ∈ B.faces, f.side (pt o d thi) = 0 ∧ 0 < dot f.plane.n d) := by
  obtain ⟨t0, ht0⟩ := hne
  obtain ⟨fp, hfp, hfpd⟩ := B.exists_face_along hH d hd
  obtain ⟨fn, hfn, hfnd⟩ := B.exists_face_against hH d hd
  set C : List (Rat × Rat) := B.faces.map (fun f => (- f.side o, - dot f.plane.n d)) with hC
  have hfeas : ∀ t, Feas C t ↔ B.contains (pt o d t) = true := by
    intro t
    rw [B.contains_iff_side, hC, Feas_map]
    refine forall₂_congr (fun f _ => ?_)
    rw [f.side_pt]
    constructor <;> intro h <;> simp only at h ⊢ <;> linarith
  have hF0 : Feas C t0 := (hfeas t0).mpr ht0
  obtain ⟨thi, hthi, hmax, c1, hc1, hc1s, hc1t⟩ := lp_hi C t0 hF0
    ⟨_, List.mem_map.mpr ⟨fp, hfp, rfl⟩, by simp only; linarith⟩
  obtain ⟨tlo, htlo, hmin, c2, hc2, hc2s, hc2t⟩ := lp_lo C t0 hF0
    ⟨_, List.mem_map.mpr ⟨fn, hfn, rfl⟩, by simp only; linarith⟩
  obtain ⟨f1, hf1, rfl⟩ := List.mem_map.mp hc1
  obtain ⟨f2, hf2, rfl⟩ := List.mem_map.mp hc2
  simp only at hc1t hc2t hc1s hc2s
  refine ⟨tlo, thi, le_trans (hmin t0 hF0) (hmax t0 hF0), ?_,
    ⟨f2, hf2, by rw [f2.side_pt]; linarith, by linarith⟩, ⟨f1, hf1, by rw [f1.side_pt]; linarith, by linarith⟩⟩
  intro t
  rw [← hfeas]
  exact ⟨fun h => ⟨hmin t h, hmax t h⟩, fun h => Feas_convex C tlo thi t htlo hthi h.1 h.2⟩
#print axioms Polyhedron.bounded
#print axioms Polyhedron.line_interval


/-! ### `get_segment_from_point_list` on a duplicate-free list spanning `[P, Q]` -/
theorem Between.trans {P Q a b x : V3} (ha : Between P Q a) (hb : Between P Q b) (hx : Between a b x) : Between P Q x :=
  (InHull_pair P Q x).mp (InHull.between ((InHull_pair P Q a).mpr ha) ((InHull_pair P Q b).mpr hb) hx)

theorem segmentFromPointList_ok {p0 p1 : V3} {rest : List V3} (h01 : p0 ≠ p1)
    (hpar : ∀ p ∈ rest, V3.parallel (sub p p0) (sub p1 p0) = true) :
    ∃ s, segmentFromPointList (p0 :: p1 :: rest) = .ok s := by
  have hv0 : sub p1 p0 ≠ zero := fun h => h01 (sub_eq_zero_iff.mp h).symm
  unfold segmentFromPointList
  simp only
  set R : List Rat := 0 :: 1 :: rest.map (fun pi => dot (sub pi p0) (sub p1 p0) / normSq (sub p1 p0)) with hR
  rw [if_neg (by simpa using hpar), if_neg (fun h => hv0 (normSq_eq_zero.mp h.2)), if_neg]
  · exact ⟨_, rfl⟩
  · -- `0` and `1` are among the relative parameters, so the extreme ones differ
    intro h
    have h0 := (BS.foldl_sel min_choice le_refl le_trans min_le_left min_le_right R 0).2 0 List.mem_cons_self
    have h1 := (BS.foldl_sel (r := (· ≥ ·)) max_choice le_refl ge_trans le_max_left le_max_right R 0).2 1 (by simp [hR])
    rw [pt_inj hv0 h] at h0
    linarith

/-- `get_segment_from_point_list` applied to a duplicate-free list of at least two points of the segment `[P, Q]`
    that contains `P` and `Q` returns (a well-formed Segment denoting) `[P, Q]`: the returned segment lies in `[P, Q]`
    since its end points are among the points, and contains `[P, Q]` since it contains all the points -/
theorem segmentFromPointList_exact (ps : List V3) (P Q : V3) (hnd : ps.Nodup) (hlen : 2 ≤ ps.length)
    (hP : P ∈ ps) (hQ : Q ∈ ps) (hsub : ∀ p ∈ ps, Between P Q p) :
    ∃ s, segmentFromPointList ps = .ok s ∧ s.WF ∧ ∀ x, s.den x ↔ Between P Q x := by
  have hok : ∃ s, segmentFromPointList ps = .ok s := by
    match ps, hnd, hlen, hsub with
    | [], _, hlen, _ => simp at hlen
    | [_], _, hlen, _ => simp at hlen
    | p0 :: p1 :: rest, hnd, _, hsub =>
      refine segmentFromPointList_ok (fun h => (List.nodup_cons.mp hnd).1 (by simp [h])) (fun p hp => ?_)
      obtain ⟨u0, _, _, e0⟩ := hsub p0 (by simp)
      obtain ⟨u1, _, _, e1⟩ := hsub p1 (by simp)
      obtain ⟨u, _, _, e⟩ := hsub p (by simp [hp])
      rw [parallel_iff_cross, e0, e1, e]
      apply V3.ext' <;> simp only [cross, sub, add, smul, zero] <;> ring
  obtain ⟨s, hs⟩ := hok
  obtain ⟨hw, ha, hb, hall⟩ := segmentFromPointList_spec ps s hs
  exact ⟨s, hs, hw, fun x => ⟨(hsub _ ha).trans (hsub _ hb), (hall P hP).trans (hall Q hQ)⟩⟩
#print axioms segmentFromPointList_exact


/-! ### hits on faces -/

/-- a line through two distinct points of the plane of `f` lies in that plane -/
theorem K3.side_zero_of_two (f : Polygon) (o d : V3) {ta tb : Rat} (hne : ta ≠ tb)
    (ha : f.side (pt o d ta) = 0) (hb : f.side (pt o d tb) = 0) (t : Rat) : f.side (pt o d t) = 0 := by
  rw [f.side_pt] at ha hb ⊢
  have h1 : (ta - tb) * dot f.plane.n d = 0 := by linarith
  have h2 : dot f.plane.n d = 0 := (mul_eq_zero.mp h1).resolve_left (sub_ne_zero.mpr hne)
  rw [h2] at ha ⊢; linarith

theorem K3.line_in_face_plane {B : Polyhedron} (hP : B.Proper) {o d : V3} {X : V3 → Prop}
    (hX : ∀ x, X x → ∃ t, x = pt o d t) {f : Polygon} (hf : f ∈ B.faces) {s : Seg} (hsW : s.WF)
    (hden : ∀ y, s.den y ↔ X y ∧ InHull f.pts y) (t : Rat) : f.side (pt o d t) = 0 := by
  have ha := (hden s.a).mp s.a_mem_den
  have hb := (hden s.b).mp s.b_mem_den
  obtain ⟨ta, hta⟩ := hX _ ha.1
  obtain ⟨tb, htb⟩ := hX _ hb.1
  have sa := hP.side_of_face f hf _ ha.2
  have sb := hP.side_of_face f hf _ hb.2
  rw [hta] at sa; rw [htb] at sb
  exact K3.side_zero_of_two f o d (fun h => hsW.1 (by rw [hta, htb, h])) sa sb t

/-- **a boundary point tight on a transversal face is returned as a Point hit**: `r` is the (exact, flat) result
    of intersecting the face `f` with a subset `X` of the line; the point `pt o d t` of `X ∩ K` lies in the plane
    of `f`, which the line crosses transversally -/
theorem K3.face_point_hit (B : Polyhedron) (hP : B.Proper) (o d : V3) (X : V3 → Prop)
    (hX : ∀ x, X x → ∃ t, x = pt o d t) (f : Polygon) (hf : f ∈ B.faces) (r : ResB)
    (hr : ExactPS r X (InHull f.pts)) (t : Rat) (hXt : X (pt o d t)) (hK : B.contains (pt o d t) = true)
    (hs : f.side (pt o d t) = 0) (hslope : dot f.plane.n d ≠ 0) :
    r = .ok (some (.flat (.point (pt o d t)))) := by
  obtain ⟨ob, ho, hw, hden⟩ := hr
  have hin : InHull f.pts (pt o d t) := hP.tight _ hK f hf hs
  have hmem : denOptB ob (pt o d t) := (hden _).mpr ⟨hXt, hin⟩
  rcases ObjFlatWF_cases ob hw with rfl | ⟨q, rfl⟩ | ⟨s, rfl, hsW⟩
  · exact absurd hmem (by simp [denOptB])
  · have : pt o d t = q := hmem
    rw [ho, this]
  · exfalso
    have h0 := K3.line_in_face_plane hP hX hf hsW hden 0
    have h1 := K3.line_in_face_plane hP hX hf hsW hden 1
    rw [f.side_pt] at h0 h1
    exact hslope (by linarith)

/-! ### 2. Line × ConvexPolyhedron -/

theorem interLinePolyhedron_loop_many (l : Line) (p q : V3) (rest : List V3) :
    interLinePolyhedron.loop l [] (p :: q :: rest) =
      (segmentFromPointList (p :: q :: rest) >>= fun s => seg? s) := by
  rw [interLinePolyhedron.loop] <;> simp

/-- the generic branch of the Line handler: `acc` is the duplicate-free list of the Point hits on the faces, and every
    point of `l ∩ K` lying in the plane of a face crossed transversally is such a hit -/
theorem interLinePolyhedron_collect_exact (l : Line) (hl : l.WF) (B : Polyhedron) (hH : B.HullCore) (acc : List V3)
    (haccnd : acc.Nodup)
    (hmem : ∀ p, p ∈ acc ↔ ∃ f ∈ B.faces, interLinePolygon l f = .ok (some (.flat (.point p))))
    (hcov : ∀ t f, f ∈ B.faces → B.contains (pt l.sv l.dv t) = true → f.side (pt l.sv l.dv t) = 0 →
      dot f.plane.n l.dv ≠ 0 → ∃ g ∈ B.faces, interLinePolygon l g = .ok (some (.flat (.point (pt l.sv l.dv t))))) :
    ExactW (interLinePolyhedron.loop l [] acc) l.den (BodyDen B) := by
  have hsound : ∀ p ∈ acc, l.den p ∧ B.contains p = true := by
    intro p hp
    obtain ⟨f, hf, hfp⟩ := (hmem p).mp hp
    have := (interLinePolygon_exact l hl f (hH.core.faces_valid f hf)).toExactB.point_mem p hfp
    exact ⟨this.1, Polyhedron.face_sub hH.core.verts_inside (hH.core.pts_sub f hf) p this.2⟩
  by_cases hne : ∃ t, B.contains (pt l.sv l.dv t) = true
  · obtain ⟨tlo, thi, hle, hiff, ⟨f2, hf2, hs2, hd2⟩, ⟨f1, hf1, hs1, hd1⟩⟩ :=
      B.line_interval hH l.sv l.dv hl hne
    have hlo : pt l.sv l.dv tlo ∈ acc :=
      (hmem _).mpr (hcov tlo f2 hf2 ((hiff tlo).mpr ⟨le_refl _, hle⟩) hs2 (ne_of_lt hd2))
    have hhi : pt l.sv l.dv thi ∈ acc :=
      (hmem _).mpr (hcov thi f1 hf1 ((hiff thi).mpr ⟨hle, le_refl _⟩) hs1 (ne_of_gt hd1))
    have hcommon : ∀ x, (l.den x ∧ BodyDen B x) ↔ Between (pt l.sv l.dv tlo) (pt l.sv l.dv thi) x := by
      intro x
      rw [Between_pt hle]
      constructor
      · rintro ⟨⟨t, rfl⟩, h2⟩
        have := (hiff t).mp h2
        exact ⟨t, this.1, this.2, rfl⟩
      · rintro ⟨t, h1, h2, rfl⟩
        exact ⟨⟨t, rfl⟩, (hiff t).mpr ⟨h1, h2⟩⟩
    have hbetween : ∀ p ∈ acc, Between (pt l.sv l.dv tlo) (pt l.sv l.dv thi) p :=
      fun p hp => (hcommon p).mp (hsound p hp)
    match acc, hlo, hhi, haccnd, hbetween with
    | [], hlo, _, _, _ => cases hlo
    | [p], hlo, hhi, _, _ =>
      rw [interLinePolyhedron.loop]
      refine ⟨_, rfl, trivial, fun x => ?_⟩
      have e1 : pt l.sv l.dv tlo = p := by simpa using hlo
      have e2 : pt l.sv l.dv thi = p := by simpa using hhi
      rw [hcommon, e1, e2, Between_self]
      rfl
    | p :: q :: rest, hlo, hhi, hnd', hbet =>
      obtain ⟨s, hs, hsW, hsden⟩ := segmentFromPointList_exact (p :: q :: rest) _ _ hnd' (by simp) hlo hhi hbet
      rw [interLinePolyhedron_loop_many]
      simp only [hs, bind, Except.bind]
      refine ⟨_, rfl, hsW, fun x => ?_⟩
      rw [hcommon]
      exact hsden x
  · -- the line misses the body
    have : acc = [] := by
      apply List.eq_nil_iff_forall_not_mem.mpr
      intro p hp
      obtain ⟨⟨t, rfl⟩, h2⟩ := hsound p hp
      exact hne ⟨t, h2⟩
    rw [this, interLinePolyhedron.loop]
    exact (ExactPS.mk_none fun x ⟨t, ht⟩ h2 => hne ⟨t, by subst ht; exact h2⟩).toExactW

/-- **Line × ConvexPolyhedron is exact**: for a well-formed line and a `Proper` polyhedron (core validity and
    `FaceLocal`; in particular every `ValidProper` polyhedron) the handler returns `None`, a Point or a well-formed
    Segment denoting exactly `l ∩ K`, `K` the set of points passing the membership test -/
theorem interLinePolyhedron_exact (l : Line) (hl : l.WF) (B : Polyhedron) (hP : B.Proper) :
    ExactW (interLinePolyhedron l B) l.den (BodyDen B) := by
  have hface : ∀ f ∈ B.faces, ExactPS (interLinePolygon l f) l.den (InHull f.pts) :=
    fun f hf => interLinePolygon_exact l hl f (hP.core.faces_valid f hf)
  have hX : ∀ x, l.den x → ∃ t, x = pt l.sv l.dv t := fun x hx => hx
  unfold interLinePolyhedron
  rcases interLinePolyhedron_loop_cases l B hface with ⟨f, hf, s, hfs, hloop⟩ | ⟨acc, hloop, hnd, hmem'⟩
  · -- early return: the line lies in the plane of `f`
    obtain ⟨o, ho, hw, hden⟩ := hface f hf
    rw [hfs] at ho; cases ho
    have hsW : s.WF := hw
    rw [hloop]
    refine ⟨_, rfl, hsW, fun x => ?_⟩
    have hsden : ∀ y, s.den y ↔ l.den y ∧ InHull f.pts y := fun y => by
      simpa [denOptB, ObjDen, Geo.den] using hden y
    show s.den x ↔ _
    rw [hsden]
    constructor
    · rintro ⟨h1, h2⟩; exact ⟨h1, hP.face_sub f hf x h2⟩
    · rintro ⟨h1, h2⟩
      refine ⟨h1, ?_⟩
      obtain ⟨t, rfl⟩ := hX x h1
      exact hP.tight _ h2 f hf (K3.line_in_face_plane hP hX hf hsW hsden t)
  · rw [hloop]
    exact interLinePolyhedron_collect_exact l hl B hP.hullCore acc hnd hmem' (fun t f hf hK hs hsl =>
      ⟨f, hf, K3.face_point_hit B hP l.sv l.dv l.den hX f hf _ (hface f hf) t ⟨t, rfl⟩ hK hs hsl⟩)
#print axioms interLinePolyhedron_exact

/-- **partial variant for `Valid` bodies (coplanar neighbouring faces allowed)**: if no face yields a Segment (the
    early return of the handler is not taken) the result is exact.  With coplanar neighbours the early return can be
    a proper subset of `l ∩ K` (`splitCubeE_line_not_exact`). -/
theorem interLinePolyhedron_exact_partial (l : Line) (hl : l.WF) (B : Polyhedron) (hV : B.Valid)
    (hno : ∀ f ∈ B.faces, ∀ s, interLinePolygon l f ≠ .ok (some (.flat (.seg s)))) :
    ExactW (interLinePolyhedron l B) l.den (BodyDen B) := by
  have hface : ∀ f ∈ B.faces, ExactPS (interLinePolygon l f) l.den (InHull f.pts) :=
    fun f hf => interLinePolygon_exact l hl f (hV.faces_valid f hf)
  unfold interLinePolyhedron
  rcases interLinePolyhedron_loop_cases l B hface with ⟨f, hf, s, hfs, _⟩ | ⟨acc, hloop, hnd, hmem'⟩
  · exact absurd hfs (hno f hf s)
  · rw [hloop]
    refine interLinePolyhedron_collect_exact l hl B hV.hullCore acc hnd hmem' ?_
    · intro t f hf hK hs _
      obtain ⟨o, ho⟩ := hV.interior
      obtain ⟨g, hg, hgy⟩ := B.cover hV.faces_valid hV.center_in_plane hV.pts_sub hV.verts_inside hV.closed o ho
        _ hK f hf hs
      have hin : InHull g.pts (pt l.sv l.dv t) := (Polygon.contains_iff g (hV.faces_valid g hg) _).mp hgy
      obtain ⟨ob, hob, hw, hden⟩ := hface g hg
      have hm : denOptB ob (pt l.sv l.dv t) := (hden _).mpr ⟨⟨t, rfl⟩, hin⟩
      rcases ObjFlatWF_cases ob hw with rfl | ⟨q, rfl⟩ | ⟨s, rfl, _⟩
      · exact absurd hm (by simp [denOptB])
      · have : pt l.sv l.dv t = q := hm
        exact ⟨g, hg, by rw [hob, this]⟩
      · exact absurd hob (hno g hg s)
#print axioms interLinePolyhedron_exact_partial

end G3D
