import G3D.Proofs.BodySound

/-! # Soundness of `intersection`, all 49 cells in one statement (C12, third clause), and the structural
    part of `Polyhedron.Good` for constructed polyhedra. -/
namespace G3D
open V3

/-! ### what `ConvexPolyhedron(polygons)` guarantees structurally -/
theorem BS.mem_foldl_addSeg : ∀ (ss acc : List Seg) (x : Seg), x ∈ ss.foldl addSeg acc → x ∈ acc ∨ x ∈ ss := by
  intro ss
  induction ss with
  | nil => intro acc x h; exact Or.inl h
  | cons s ss ih =>
    intro acc x h
    rw [List.foldl_cons] at h
    rcases ih _ x h with h' | h'
    · rcases BS.mem_addSeg _ _ _ h' with h'' | rfl
      · exact Or.inl h''
      · exact Or.inr (by simp)
    · exact Or.inr (by simp [h'])

theorem BS.collectEdges_mem : ∀ (fs : List Polygon) (acc out : List Seg), collectEdges fs acc = .ok out →
    ∀ s ∈ out, s ∈ acc ∨ ∃ f ∈ fs, ∃ ss, f.segments? = .ok ss ∧ s ∈ ss := by
  intro fs
  induction fs with
  | nil => intro acc out h s hs; simp only [collectEdges] at h; cases h; exact Or.inl hs
  | cons f fs ih =>
    intro acc out h s hs
    rw [collectEdges] at h
    obtain ⟨ss, hss, h⟩ := Except.bind_ok h
    rcases ih _ out h s hs with h' | ⟨g, hg, ss', h1, h2⟩
    · rcases BS.mem_foldl_addSeg _ _ _ h' with h'' | h''
      · exact Or.inl h''
      · exact Or.inr ⟨f, by simp, ss, hss, h''⟩
    · exact Or.inr ⟨g, by simp [hg], ss', h1, h2⟩

theorem BS.orientFace_pts (c : V3) (f : Polygon) (pr : Polygon × (Polygon × V3)) (h : orientFace c f = .ok pr) :
    ∀ v ∈ pr.1.pts, v ∈ f.pts := by
  unfold orientFace at h
  simp only at h
  split at h
  · obtain ⟨f', hf', h⟩ := Except.bind_ok h
    split at h
    · cases h
    cases h
    unfold Polygon.neg? at hf'
    exact (Polygon.mk?_ok f.pts true f' hf').2.2.1
  · obtain ⟨f', hf', h⟩ := Except.bind_ok h
    cases hf'
    split at h
    · cases h
    cases h
    exact fun v hv => hv

/-- the structural fields of `Polyhedron.Good` hold for every successfully constructed polyhedron -/
theorem Polyhedron.mk?_structure (input : List Polygon) (B : Polyhedron) (h : Polyhedron.mk? input = .ok B) :
    (∀ f ∈ B.faces, ∀ v ∈ f.pts, v ∈ B.verts) ∧ (∀ s ∈ B.edges, s.WF) ∧
    (∀ s ∈ B.edges, s.a ∈ B.verts ∧ s.b ∈ B.verts) := by
  unfold Polyhedron.mk? at h
  obtain ⟨edges, he, h⟩ := Except.bind_ok h
  split at h
  · cases h
  obtain ⟨fp, hf, h⟩ := Except.bind_ok h
  simp only at h
  split at h
  · cases h
  split at h
  · cases h
  cases h
  have hedge : ∀ s ∈ edges, s.WF ∧ s.a ∈ collectVerts input ∧ s.b ∈ collectVerts input := by
    intro s hs
    rcases BS.collectEdges_mem input [] edges he s hs with h' | ⟨f, hfi, ss, hss, hm⟩
    · simp at h'
    · obtain ⟨hw, ha, hb⟩ := Polygon.segments?_mem f ss hss s hm
      exact ⟨hw, BS.collectVerts_mem input f hfi _ ha, BS.collectVerts_mem input f hfi _ hb⟩
  refine ⟨?_, fun s hs => (hedge s hs).1, fun s hs => (hedge s hs).2⟩
  intro f' hf' v hv'
  obtain ⟨pr, hpr, rfl⟩ := List.mem_map.mp hf'
  obtain ⟨f, hfi, hof⟩ := BS.mapM_mem _ input fp hf pr hpr
  exact BS.collectVerts_mem input f hfi v (BS.orientFace_pts _ f pr hof v hv')
#print axioms Polyhedron.mk?_structure

/-- for a constructed polyhedron, `Good` reduces to: Valid faces, vertices inside, face centres in the face planes -/
theorem Polyhedron.good_of_mk? (input : List Polygon) (B : Polyhedron) (h : Polyhedron.mk? input = .ok B)
    (hval : ∀ f ∈ B.faces, f.Valid) (hvi : B.VertsInside)
    (hc : ∀ f ∈ B.faces, f.plane.contains f.center = true) : B.Good :=
  let ⟨h1, h2, h3⟩ := Polyhedron.mk?_structure input B h
  ⟨hval, hvi, hc, h1, h2, h3⟩

/-! ### one statement for all cells -/
/-- denotation of an operand: flats as point sets, a polygon as the hull of its vertices, a polyhedron
    as its own membership test -/
def OpDen : Obj → V3 → Prop
  | .flat g => g.den
  | .polygon P => InHull P.pts
  | .polyhedron B => BodyDen B

/-- hypotheses on an operand -/
def OpWF : Obj → Prop
  | .flat g => g.WF
  | .polygon P => P.Valid
  | .polyhedron B => B.Good

theorem Sound.verts {r : ResB} {A B : V3 → Prop} (h : Sound r A B) (o : Obj) (ho : r = .ok (some o)) :
    ∀ v ∈ resVerts (some o), A v ∧ B v := (h _ ho).2

theorem interFlatPair_sound (x y : Geo) (hx : x.WF) (hy : y.WF) : Sound (interFlatPair x y) x.den y.den :=
  (ExactW_of_liftFlat (interFlat_exact x y hx hy)).sound

theorem interRef_polygon_flat (P : Polygon) (g : Geo) :
    interRef (.polygon P) (.flat g) = interRef (.flat g) (.polygon P) := by cases g <;> rfl

theorem interRef_polyhedron_flat (B : Polyhedron) (g : Geo) :
    interRef (.polyhedron B) (.flat g) = interRef (.flat g) (.polyhedron B) := by cases g <;> rfl

/-- **result ⊆ a ∩ b for the reference dispatcher, all 49 cells**: whenever `intersection(a, b)` returns an
    object, each of its vertices / end points lies in `a` and in `b`, and a returned Segment is well formed.
    Hypotheses: the operands are well-formed flats / Valid polygons / Good polyhedra. -/
theorem interRef_sound (a b : Obj) (ha : OpWF a) (hb : OpWF b) :
    Sound (interRef a b) (OpDen a) (OpDen b) := by
  have fp : ∀ g P, g.WF → P.Valid → Sound (interRef (.flat g) (.polygon P)) g.den (InHull P.pts) := by
    intro g P hg hP
    cases g with
    | point p => exact (interPointPolygon_exact p P hP).toExactW.sound
    | line l => exact (interLinePolygon_exact l hg P hP).toExactW.sound
    | plane pl => exact (interPlanePolygon_exactW pl hg P hP).sound
    | seg s => exact (interSegPolygon_exactW s hg P hP).sound
    | halfline h => exact (interPolygonHalfLine_exactW P hP h hg).sound
  have fb : ∀ g B, g.WF → B.Good → Sound (interRef (.flat g) (.polyhedron B)) g.den (BodyDen B) := by
    intro g B hg hB
    cases g with
    | point p => exact interPointPolyhedron_sound p B
    | line l => exact interLinePolyhedron_sound l hg B hB
    | plane pl => exact interPlanePolyhedron_sound pl hg B hB
    | seg s => exact interSegPolyhedron_sound s hg B hB
    | halfline h => exact interPolyhedronHalfLine_sound B hB h hg
  cases a with
  | flat x =>
    cases b with
    | flat y => exact interFlatPair_sound x y ha hb
    | polygon P => exact fp x P ha hb
    | polyhedron B => exact fb x B ha hb
  | polygon P =>
    cases b with
    | flat y => rw [interRef_polygon_flat]; exact (fp y P hb ha).swap
    | polygon Q => exact interPolygonPolygon_sound P Q ha hb
    | polyhedron B => exact (interPolygonPolyhedron_sound B hb P ha).swap
  | polyhedron A =>
    cases b with
    | flat y => rw [interRef_polyhedron_flat]; exact (fb y A hb ha).swap
    | polygon Q => exact interPolygonPolyhedron_sound A ha Q hb
    | polyhedron B => exact interPolyhedronPolyhedron_sound A B ha hb
#print axioms interRef_sound

end G3D
