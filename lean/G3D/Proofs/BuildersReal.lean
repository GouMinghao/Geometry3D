import Mathlib.Analysis.SpecialFunctions.Trigonometric.Basic
import Mathlib.Tactic.Ring
import Mathlib.Tactic.Linarith
import Mathlib.Tactic.LinearCombination
import Mathlib.Tactic.FieldSimp
import Mathlib.Algebra.BigOperators.Group.Finset.Basic
import G3D.Proofs.Builders

/-! C14 over ℝ: the points produced by `get_circle_point_list`
      `center + cos(2π/n·i)·v1 + sin(2π/n·i)·v2`,   `v1 = r·(n̂ × b)^`, `v2 = r·(n̂ × v1^)`
    lie on the circle (radius, plane), at equal angular steps; they form a convex, counter-clockwise polygon with the
    closed-form area `n/2·r²·sin(2π/n)`; the Sphere rings lie on the sphere; Cylinder / Cone points lie on the cylinder
    / at `centre + height vector`; Cylinder and Cone are convex and have the closed-form volumes `A·|h|`, `A·|h|/3`
    (surface integral over the oriented skeletons of G3D/Model/Builders.lean, every n).
    Plain real triples, no `EuclideanSpace`. -/
namespace G3D
namespace BuildersReal
open Real Builders

structure R3 where
  x : ℝ
  y : ℝ
  z : ℝ

namespace R3
def zero : R3 := ⟨0, 0, 0⟩
def add (a b : R3) : R3 := ⟨a.x + b.x, a.y + b.y, a.z + b.z⟩
def sub (a b : R3) : R3 := ⟨a.x - b.x, a.y - b.y, a.z - b.z⟩
def smul (k : ℝ) (a : R3) : R3 := ⟨k * a.x, k * a.y, k * a.z⟩
def dot (a b : R3) : ℝ := a.x * b.x + a.y * b.y + a.z * b.z
def cross (a b : R3) : R3 := ⟨a.y * b.z - a.z * b.y, a.z * b.x - a.x * b.z, a.x * b.y - a.y * b.x⟩
def normSq (a : R3) : ℝ := dot a a
end R3
open R3

theorem R3.ext' {a b : R3} (hx : a.x = b.x) (hy : a.y = b.y) (hz : a.z = b.z) : a = b := by
  cases a; cases b; simp_all

theorem smul_smul (s t : ℝ) (w : R3) : smul s (smul t w) = smul (s * t) w := by
  apply R3.ext' <;> simp only [smul, mul_assoc]

theorem cross_smul (s t : ℝ) (a b : R3) : cross (smul s a) (smul t b) = smul (s * t) (cross a b) := by
  apply R3.ext' <;> simp only [cross, smul] <;> ring

theorem dot_smul (a : R3) (t : ℝ) (b : R3) : dot a (smul t b) = t * dot a b := by
  simp only [dot, smul]; ring

theorem normSq_smul (t : ℝ) (a : R3) : normSq (smul t a) = t ^ 2 * normSq a := by
  simp only [normSq, dot, smul]; ring

/-- `center.move(v1·cos θ + v2·sin θ)` -/
noncomputable def circlePoint (c u v : R3) (θ : ℝ) : R3 := add c (add (smul (cos θ) u) (smul (sin θ) v))

/-- `angle_i = math.pi * 2 / n * i` -/
noncomputable def stepAngle (n i : ℕ) : ℝ := π * 2 / n * i

/-- hypotheses on the scaled frame: `|u| = |v| = r`, `u ⟂ v`, both ⟂ the normal -/
structure Frame (nrm u v : R3) (r : ℝ) : Prop where
  hu : normSq u = r ^ 2
  hv : normSq v = r ^ 2
  huv : dot u v = 0
  hun : dot u nrm = 0
  hvn : dot v nrm = 0

/-! ### the frame of `get_circle_point_list` over ℝ satisfies the hypotheses -/
/-- `v1 = (n̂ × b)^·r`, `v2 = (n̂ × v1^)·r`; in unnormalised form `w1 = n × b`, `w2 = n × w1`,
    `v1 = r/|w1|·w1`, `v2 = r/(|n||w1|)·w2` -/
noncomputable def frameU (nrm b : R3) (r : ℝ) : R3 := smul (r / √(normSq (cross nrm b))) (cross nrm b)
noncomputable def frameV (nrm b : R3) (r : ℝ) : R3 :=
  smul (r / (√(normSq nrm) * √(normSq (cross nrm b)))) (cross nrm (cross nrm b))

theorem normSq_nonneg (a : R3) : 0 ≤ normSq a := by
  simp only [normSq, dot]; nlinarith [sq_nonneg a.x, sq_nonneg a.y, sq_nonneg a.z]

theorem frame_real (nrm b : R3) (r : ℝ) (hn : 0 < normSq nrm) (hb : 0 < normSq (cross nrm b)) :
    Frame nrm (frameU nrm b r) (frameV nrm b r) r := by
  have s1 : √(normSq (cross nrm b)) ^ 2 = normSq (cross nrm b) := sq_sqrt (le_of_lt hb)
  have s2 : √(normSq nrm) ^ 2 = normSq nrm := sq_sqrt (le_of_lt hn)
  have p1 : 0 < √(normSq (cross nrm b)) := sqrt_pos.mpr hb
  have p2 : 0 < √(normSq nrm) := sqrt_pos.mpr hn
  have hw2 : normSq (cross nrm (cross nrm b)) = normSq nrm * normSq (cross nrm b) := by
    simp only [normSq, dot, cross]; ring
  constructor
  · rw [frameU, normSq_smul, div_pow, s1]; field_simp
  · rw [frameV, normSq_smul, hw2, div_pow, mul_pow, s1, s2]; field_simp
  · simp only [frameU, frameV, dot, smul, cross]; ring
  · simp only [frameU, dot, smul, cross]; ring
  · simp only [frameV, dot, smul, cross]; ring

/-- counter-clockwise about the normal: `u × v = r²·n̂` -/
theorem frame_real_handed (nrm b : R3) (r : ℝ) (hn : 0 < normSq nrm) (hb : 0 < normSq (cross nrm b)) :
    cross (frameU nrm b r) (frameV nrm b r) = smul (r ^ 2 / √(normSq nrm)) nrm := by
  have s1 : √(normSq (cross nrm b)) ^ 2 = normSq (cross nrm b) := sq_sqrt (le_of_lt hb)
  have p1 : 0 < √(normSq (cross nrm b)) := sqrt_pos.mpr hb
  have p2 : 0 < √(normSq nrm) := sqrt_pos.mpr hn
  have key : cross (cross nrm b) (cross nrm (cross nrm b)) = smul (normSq (cross nrm b)) nrm := by
    apply R3.ext' <;> simp only [normSq, dot, cross, smul] <;> ring
  rw [frameU, frameV, cross_smul, key, smul_smul]
  congr 1
  generalize √(normSq (cross nrm b)) = a at s1 p1
  rw [← s1]; field_simp

/-! ### points on the circle -/
/-- C14: every point is at distance `r` from the centre and lies in the plane through the centre normal to `nrm` -/
theorem circle_points (c nrm u v : R3) (r θ : ℝ) (F : Frame nrm u v r) :
    normSq (sub (circlePoint c u v θ) c) = r ^ 2 ∧ dot (sub (circlePoint c u v θ) c) nrm = 0 := by
  obtain ⟨hu, hv, huv, hun, hvn⟩ := F
  have h1 := cos_sq_add_sin_sq θ
  simp only [normSq, dot] at hu hv huv hun hvn
  constructor
  · simp only [circlePoint, normSq, dot, sub, add, smul]
    linear_combination (cos θ) ^ 2 * hu + (sin θ) ^ 2 * hv + 2 * cos θ * sin θ * huv + r ^ 2 * h1
  · simp only [circlePoint, dot, sub, add, smul]
    linear_combination cos θ * hun + sin θ * hvn

/-- squared chord between two points of the circle: `2r²(1 − cos(θ₁ − θ₂))` -/
theorem chord_sq (c nrm u v : R3) (r θ₁ θ₂ : ℝ) (F : Frame nrm u v r) :
    normSq (sub (circlePoint c u v θ₁) (circlePoint c u v θ₂)) = 2 * r ^ 2 * (1 - cos (θ₁ - θ₂)) := by
  obtain ⟨hu, hv, huv, _, _⟩ := F
  have h1 := cos_sq_add_sin_sq θ₁
  have h2 := cos_sq_add_sin_sq θ₂
  simp only [normSq, dot] at hu hv huv
  rw [cos_sub]
  simp only [circlePoint, normSq, dot, sub, add, smul]
  linear_combination (cos θ₁ - cos θ₂) ^ 2 * hu + (sin θ₁ - sin θ₂) ^ 2 * hv +
    2 * (cos θ₁ - cos θ₂) * (sin θ₁ - sin θ₂) * huv + r ^ 2 * h1 + r ^ 2 * h2

theorem stepAngle_succ (n i : ℕ) : stepAngle n (i + 1) - stepAngle n i = 2 * π / n := by
  unfold stepAngle; push_cast; ring

theorem stepAngle_zero (n : ℕ) : stepAngle n 0 = 0 := by unfold stepAngle; simp

theorem stepAngle_self (n : ℕ) (hn : n ≠ 0) : stepAngle n n = 2 * π := by
  have hn' : (n : ℝ) ≠ 0 := Nat.cast_ne_zero.mpr hn
  unfold stepAngle; field_simp

/-- C14, equal angular steps: consecutive points differ by the rotation angle `2π/n` — the squared chord is
    `2r²(1 − cos(2π/n))`, independent of `i` -/
theorem circle_chord (c nrm u v : R3) (r : ℝ) (n i : ℕ) (F : Frame nrm u v r) :
    normSq (sub (circlePoint c u v (stepAngle n (i + 1))) (circlePoint c u v (stepAngle n i))) =
      2 * r ^ 2 * (1 - cos (2 * π / n)) := by
  rw [chord_sq c nrm u v r _ _ F, stepAngle_succ]

/-- the list closes up: point `n` is point `0`, so the last edge `(n−1, 0)` has the same chord -/
theorem circlePoint_closed (c u v : R3) (n : ℕ) (hn : n ≠ 0) :
    circlePoint c u v (stepAngle n n) = circlePoint c u v (stepAngle n 0) := by
  rw [stepAngle_self n hn, stepAngle_zero]
  simp [circlePoint, cos_two_pi, sin_two_pi]

/-! ### convexity and orientation -/
theorem sin_sum_identity (a b : ℝ) :
    sin a + sin b - sin (a + b) = 4 * sin (a / 2) * sin (b / 2) * sin ((a + b) / 2) := by
  have ha : a = 2 * (a / 2) := by ring
  have hb : b = 2 * (b / 2) := by ring
  have hab : (a + b) / 2 = a / 2 + b / 2 := by ring
  rw [hab]
  generalize a / 2 = x at *
  generalize b / 2 = y at *
  rw [ha, hb, sin_add (2 * x) (2 * y), sin_two_mul, sin_two_mul, cos_two_mul, cos_two_mul, sin_add]
  have hx := cos_sq_add_sin_sq x
  have hy := cos_sq_add_sin_sq y
  linear_combination (-4 * sin x * cos x) * hy + (-4 * sin y * cos y) * hx

/-- the cross product of two chords from `P(α)` -/
theorem chord_cross (c u v : R3) (α β γ : ℝ) :
    cross (sub (circlePoint c u v β) (circlePoint c u v α)) (sub (circlePoint c u v γ) (circlePoint c u v α)) =
      smul (4 * sin ((β - α) / 2) * sin ((γ - β) / 2) * sin ((γ - α) / 2)) (cross u v) := by
  have hid := sin_sum_identity (β - α) (γ - β)
  have e : β - α + (γ - β) = γ - α := by ring
  rw [e] at hid
  rw [← hid, sin_sub, sin_sub, sin_sub]
  apply R3.ext' <;> simp only [circlePoint, cross, sub, add, smul] <;> ring

theorem normSq_cross (a b : R3) : normSq (cross a b) = normSq a * normSq b - (dot a b) ^ 2 := by
  simp only [normSq, dot, cross]; ring

theorem Frame.normSq_cross {nrm u v : R3} {r : ℝ} (F : Frame nrm u v r) : normSq (cross u v) = (r ^ 2) ^ 2 := by
  rw [BuildersReal.normSq_cross, F.hu, F.hv, F.huv]; ring

/-- C14, convexity: any three points taken in increasing angle (within one turn) are strictly counter-clockwise
    about `u × v`; hence the inscribed polygon is convex and its vertex order is the cyclic order -/
theorem circle_triple_pos (c nrm u v : R3) (r α β γ : ℝ) (F : Frame nrm u v r) (hr : 0 < r)
    (h1 : α < β) (h2 : β < γ) (h3 : γ < α + 2 * π) :
    0 < dot (cross u v)
        (cross (sub (circlePoint c u v β) (circlePoint c u v α)) (sub (circlePoint c u v γ) (circlePoint c u v α))) := by
  rw [chord_cross, dot_smul, ← normSq, F.normSq_cross]
  have s1 : 0 < sin ((β - α) / 2) := sin_pos_of_pos_of_lt_pi (by linarith) (by linarith)
  have s2 : 0 < sin ((γ - β) / 2) := sin_pos_of_pos_of_lt_pi (by linarith) (by linarith)
  have s3 : 0 < sin ((γ - α) / 2) := sin_pos_of_pos_of_lt_pi (by linarith) (by linarith)
  positivity

theorem stepAngle_lt (n i j : ℕ) (hn : 0 < n) (h : i < j) : stepAngle n i < stepAngle n j := by
  have hn' : (0 : ℝ) < n := by exact_mod_cast hn
  exact mul_lt_mul_of_pos_left (by exact_mod_cast h) (div_pos (mul_pos pi_pos two_pos) hn')

theorem stepAngle_lt_turn (n i k : ℕ) (hn : 0 < n) (hk : k < n) : stepAngle n k < stepAngle n i + 2 * π := by
  have h1 := stepAngle_lt n k n hn hk
  rw [stepAngle_self n (by omega)] at h1
  have h2 : 0 ≤ stepAngle n i := by unfold stepAngle; have := pi_pos; positivity
  linarith

/-- C14, Circle: every vertex triple `i < j < k < n` of the returned point list is strictly counter-clockwise about
    `u × v` (the Judge's `triplesPos` over ℝ) -/
theorem circle_polygon_convex (c nrm u v : R3) (r : ℝ) (n i j k : ℕ) (F : Frame nrm u v r) (hr : 0 < r)
    (hij : i < j) (hjk : j < k) (hkn : k < n) :
    0 < dot (cross u v)
        (cross (sub (circlePoint c u v (stepAngle n j)) (circlePoint c u v (stepAngle n i)))
          (sub (circlePoint c u v (stepAngle n k)) (circlePoint c u v (stepAngle n i)))) :=
  circle_triple_pos c nrm u v r _ _ _ F hr (stepAngle_lt n i j (by omega) hij) (stepAngle_lt n j k (by omega) hjk)
    (stepAngle_lt_turn n i k (by omega) hkn)

/-! ### area -/
/-- fan triangle `(centre, P(α), P(β))`: `(P(α) − c) × (P(β) − c) = sin(β − α)·(u × v)` -/
theorem fan_cross (c u v : R3) (α β : ℝ) :
    cross (sub (circlePoint c u v α) c) (sub (circlePoint c u v β) c) = smul (sin (β - α)) (cross u v) := by
  rw [sin_sub]
  apply R3.ext' <;> simp only [circlePoint, cross, sub, add, smul] <;> ring

/-- C14, Circle area: the vector areas of the `n` fan triangles about the centre are all `½·sin(2π/n)·(u × v)`,
    `|u × v| = r²`; so the polygon area is `n/2·r²·sin(2π/n)`. The summed form:
    `Σ_{i<n} (P_i − c) × (P_{i+1} − c) = n·sin(2π/n)·(u × v)` (twice the vector area), component-wise -/
theorem circle_area_sum (c nrm u v : R3) (r : ℝ) (n : ℕ) (F : Frame nrm u v r) :
    (Finset.range n).sum (fun i =>
      dot (cross u v) (cross (sub (circlePoint c u v (stepAngle n i)) c) (sub (circlePoint c u v (stepAngle n (i + 1))) c))) =
      n * sin (2 * π / n) * (r ^ 2) ^ 2 := by
  rw [Finset.sum_congr rfl (g := fun _ => sin (2 * π / n) * (r ^ 2) ^ 2) fun i _ => by
    rw [fan_cross, stepAngle_succ, dot_smul, ← normSq, F.normSq_cross]]
  rw [Finset.sum_const, Finset.card_range, nsmul_eq_mul]; ring

/-! ### Cylinder, Cone, Sphere -/
/-- Cylinder: the top circle is the bottom circle moved by the height vector (same frame: same normal) -/
theorem cylinder_top (c h u v : R3) (θ : ℝ) :
    circlePoint (add c h) u v θ = add (circlePoint c u v θ) h := by
  apply R3.ext' <;> simp only [circlePoint, add] <;> ring

/-- Cylinder: every vertex (bottom `t = 0`, top `t = 1`) lies on the cylinder of radius `r` about the axis
    `c + ℝ·h`: the component of `P − c` orthogonal to `h` has squared length `r²` -/
theorem cylinder_points (c h u v : R3) (r θ t : ℝ) (F : Frame h u v r) :
    normSq (sub (sub (circlePoint (add c (smul t h)) u v θ) c) (smul t h)) = r ^ 2 ∧
      dot (sub (sub (circlePoint (add c (smul t h)) u v θ) c) (smul t h)) h = 0 := by
  have e : sub (sub (circlePoint (add c (smul t h)) u v θ) c) (smul t h) = sub (circlePoint c u v θ) c := by
    apply R3.ext' <;> simp only [circlePoint, sub, add, smul] <;> ring
  rw [e]; exact circle_points c h u v r θ F

/-- Cone: apex at `centre + height vector`; the slant edges all have squared length `r² + |h|²` -/
theorem cone_slant (c h u v : R3) (r θ : ℝ) (F : Frame h u v r) :
    normSq (sub (circlePoint c u v θ) (add c h)) = r ^ 2 + normSq h := by
  obtain ⟨h1, h2⟩ := circle_points c h u v r θ F
  simp only [normSq, dot, sub, add] at h1 h2 ⊢
  linear_combination h1 - 2 * h2

/-- Sphere: `r_i = r·cos φ`, `height_i = r·sin φ` -/
theorem sphere_ring_radius (r φ : ℝ) : (r * cos φ) ^ 2 + (r * sin φ) ^ 2 = r ^ 2 := by
  have := cos_sq_add_sin_sq φ
  linear_combination r ^ 2 * this

/-- C14, Sphere: a ring of radius `r·cos φ` about the axis `k` (unit) at height `±r·sin φ` lies on the sphere of
    radius `r` about `c` -/
theorem sphere_ring (c k u v : R3) (r φ θ s : ℝ) (hk : normSq k = 1) (hs : s ^ 2 = 1)
    (F : Frame k u v (r * cos φ)) :
    normSq (sub (circlePoint (add c (smul (s * (r * sin φ)) k)) u v θ) c) = r ^ 2 := by
  obtain ⟨h1, h2⟩ := circle_points c k u v (r * cos φ) θ F
  have h3 := sphere_ring_radius r φ
  have e : sub (circlePoint (add c (smul (s * (r * sin φ)) k)) u v θ) c =
      add (sub (circlePoint c u v θ) c) (smul (s * (r * sin φ)) k) := by
    apply R3.ext' <;> simp only [circlePoint, sub, add, smul] <;> ring
  rw [e]
  have : ∀ a : R3, ∀ m : ℝ, normSq (add a (smul m k)) = normSq a + 2 * m * dot a k + m ^ 2 * normSq k := by
    intro a m; simp only [normSq, dot, add, smul]; ring
  rw [this, h1, h2, hk]
  linear_combination h3 + (r * sin φ) ^ 2 * hs

/-- latitudes: `angle_i = π/2/n2·(i+1)`, equal steps of a quarter circle divided by `n2`; the poles
    `center ± radius·z` are the (degenerate) rings of index `i + 1 = n2` -/
noncomputable def latAngle (n2 i : ℕ) : ℝ := π / 2 / n2 * (i + 1)

theorem latAngle_step (n2 i : ℕ) : latAngle n2 (i + 1) - latAngle n2 i = π / 2 / n2 := by
  unfold latAngle; push_cast; ring

theorem latAngle_pole (n2 : ℕ) (h : n2 ≠ 0) :
    r * cos (latAngle n2 (n2 - 1)) = 0 ∧ r * sin (latAngle n2 (n2 - 1)) = r := by
  have hn : (n2 : ℝ) ≠ 0 := Nat.cast_ne_zero.mpr h
  have h1 : 1 ≤ n2 := Nat.one_le_iff_ne_zero.mpr h
  have : latAngle n2 (n2 - 1) = π / 2 := by
    unfold latAngle; rw [Nat.cast_sub h1]; push_cast; field_simp; ring
  rw [this, cos_pi_div_two, sin_pi_div_two]; simp

theorem step_mul_lt {a x : ℝ} {N : ℕ} (ha : 0 < a) (hN : 0 < N) (h : x < N) : a / N * x < a := by
  have hN' : (0 : ℝ) < N := Nat.cast_pos.mpr hN
  calc a / N * x < a / N * N := mul_lt_mul_of_pos_left h (div_pos ha hN')
    _ = a := div_mul_cancel₀ _ hN'.ne'

theorem step_mul_le {a x : ℝ} {N : ℕ} (ha : 0 < a) (hN : 0 < N) (h : x ≤ N) : a / N * x ≤ a := by
  have hN' : (0 : ℝ) < N := Nat.cast_pos.mpr hN
  calc a / N * x ≤ a / N * N := mul_le_mul_of_nonneg_left h (div_pos ha hN').le
    _ = a := div_mul_cancel₀ _ hN'.ne'

/-- latitudes of the rings `i = 0 .. n2−2` are strictly between the equator and the pole -/
theorem latAngle_range (n2 i : ℕ) (h : i + 1 < n2) : 0 < latAngle n2 i ∧ latAngle n2 i < π / 2 := by
  unfold latAngle
  have hn : (0 : ℝ) < n2 := by exact_mod_cast (by omega : 0 < n2)
  have hp := pi_div_two_pos
  exact ⟨by positivity, step_mul_lt hp (by omega) (by exact_mod_cast h)⟩

/-- Sphere: the poles `center ± radius·z` lie on the sphere -/
theorem sphere_pole (c k : R3) (r s : ℝ) (hk : normSq k = 1) (hs : s ^ 2 = 1) :
    normSq (sub (add c (smul (s * r) k)) c) = r ^ 2 := by
  have : normSq (sub (add c (smul (s * r) k)) c) = (s * r) ^ 2 * normSq k := by
    simp only [normSq, dot, sub, add, smul]; ring
  rw [this, hk]; linear_combination r ^ 2 * hs

/-- Sphere: all rings use the same normal `z`, hence the same unit frame `(û, v̂)` scaled by the ring radius; a band
    quadrilateral `(A_s, A_e, B_e, B_s)` between two rings (centres `c1`, `c2`, radii `ρ1`, `ρ2`) is planar
    (a trapezoid: the two chords are parallel) -/
theorem sphere_band_planar (c1 c2 u v : R3) (ρ1 ρ2 α β : ℝ) :
    dot (sub (circlePoint c1 (smul ρ1 u) (smul ρ1 v) β) (circlePoint c1 (smul ρ1 u) (smul ρ1 v) α))
      (cross (sub (circlePoint c2 (smul ρ2 u) (smul ρ2 v) β) (circlePoint c1 (smul ρ1 u) (smul ρ1 v) α))
        (sub (circlePoint c2 (smul ρ2 u) (smul ρ2 v) α) (circlePoint c1 (smul ρ1 u) (smul ρ1 v) α))) = 0 := by
  simp only [circlePoint, dot, cross, sub, add, smul]; ring

/-- the scaled frames of the rings: `Frame k (ρ·û) (ρ·v̂) ρ` from a unit frame -/
theorem frame_scale (k u v : R3) (ρ : ℝ) (F : Frame k u v 1) : Frame k (smul ρ u) (smul ρ v) ρ := by
  obtain ⟨hu, hv, huv, hun, hvn⟩ := F
  simp only [normSq, dot] at hu hv huv hun hvn
  constructor
  · simp only [normSq, dot, smul]; linear_combination ρ ^ 2 * hu
  · simp only [normSq, dot, smul]; linear_combination ρ ^ 2 * hv
  · simp only [dot, smul]; linear_combination ρ ^ 2 * huv
  · simp only [dot, smul]; linear_combination ρ * hun
  · simp only [dot, smul]; linear_combination ρ * hvn

/-- C14, Sphere: every ring vertex (`mc`: φ = 0; `tc[i]`, `bc[i]`: φ = π/2/n2·(i+1), sign s = ±1) is at distance
    `r` from the centre, for the unit frame `(û, v̂)` of the normal `k` -/
theorem sphere_vertex (c k u v : R3) (r φ θ s : ℝ) (hk : normSq k = 1) (hs : s ^ 2 = 1) (F : Frame k u v 1) :
    normSq (sub (circlePoint (add c (smul (s * (r * sin φ)) k)) (smul (r * cos φ) u) (smul (r * cos φ) v) θ) c) =
      r ^ 2 :=
  sphere_ring c k _ _ r φ θ s hk hs (frame_scale k u v (r * cos φ) F)

/-! ### convexity of the Cylinder and the Cone -/
theorem stepAngle_half_sub (n a b : ℕ) : (stepAngle n a - stepAngle n b) / 2 = π / n * (((a : ℤ) - b : ℤ) : ℝ) := by
  unfold stepAngle; push_cast; ring

theorem sin_grid_pos (n : ℕ) (t : ℤ) (h0 : 0 < t) (h1 : t < n) : 0 < sin (π / n * t) := by
  have hn : (0 : ℝ) < n := by exact_mod_cast (by omega : 0 < n)
  have h0' : (0 : ℝ) < t := by exact_mod_cast h0
  exact sin_pos_of_pos_of_lt_pi (mul_pos (div_pos pi_pos hn) h0')
    (step_mul_lt pi_pos (by omega) (by exact_mod_cast h1))

theorem sin_grid_neg (n : ℕ) (t : ℤ) (h0 : t < 0) (h1 : -(n : ℤ) < t) : sin (π / n * t) < 0 := by
  have := sin_grid_pos n (-t) (by omega) (by omega)
  rw [Int.cast_neg, mul_neg, sin_neg] at this
  linarith

/-- C14, convexity of the Circle polygon / of the Cylinder's and Cone's mantle: for every edge `i → i+1` (indices
    mod n; `stepAngle n (i+1)` for `i = n−1` is the full turn, the same point as index 0) and every other vertex `k`
    the triple is strictly counter-clockwise about `u × v`, hence about every `h` with `h·(u × v) > 0`: the cross
    product of the two chords is `4·sin·sin·sin·(u × v)` (`chord_cross`); the first sine belongs to one step, and the
    two half-angles from the ends of the edge to `k`, `π/n·(k−i−1)` and `π/n·(k−i)`, lie in the same open half turn,
    so their sines have the same sign -/
theorem circle_edge_test (c h u v : R3) (n i k : ℕ) (hD : 0 < dot h (cross u v))
    (hi : i < n) (hk : k < n) (hki : k ≠ i) (hki' : k ≠ (i + 1) % n) :
    0 < dot h (cross (sub (circlePoint c u v (stepAngle n (i + 1))) (circlePoint c u v (stepAngle n i)))
      (sub (circlePoint c u v (stepAngle n k)) (circlePoint c u v (stepAngle n i)))) := by
  rw [chord_cross, dot_smul, stepAngle_half_sub, stepAngle_half_sub, stepAngle_half_sub, mul_assoc (4 * _)]
  refine mul_pos (mul_pos (mul_pos (by norm_num) (sin_grid_pos n _ (by omega) (by omega))) ?_) hD
  rcases sm_cases hi with ⟨_, e⟩ | ⟨_, e⟩ <;> rw [e] at hki' <;> rcases Nat.lt_or_ge i k with h | h
  · exact mul_pos (sin_grid_pos n _ (by omega) (by omega)) (sin_grid_pos n _ (by omega) (by omega))
  · exact mul_pos_of_neg_of_neg (sin_grid_neg n _ (by omega) (by omega)) (sin_grid_neg n _ (by omega) (by omega))
  · omega
  · exact mul_pos_of_neg_of_neg (sin_grid_neg n _ (by omega) (by omega)) (sin_grid_neg n _ (by omega) (by omega))

/-- Cylinder, side face `i` (outward normal `(P_{i+1} − P_i) × h`): every vertex `P_k + t·h` (`t = 0` bottom,
    `t = 1` top) other than the face's own lies strictly inside -/
theorem cylinder_side_inner (c h u v : R3) (t : ℝ) (n i k : ℕ)
    (hD : 0 < dot h (cross u v))
    (hi : i < n) (hk : k < n) (hki : k ≠ i) (hki' : k ≠ (i + 1) % n) :
    dot (sub (add (circlePoint c u v (stepAngle n k)) (smul t h)) (circlePoint c u v (stepAngle n i)))
      (cross (sub (circlePoint c u v (stepAngle n (i + 1))) (circlePoint c u v (stepAngle n i))) h) < 0 := by
  have hp := circle_edge_test c h u v n i k hD hi hk hki hki'
  have key : ∀ A B C : R3, dot (sub (add C (smul t h)) A) (cross (sub B A) h) =
      - dot h (cross (sub B A) (sub C A)) := by
    intro A B C; simp only [dot, cross, sub, add, smul]; ring
  rw [key]; linarith

/-- Cylinder, top (normal `h`, through `c + h`) and bottom (normal `−h`, through `c`) faces -/
theorem cylinder_caps_inner (c h u v : R3) (r t θ : ℝ) (F : Frame h u v r) (ht : 0 ≤ t ∧ t ≤ 1) :
    dot (sub (add (circlePoint c u v θ) (smul t h)) (add c h)) h ≤ 0 ∧
      dot (sub (add (circlePoint c u v θ) (smul t h)) c) (smul (-1) h) ≤ 0 := by
  obtain ⟨_, h2⟩ := circle_points c h u v r θ F
  have hN := normSq_nonneg h
  have e1 : dot (sub (add (circlePoint c u v θ) (smul t h)) (add c h)) h =
      dot (sub (circlePoint c u v θ) c) h + (t - 1) * normSq h := by
    simp only [normSq, dot, sub, add, smul]; ring
  have e2 : dot (sub (add (circlePoint c u v θ) (smul t h)) c) (smul (-1) h) =
      - dot (sub (circlePoint c u v θ) c) h - t * normSq h := by
    simp only [normSq, dot, sub, add, smul]; ring
  rw [e1, e2, h2]
  exact ⟨by linarith [mul_nonpos_of_nonpos_of_nonneg (sub_nonpos.2 ht.2) hN], by linarith [mul_nonneg ht.1 hN]⟩

/-- Cone, side face `i` = (apex, P_i, P_{i+1}) with outward normal `(P_i − apex) × (P_{i+1} − apex)`: every other
    base vertex lies strictly inside; the base face (normal `−h`) has the apex strictly inside -/
theorem cone_side_inner (c h u v : R3) (n i k : ℕ)
    (hD : 0 < dot h (cross u v))
    (hi : i < n) (hk : k < n) (hki : k ≠ i) (hki' : k ≠ (i + 1) % n) :
    dot (sub (circlePoint c u v (stepAngle n k)) (add c h))
      (cross (sub (circlePoint c u v (stepAngle n i)) (add c h))
        (sub (circlePoint c u v (stepAngle n (i + 1))) (add c h))) < 0 := by
  have hp := circle_edge_test c h u v n i k hD hi hk hki hki'
  have key : ∀ α β γ : ℝ, dot (sub (circlePoint c u v γ) (add c h))
      (cross (sub (circlePoint c u v α) (add c h)) (sub (circlePoint c u v β) (add c h))) =
      - dot h (cross (sub (circlePoint c u v β) (circlePoint c u v α))
        (sub (circlePoint c u v γ) (circlePoint c u v α))) := by
    intro α β γ; simp only [circlePoint, dot, cross, sub, add, smul]; ring
  rw [key]; linarith

/-- Cone, base face (normal `−h`): the apex `c + h` is strictly inside -/
theorem cone_base_inner (c h : R3) (hh : 0 < normSq h) : dot (sub (add c h) c) (smul (-1) h) < 0 := by
  have : dot (sub (add c h) c) (smul (-1) h) = - normSq h := by simp only [normSq, dot, sub, add, smul]; ring
  rw [this]; linarith

/-- the orientation factor of the frame of `get_circle_point_list`: `h·(u × v) = r²·|h| > 0` -/
theorem frame_real_positive (h b : R3) (r : ℝ) (hr : 0 < r) (hn : 0 < normSq h) (hb : 0 < normSq (cross h b)) :
    dot h (cross (frameU h b r) (frameV h b r)) = r ^ 2 * √(normSq h) ∧
      0 < dot h (cross (frameU h b r) (frameV h b r)) := by
  have e : dot h (cross (frameU h b r) (frameV h b r)) = r ^ 2 * √(normSq h) := by
    rw [frame_real_handed h b r hn hb, dot_smul, ← normSq, div_mul_eq_mul_div, mul_div_assoc, div_sqrt]
  exact ⟨e, e ▸ mul_pos (pow_pos hr 2) (sqrt_pos.mpr hn)⟩

/-! ### volume of the Cylinder and the Cone (surface-integral form on the oriented skeleton, every n) -/
def vsumR (l : List R3) : R3 := ⟨(l.map R3.x).sum, (l.map R3.y).sum, (l.map R3.z).sum⟩

/-- twice the vector area of a vertex cycle (shoelace) -/
def vecArea2R (l : List R3) : R3 := vsumR ((cyc l).map (fun e => cross e.1 e.2))

/-- six times the signed volume seen from `q` (the real counterpart of `vol6` in G3D/Proofs/Volume.lean) -/
def vol6R (fs : List (List R3)) (q : R3) : ℝ :=
  (fs.map (fun l => dot (sub (l.headD zero) q) (vecArea2R l))).sum

theorem sum_map_range (f : ℕ → ℝ) (n : ℕ) : ((List.range n).map f).sum = (Finset.range n).sum f := by
  induction n with
  | zero => simp
  | succ k ih => rw [List.range_succ, List.map_append, List.sum_append, ih, Finset.sum_range_succ]; simp

theorem sum_map_flatMap {ι β : Type} (cf : β → ℝ) (g : ι → List β) :
    ∀ L : List ι, ((L.flatMap g).map cf).sum = (L.map (fun i => ((g i).map cf).sum)).sum
  | [] => rfl
  | a :: L => by simp [sum_map_flatMap cf g L]

theorem vsumR_reverse (l : List R3) : vsumR l.reverse = vsumR l := by
  simp [vsumR, List.map_reverse, List.sum_reverse]

theorem vecArea2R_flip (l : List R3) : vecArea2R (flipCycle l) = smul (-1) (vecArea2R l) := by
  unfold vecArea2R
  rw [cyc_flipCycle, List.map_reverse, vsumR_reverse, List.map_map]
  have : ((fun e : R3 × R3 => cross e.1 e.2) ∘ Prod.swap) = fun e => smul (-1) (cross e.1 e.2) := by
    funext e; apply R3.ext' <;> simp only [Function.comp, Prod.swap, cross, smul] <;> ring
  rw [this]
  apply R3.ext' <;> simp only [vsumR, smul, List.map_map, Function.comp_def, List.sum_map_mul_left]

theorem sum_telescope (f : ℕ → ℝ) (K : ℝ) (n : ℕ) (G : ℕ → ℝ) (hG : ∀ i < n, G i = f (i + 1) - f i + K) :
    ((List.range n).map G).sum = f n - f 0 + n * K := by
  rw [sum_map_range, Finset.sum_congr rfl (fun i hi => hG i (Finset.mem_range.mp hi)), Finset.sum_add_distrib, Finset.sum_range_sub,
    Finset.sum_const, Finset.card_range, nsmul_eq_mul]

theorem vsumR_telescope (F : ℕ → R3) (K : R3) (n : ℕ) (G : ℕ → R3)
    (hG : ∀ i < n, G i = add (sub (F (i + 1)) (F i)) K) :
    vsumR ((List.range n).map G) = add (sub (F n) (F 0)) (smul n K) := by
  apply R3.ext' <;> simp only [vsumR, List.map_map, add, sub, smul]
  · exact sum_telescope (fun i => (F i).x) K.x n _ (fun i hi => by simp [hG i hi, add, sub])
  · exact sum_telescope (fun i => (F i).y) K.y n _ (fun i hi => by simp [hG i hi, add, sub])
  · exact sum_telescope (fun i => (F i).z) K.z n _ (fun i hi => by simp [hG i hi, add, sub])

/-- the radius vector `cos θ·u + sin θ·v` -/
noncomputable def rad (u v : R3) (θ : ℝ) : R3 := add (smul (cos θ) u) (smul (sin θ) v)

theorem circlePoint_eq (c u v : R3) (θ : ℝ) : circlePoint c u v θ = add c (rad u v θ) := rfl

theorem rad_closed (u v : R3) (n : ℕ) (hn : n ≠ 0) : rad u v (stepAngle n n) = rad u v (stepAngle n 0) := by
  rw [stepAngle_self n hn, stepAngle_zero]; simp [rad, cos_two_pi, sin_two_pi]

theorem rad_cross (u v : R3) (n i : ℕ) :
    cross (rad u v (stepAngle n i)) (rad u v (stepAngle n (i + 1))) = smul (sin (2 * π / n)) (cross u v) := by
  rw [← stepAngle_succ n i, sin_sub]
  apply R3.ext' <;> simp only [rad, cross, add, smul] <;> ring

/-- the point with index `(i+1) mod n` is the point at angle `2π/n·(i+1)` -/
theorem circlePoint_step_mod (c u v : R3) (n i : ℕ) (hi : i < n) :
    circlePoint c u v (stepAngle n ((i + 1) % n)) = circlePoint c u v (stepAngle n (i + 1)) := by
  rcases Nat.lt_or_ge (i + 1) n with h | h
  · rw [Nat.mod_eq_of_lt h]
  · have : i + 1 = n := by omega
    rw [this, Nat.mod_self]
    exact (circlePoint_closed c u v n (by omega)).symm

/-- shoelace vector area of the ring `P_0 … P_{n−1}` about any centre `a`: `n·sin(2π/n)·(u × v)` -/
theorem ring_vecArea2 (a u v : R3) (n : ℕ) (hn : 0 < n) :
    vecArea2R ((List.range n).map (fun i => circlePoint a u v (stepAngle n i))) =
      smul (n * sin (2 * π / n)) (cross u v) := by
  unfold vecArea2R
  rw [cyc_map, cyc_range, List.map_map, List.map_map,
    vsumR_telescope (fun i => cross a (rad u v (stepAngle n i))) (smul (sin (2 * π / n)) (cross u v)) n]
  · rw [rad_closed u v n (by omega)]
    apply R3.ext' <;> simp only [add, sub, smul] <;> ring
  · intro i hi
    simp only [Function.comp, Prod.map_apply, circlePoint_step_mod a u v n i hi]
    rw [← rad_cross u v n i]
    apply R3.ext' <;> simp only [circlePoint_eq, cross, add, sub] <;> ring

theorem headD_map_range (f : ℕ → R3) (n : ℕ) (hn : 0 < n) (z : R3) : ((List.range n).map f).headD z = f 0 := by
  cases n with
  | zero => omega
  | succ k => rw [List.range_eq_range', List.range'_succ]; rfl

/-- contribution of one face to `vol6R` seen from `q` -/
def contrib (q : R3) (l : List R3) : ℝ := dot (sub (l.headD zero) q) (vecArea2R l)

theorem vol6R_eq (fs : List (List R3)) (q : R3) : vol6R fs q = (fs.map (contrib q)).sum := rfl

theorem contrib_flip (q : R3) (l : List R3) : contrib q (flipCycle l) = - contrib q l := by
  unfold contrib
  rw [headD_flipCycle, vecArea2R_flip]
  simp only [dot, smul]; ring

theorem fin_telescope (f : ℕ → ℝ) (K : ℝ) (n : ℕ) (G : ℕ → ℝ) (hG : ∀ i, G i = f (i + 1) - f i + K)
    (hf : f n = f 0) : ∑ i ∈ Finset.range n, G i = n * K := by
  rw [← sum_map_range, sum_telescope f K n G (fun i _ => hG i), hf]
  ring

theorem smul_one_left (a : R3) : smul 1 a = a := by
  apply R3.ext' <;> simp only [smul, one_mul]

theorem tri_vecArea2 (a A B : R3) : vecArea2R [a, A, B] = cross (sub A a) (sub B a) := by
  apply R3.ext' <;> simp only [vecArea2R, vsumR, cyc, consecG, List.cons_append, List.nil_append, List.map_cons, List.map_nil, List.sum_cons,
    List.sum_nil, cross, sub] <;> ring

theorem BA.quadVA (a b e e' : R3) (ρ1 ρ2 : ℝ) :
    vecArea2R [add a (smul ρ1 e), add a (smul ρ1 e'), add b (smul ρ2 e'), add b (smul ρ2 e)] =
      add (smul (ρ1 + ρ2) (cross (sub b a) (sub e e'))) (smul (ρ1 ^ 2 - ρ2 ^ 2) (cross e e')) := by
  apply R3.ext' <;> simp only [vecArea2R, vsumR, cyc, consecG, List.cons_append, List.nil_append, List.map_cons, List.map_nil, List.sum_cons,
    List.sum_nil, cross, add, sub, smul] <;> ring

/-- contribution of a band quadrilateral: a difference (telescoping over the sector index) plus a term in `e × e'` -/
theorem quad_contrib (a b e e' q : R3) (ρ1 ρ2 : ℝ) :
    contrib q [add a (smul ρ1 e), add a (smul ρ1 e'), add b (smul ρ2 e'), add b (smul ρ2 e)] =
      -(ρ1 + ρ2) * dot (sub a q) (cross (sub b a) e') - (-(ρ1 + ρ2) * dot (sub a q) (cross (sub b a) e)) +
        ((ρ1 ^ 2 - ρ2 ^ 2) * dot (sub a q) (cross e e') + ρ1 * (ρ1 + ρ2) * dot (sub b a) (cross e e')) := by
  unfold contrib
  rw [BA.quadVA]
  simp only [List.headD_cons, dot, cross, add, sub, smul]
  ring

theorem tri_contrib (a p e e' q : R3) :
    contrib q [p, add a e, add a e'] =
      dot (sub p q) (cross (sub a p) e') - dot (sub p q) (cross (sub a p) e) + dot (sub p q) (cross e e') := by
  unfold contrib
  rw [tri_vecArea2]
  simp only [List.headD_cons, dot, cross, add, sub]
  ring

/-- one band of `n` quadrilaterals `(A_i, A_{i+1}, B_{i+1}, B_i)` between the rings `A = a + ρ1·rad`, `B = b + ρ2·rad` -/
theorem ring_quads_sum (a b u v q : R3) (ρ1 ρ2 : ℝ) (n : ℕ) (hn : 0 < n) :
    ∑ i ∈ Finset.range n, contrib q
      [add a (smul ρ1 (rad u v (stepAngle n i))), add a (smul ρ1 (rad u v (stepAngle n (i + 1)))),
        add b (smul ρ2 (rad u v (stepAngle n (i + 1)))), add b (smul ρ2 (rad u v (stepAngle n i)))] =
      n * (sin (2 * π / n) *
        ((ρ1 ^ 2 - ρ2 ^ 2) * dot (sub a q) (cross u v) + ρ1 * (ρ1 + ρ2) * dot (sub b a) (cross u v))) := by
  apply fin_telescope (fun i => -(ρ1 + ρ2) * dot (sub a q) (cross (sub b a) (rad u v (stepAngle n i))))
  · intro i
    rw [quad_contrib, rad_cross, dot_smul, dot_smul]
    ring
  · show _ = _
    rw [rad_closed u v n (by omega)]

/-- the fan of `n` triangles `(p, P_i, P_{i+1})` from a point `p` to a ring -/
theorem ring_tris_sum (a u v p q : R3) (n : ℕ) (hn : 0 < n) :
    ∑ i ∈ Finset.range n, contrib q
      [p, circlePoint a u v (stepAngle n i), circlePoint a u v (stepAngle n (i + 1))] =
      n * (sin (2 * π / n) * dot (sub p q) (cross u v)) := by
  apply fin_telescope (fun i => dot (sub p q) (cross (sub a p) (rad u v (stepAngle n i))))
  · intro i
    rw [circlePoint_eq, circlePoint_eq, tri_contrib, rad_cross, dot_smul]
  · show _ = _
    rw [rad_closed u v n (by omega)]

/-- placement of the Cylinder ids: `i ↦ P_i + h` (top ring), `n + i ↦ P_i` (bottom ring) -/
noncomputable def cylinderPlace (c h u v : R3) (n : ℕ) (k : ℕ) : R3 :=
  if k < n then add (circlePoint c u v (stepAngle n k)) h else circlePoint c u v (stepAngle n (k - n))

/-- vector area of a side quadrilateral `A+h, A, B, B+h` -/
theorem quad_vecArea2 (A B h : R3) : vecArea2R [add A h, A, B, add B h] = smul 2 (cross (sub B A) h) := by
  apply R3.ext' <;>
    simp only [vecArea2R, vsumR, cyc, consecG, List.cons_append, List.nil_append, List.map_cons, List.map_nil, List.sum_cons,
    List.sum_nil, cross, add, sub, smul] <;> ring

/-- the Cylinder faces after the orientation repair, placed: the top ring, the flipped bottom ring, the side
    quadrilaterals `(A+h, A, B, B+h)` -/
theorem cylinder_placed (c h u v : R3) (n : ℕ) (hn : 0 < n) :
    (cylinderOriented n).map (List.map (cylinderPlace c h u v n)) =
      [(List.range n).map (fun i => circlePoint (add c h) u v (stepAngle n i)),
        flipCycle ((List.range n).map (fun i => circlePoint c u v (stepAngle n i)))] ++
      (List.range n).map (fun i => [add (circlePoint c u v (stepAngle n i)) h, circlePoint c u v (stepAngle n i),
        circlePoint c u v (stepAngle n (i + 1)), add (circlePoint c u v (stepAngle n (i + 1))) h]) := by
  rw [cylinderOriented_eq]
  simp only [List.map_append, List.map_cons, List.map_nil]
  rw [← flipCycle_map]
  simp only [List.map_map]
  congr 1
  · congr 1
    · apply List.map_congr_left
      intro i hi
      simp only [cylinderPlace, if_pos (List.mem_range.mp hi), cylinder_top]
    · congr 2
      apply List.map_congr_left
      intro i _
      simp [cylinderPlace]
  · apply List.map_congr_left
    intro i hi
    have hi' := List.mem_range.mp hi
    have hm : (i + 1) % n < n := Nat.mod_lt _ hn
    simp [cylinderPlace, hi', hm, circlePoint_step_mod c u v n i hi']

/-- C14, Cylinder volume, every n ≥ 1, every reference point `q`: the surface integral over the faces as oriented
    by the constructor is `6·V = 3·n·sin(2π/n)·h·(u × v)`; with the frame of `get_circle_point_list`
    (`h·(u × v) = r²·|h|`): `V = (n/2·r²·sin(2π/n))·|h|` = base area × height -/
theorem cylinder_volume (c h u v q : R3) (n : ℕ) (hn : 0 < n) :
    vol6R ((cylinderOriented n).map (List.map (cylinderPlace c h u v n))) q =
      3 * n * sin (2 * π / n) * dot h (cross u v) := by
  rw [cylinder_placed c h u v n hn, vol6R_eq]
  simp only [List.map_cons, List.map_append, List.sum_cons, List.sum_append, List.map_nil, List.sum_nil,
    List.map_map, Function.comp_def]
  -- a side is the flipped band quadrilateral `(A+h, B+h, B, A)` between the top and the bottom ring
  have hs := ring_quads_sum (add c h) c u v q 1 1 n hn
  simp only [smul_one_left, ← circlePoint_eq, cylinder_top] at hs
  have e : ∀ A B : R3, [add A h, A, B, add B h] = flipCycle [add A h, add B h, B, A] := fun _ _ => rfl
  simp only [sum_map_range, e, contrib_flip, Finset.sum_neg_distrib, hs]
  unfold contrib
  rw [headD_map_range _ n hn, headD_map_range _ n hn, ring_vecArea2 _ u v n hn, ring_vecArea2 _ u v n hn]
  simp only [stepAngle_zero, circlePoint, cos_zero, sin_zero, dot, cross, add, sub, smul]
  ring

/-- closed form with the frame of `get_circle_point_list`: `V = vol6/6 = (n/2·r²·sin(2π/n))·|h|` -/
theorem cylinder_volume_closed_form (c h b q : R3) (r : ℝ) (n : ℕ) (hn : 0 < n) (hr : 0 < r)
    (hh : 0 < normSq h) (hb : 0 < normSq (cross h b)) :
    vol6R ((cylinderOriented n).map (List.map (cylinderPlace c h (frameU h b r) (frameV h b r) n))) q =
      6 * ((n / 2 * r ^ 2 * sin (2 * π / n)) * √(normSq h)) := by
  rw [cylinder_volume c h _ _ q n hn, (frame_real_positive h b r hr hh hb).1]; ring

/-- placement of the Cone ids: `i ↦ P_i` (base circle), `n ↦ centre + height vector` (apex) -/
noncomputable def conePlace (c h u v : R3) (n : ℕ) (k : ℕ) : R3 :=
  if k < n then circlePoint c u v (stepAngle n k) else add c h

/-- the Cone faces after the orientation repair, placed: the flipped base ring, the side triangles
    `(apex, P_i, P_{i+1})` -/
theorem cone_placed (c h u v : R3) (n : ℕ) (hn : 0 < n) :
    (coneOriented n).map (List.map (conePlace c h u v n)) =
      flipCycle ((List.range n).map (fun i => circlePoint c u v (stepAngle n i))) ::
        (List.range n).map (fun i => [add c h, circlePoint c u v (stepAngle n i),
          circlePoint c u v (stepAngle n (i + 1))]) := by
  rw [coneOriented_eq]
  simp only [List.map_cons, List.map_map]
  rw [← flipCycle_map]
  congr 1
  · congr 1
    apply List.map_congr_left
    intro i hi
    simp only [conePlace, if_pos (List.mem_range.mp hi)]
  · apply List.map_congr_left
    intro i hi
    have hi' := List.mem_range.mp hi
    have hm : (i + 1) % n < n := Nat.mod_lt _ hn
    simp [conePlace, hi', hm, circlePoint_step_mod c u v n i hi']

/-- C14, Cone volume, every n ≥ 1, every reference point: `6·V = n·sin(2π/n)·h·(u × v)`, i.e.
    `V = (n/2·r²·sin(2π/n))·|h|/3` -/
theorem cone_volume (c h u v q : R3) (n : ℕ) (hn : 0 < n) :
    vol6R ((coneOriented n).map (List.map (conePlace c h u v n))) q =
      n * sin (2 * π / n) * dot h (cross u v) := by
  rw [cone_placed c h u v n hn, vol6R_eq]
  simp only [List.map_cons, List.sum_cons, List.map_map, Function.comp_def]
  rw [sum_map_range, ring_tris_sum c u v (add c h) q n hn, contrib_flip]
  unfold contrib
  rw [headD_map_range _ n hn, ring_vecArea2 _ u v n hn]
  simp only [stepAngle_zero, circlePoint, cos_zero, sin_zero, dot, cross, add, sub, smul]
  ring

theorem cone_volume_closed_form (c h b q : R3) (r : ℝ) (n : ℕ) (hn : 0 < n) (hr : 0 < r)
    (hh : 0 < normSq h) (hb : 0 < normSq (cross h b)) :
    vol6R ((coneOriented n).map (List.map (conePlace c h (frameU h b r) (frameV h b r) n))) q =
      6 * ((n / 2 * r ^ 2 * sin (2 * π / n)) * √(normSq h) / 3) := by
  rw [cone_volume c h _ _ q n hn, (frame_real_positive h b r hr hh hb).1]; ring

/-- C14, Circle area on the list itself: the shoelace vector area of the returned point list is
    `n·sin(2π/n)·(u × v)`, i.e. area `n/2·r²·sin(2π/n)` with normal direction `u × v` -/
theorem circle_area (c u v : R3) (n : ℕ) (hn : 0 < n) :
    vecArea2R ((circleFaces n).head!.map (fun i => circlePoint c u v (stepAngle n i))) =
      smul (n * sin (2 * π / n)) (cross u v) := by
  simp only [circleFaces, List.head!_cons]
  exact ring_vecArea2 c u v n hn

#print axioms frame_real
#print axioms circle_points
#print axioms circle_chord
#print axioms circle_polygon_convex
#print axioms circle_area_sum
#print axioms sphere_ring
#print axioms sphere_vertex
#print axioms cylinder_points
#print axioms cylinder_side_inner
#print axioms cone_side_inner
#print axioms frame_real_positive
#print axioms cylinder_volume_closed_form
#print axioms cone_volume_closed_form
#print axioms circle_area
end BuildersReal
end G3D
