import G3D.Extracted.Mmeas
import G3D.Proofs.MeasTieBase
import G3D.Proofs.MeasTieVolume
import G3D.Proofs.MeasTiePyramid
import G3D.Proofs.MeasTiePolyhedronVolume
/-! # mmeas, property C06 "`volume(x)` equals `x.volume()`"
    The function `volume` of calc/volume.py recomputes the height of a pyramid through `distance(point, plane)` (foot of the
    perpendicular from the plane's base point `plane.p`), the method `Pyramid.volume` measures it from `points[0]` along the
    re-normalised normal.  They agree as soon as `points[0]` lies in the stored plane and the stored normal is a unit vector
    `n/|n|`, `n ≠ 0` (`PyrWF`; no convexity, no hypothesis on the centre): `volume_fn_eq_method_pyramid_real`,
    `volume_fn_eq_method_polyhedron_real` — statements about the GENERATED definitions only.
    The model-level forms (`…_pyramid`, `…_polyhedron`) follow for pyramids on `Valid` polygons. -/
namespace G3D.MeasTie.VolumeEq
open G3D G3D.MeasRt G3D.KTie G3D.Extracted G3D.MeasTie Real

/-- the stored normal is `n/|n|` for some `n ≠ 0`, and `points[0]` lies in the plane `(plane.p, n)` -/
def PyrWF (M : MPyramid) : Prop :=
  ∃ n : RVec, n ≠ RVec.zero ∧ M.convex_polygon.plane.n = vNormalized n ∧
    RVec.dot n (RVec.sub (pyGetD M.convex_polygon.points 0 RVec.zero) M.convex_polygon.plane.p) = 0

section height
/-- the two ways of computing the height agree -/
theorem distance_eq_height (M : MPyramid) (h : PyrWF M) :
    distPointPlane M.point M.convex_polygon.plane = m_Pyramid_height M := by
  obtain ⟨n, hn, hst, h0⟩ := h
  obtain ⟨⟨pts, c, ⟨p, m⟩⟩, apex⟩ := M
  simp only at hst h0 ⊢
  subst hst
  rw [distPointPlane_unit _ _ _ hn, Pyramid.m_Pyramid_height_real _ _ _ _ _ hn]
  congr 2
  simp only [RVec.dot, RVec.sub] at h0 ⊢
  linear_combination h0
end height

section pyramid
/-- **`volume(p) = p.volume()` for a pyramid**, every recursion allowance ≥ 1 -/
theorem volume_fn_eq_method_pyramid_real (k : ℕ) (M : MPyramid) (h : PyrWF M) :
    m_volume (k + 1) (MObj.pyramid M) = .ok (m_Pyramid_volume M) := by
  rw [Volume.m_volume_pyramid_real, Pyramid.m_Pyramid_volume_unfold, distance_eq_height M h]

theorem pyrWF_of_valid (f : Polygon) (apex : V3) (hv : f.Valid) : PyrWF (pyrToM (f, apex)) := by
  have hn : f.plane.n ≠ V3.zero := Polygon.plane_WF f hv
  refine ⟨f.plane.n.toR, toR_nonzero hn, rfl, ?_⟩
  simp only [pyrToM, polyToM, planeToM]
  rw [pyGetD_zero_map, toR_sub, toR_dot, head_inPlane f hv, Rat.cast_zero]

/-- for a pyramid on a `Valid` polygon of the model -/
theorem volume_fn_eq_method_pyramid (k : ℕ) (f : Polygon) (apex : V3) (hv : f.Valid) :
    m_volume (k + 1) (MObj.pyramid (pyrToM (f, apex))) = .ok (m_Pyramid_volume (pyrToM (f, apex))) :=
  volume_fn_eq_method_pyramid_real k _ (pyrWF_of_valid f apex hv)
end pyramid

section polyhedron
/-- **`volume(b) = b.volume()` for a polyhedron**, every recursion allowance ≥ 2 (same iteration order of the set in both) -/
theorem volume_fn_eq_method_polyhedron_real (k : ℕ) (M : MPolyhedron) (h : ∀ p ∈ M.pyramid_set, PyrWF p) :
    m_volume (k + 2) (MObj.polyhedron M) = .ok (m_ConvexPolyhedron_volume M) := by
  rw [Volume.m_volume_polyhedron_real (k + 1) M m_Pyramid_volume
    (fun p hp => volume_fn_eq_method_pyramid_real k p (h p hp)), Polyhedron.m_ConvexPolyhedron_volume_sum]

/-- for a body of the model whose pyramids stand on `Valid` polygons -/
theorem volume_fn_eq_method_polyhedron (k : ℕ) (B : Polyhedron) (hp : ∀ pa ∈ B.pyramids, pa.1.Valid) :
    m_volume (k + 2) (MObj.polyhedron (bodyToM B)) = .ok (m_ConvexPolyhedron_volume (bodyToM B)) := by
  apply volume_fn_eq_method_polyhedron_real
  intro p hpm
  obtain ⟨pa, hpa, rfl⟩ := List.mem_map.mp hpm
  exact pyrWF_of_valid pa.1 pa.2 (hp pa hpa)
end polyhedron

#print axioms distance_eq_height
#print axioms volume_fn_eq_method_pyramid_real
#print axioms volume_fn_eq_method_pyramid
#print axioms volume_fn_eq_method_polyhedron_real
#print axioms volume_fn_eq_method_polyhedron
end G3D.MeasTie.VolumeEq
