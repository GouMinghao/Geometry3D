import G3D.Proofs.Euler1

/-! # Euler's polyhedron formula, part 2: a linear functional along a strictly convex cycle

    For a `Valid` polygon and a functional `d` that is injective on its vertices:
    * `Eu.corner` : the cyclic triples are positively oriented corners (`Eu.Corner`)
    * `Eu.corner_dot`, `Eu.corner_frame` : a vector of the plane in the frame of a corner
    * `Eu.local_min` : a vertex lower than both its neighbours is the lowest vertex (convexity)
    * `Eu.bottom_count` : exactly one cyclic triple is a local minimum
    * `Eu.face_count` : #ascending edges = 1 + #ascending corners (pred lower, succ higher) -/
namespace G3D
open V3

/-- the directed edge `e` ascends w.r.t. `d` -/
def Eu.ascE (d : V3) (e : V3 × V3) : Bool := decide (dot d e.1 < dot d e.2)
/-- the corner `(pred, v, succ)` is a local minimum of `d` -/
def Eu.bottomT (d : V3) (t : V3 × V3 × V3) : Bool := decide (dot d t.2.1 < dot d t.1 ∧ dot d t.2.1 < dot d t.2.2)
/-- the corner `(pred, v, succ)` ascends: `pred` lower, `succ` higher -/
def Eu.amT (d : V3) (t : V3 × V3 × V3) : Bool := decide (dot d t.1 < dot d t.2.1 ∧ dot d t.2.1 < dot d t.2.2)

structure Eu.Corner (P : Polygon) (t : V3 × V3 × V3) : Prop where
  pred : t.1 ∈ P.pts
  mid : t.2.1 ∈ P.pts
  succ : t.2.2 ∈ P.pts
  inEdge : (t.1, t.2.1) ∈ closedPairs P.pts
  outEdge : (t.2.1, t.2.2) ∈ closedPairs P.pts
  ne_pred : t.1 ≠ t.2.1
  ne_succ : t.2.1 ≠ t.2.2
  pos : 0 < orient P.plane.n t.1 t.2.1 t.2.2

theorem Eu.corner (P : Polygon) (hv : P.Valid) (t : V3 × V3 × V3) (ht : t ∈ Eu.cycTriples P.pts) :
    Eu.Corner P t := by
  obtain ⟨h1, h2⟩ := Eu.cycTriples_mem P.pts t ht
  have m1 := closedPairs_mem _ _ h1
  have m2 := closedPairs_mem _ _ h2
  have d2 := hv.edge_ne _ h2
  have d3 : t.2.2 ≠ t.1 := fun h => Polygon.no_rev_edge P hv _ h2 (h ▸ h1)
  obtain ⟨_, _, _, _, _, _, htp⟩ := id hv
  exact ⟨m1.1, m1.2, m2.2, h1, h2, hv.edge_ne _ h1, d2,
    (closed_edges_pos P.plane.n P.pts htp _ h1 t.2.2 m2.2).resolve_right fun h => h.elim d3 d2.symm⟩

/-- scalar form of the frame identity `(n.(a×b)) c = (n.(c×b)) a + (n.(a×c)) b + [a,b,c] n` -/
theorem Eu.corner_dot (n d a b c : V3) :
    dot n (cross a b) * dot d c =
      dot n (cross c b) * dot d a + dot n (cross a c) * dot d b + dot (cross a b) c * dot d n := by
  simp only [dot, cross]; ring

theorem Eu.orient_corner (n p v s : V3) : orient n p v s = dot n (cross (sub s v) (sub p v)) := by
  simp only [orient, dot, cross, sub]; ring

/-- in the plane of a valid polygon, relative to the corner `(p, v, s)`: for every point `w` of the plane
    `D (d.(w-v)) = X (d.(s-v)) + Y (d.(p-v))` with `D = orient n p v s`, `X = orient n p v w`, `Y = orient n v s w` -/
theorem Eu.corner_frame (P : Polygon) (hv : P.Valid) (p v s w d : V3) (hp : p ∈ P.pts) (hvm : v ∈ P.pts)
    (hs : s ∈ P.pts) (hw : G3D.inPlane P.plane.n P.plane.p w = true) :
    orient P.plane.n p v s * dot d (sub w v) =
      orient P.plane.n p v w * dot d (sub s v) + orient P.plane.n v s w * dot d (sub p v) := by
  have hn : P.plane.n ≠ zero := Polygon.plane_WF P hv
  obtain ⟨_, _, _, _, _, hpl, _⟩ := id hv
  have na : dot P.plane.n (sub s v) = 0 := inPlane_diff (hpl _ hvm) (hpl _ hs)
  have nb : dot P.plane.n (sub p v) = 0 := inPlane_diff (hpl _ hvm) (hpl _ hp)
  have nc : dot P.plane.n (sub w v) = 0 := inPlane_diff (hpl _ hvm) hw
  have htr := K3.trip_zero_of_perp P.plane.n (sub s v) (sub p v) (sub w v) hn na nb nc
  have h := Eu.corner_dot P.plane.n d (sub s v) (sub p v) (sub w v)
  rw [htr] at h
  have e3 : orient P.plane.n v s w = dot P.plane.n (cross (sub s v) (sub w v)) := rfl
  rw [Eu.orient_corner _ p v s, Eu.orient_corner _ p v w, e3, h]; ring

/-- **convexity**: a vertex lower than both its neighbours is a lowest vertex -/
theorem Eu.local_min (P : Polygon) (hv : P.Valid) (d : V3) (t : V3 × V3 × V3) (ht : t ∈ Eu.cycTriples P.pts)
    (h1 : dot d t.2.1 < dot d t.1) (h2 : dot d t.2.1 < dot d t.2.2) :
    ∀ w ∈ P.pts, dot d t.2.1 ≤ dot d w := by
  intro w hw
  have c := Eu.corner P hv t ht
  obtain ⟨_, _, _, _, _, hpl, htp⟩ := id hv
  have hX := closed_edges_nonneg P.plane.n P.pts htp _ c.inEdge w hw
  have hY := closed_edges_nonneg P.plane.n P.pts htp _ c.outEdge w hw
  have h := Eu.corner_frame P hv t.1 t.2.1 t.2.2 w d c.pred c.mid c.succ (hpl w hw)
  rw [dot_sub_right, dot_sub_right, dot_sub_right] at h
  simp only at hX hY
  have hr : 0 ≤ orient P.plane.n t.1 t.2.1 t.2.2 * (dot d w - dot d t.2.1) := by
    rw [h]
    exact add_nonneg (mul_nonneg hX (by linarith)) (mul_nonneg hY (by linarith))
  have := (mul_nonneg_iff_of_pos_left c.pos).mp hr
  linarith

/-- **convexity**: a vertex higher than both its neighbours is a highest vertex -/
theorem Eu.local_max (P : Polygon) (hv : P.Valid) (d : V3) (t : V3 × V3 × V3) (ht : t ∈ Eu.cycTriples P.pts)
    (h1 : dot d t.1 < dot d t.2.1) (h2 : dot d t.2.2 < dot d t.2.1) :
    ∀ w ∈ P.pts, dot d w ≤ dot d t.2.1 := by
  intro w hw
  have hn : ∀ x, dot (neg d) x = - dot d x := by intro x; simp only [dot, neg]; ring
  have := Eu.local_min P hv (neg d) t ht (by rw [hn, hn]; linarith) (by rw [hn, hn]; linarith) w hw
  rw [hn, hn] at this
  linarith

/-- exactly one corner of a valid polygon is a local minimum of a functional injective on the vertices -/
theorem Eu.bottom_count (P : Polygon) (hv : P.Valid) (d : V3)
    (hinj : ∀ u ∈ P.pts, ∀ w ∈ P.pts, u ≠ w → dot d u ≠ dot d w) :
    (Eu.cycTriples P.pts).countP (Eu.bottomT d) = 1 := by
  obtain ⟨p0, p1, p2, rest, hp, _, _⟩ := id hv
  have hne : P.pts ≠ [] := by rw [hp]; simp
  obtain ⟨m, hm, hmin⟩ := exists_max_of_list (fun x => - dot d x) P.pts hne
  have hmin' : ∀ w ∈ P.pts, dot d m ≤ dot d w := fun w hw => neg_le_neg_iff.mp (hmin w hw)
  have hchar : ∀ t ∈ Eu.cycTriples P.pts, Eu.bottomT d t = true ↔ (fun t : V3 × V3 × V3 => t.2.1 == m) t = true := by
    intro t ht
    have c := Eu.corner P hv t ht
    simp only [Eu.bottomT]
    rw [decide_eq_true_iff, beq_iff_eq]
    constructor
    · rintro ⟨h1, h2⟩
      have h3 := Eu.local_min P hv d t ht h1 h2 m hm
      have h4 := hmin' _ c.mid
      by_contra hne'
      exact hinj _ c.mid _ hm hne' (le_antisymm h3 h4)
    · intro h
      subst h
      exact ⟨lt_of_le_of_ne (hmin' _ c.pred) (hinj _ c.mid _ c.pred c.ne_pred.symm),
        lt_of_le_of_ne (hmin' _ c.succ) (hinj _ c.mid _ c.succ c.ne_succ)⟩
  rw [List.countP_congr hchar]
  have hmid : (Eu.cycTriples P.pts).countP (fun t => t.2.1 == m) =
      ((Eu.cycTriples P.pts).map (fun t => t.2.1)).count m := by
    rw [List.count, List.countP_map]; rfl
  rw [hmid, hp, (Eu.cycTriples_mid_perm p0 p1 (p2 :: rest)).count_eq, ← hp]
  exact List.count_eq_one_of_mem hv.nodup hm

/-- **per face**: the number of ascending edges is one plus the number of ascending corners -/
theorem Eu.face_count (P : Polygon) (hv : P.Valid) (d : V3)
    (hinj : ∀ u ∈ P.pts, ∀ w ∈ P.pts, u ≠ w → dot d u ≠ dot d w) :
    (closedPairs P.pts).countP (Eu.ascE d) = 1 + (Eu.cycTriples P.pts).countP (Eu.amT d) := by
  obtain ⟨p0, p1, p2, rest, hp, _, _⟩ := id hv
  have h1 : (closedPairs P.pts).countP (Eu.ascE d) =
      (Eu.cycTriples P.pts).countP (fun t => Eu.ascE d (t.2.1, t.2.2)) := by
    rw [hp, ← (Eu.cycTriples_right_perm p0 p1 (p2 :: rest)).countP_eq, List.countP_map]; rfl
  -- split the corners with an ascending outgoing edge by whether `pred` is above or below the middle vertex
  rw [h1, ← Eu.bottom_count P hv d hinj,
    List.countP_eq_countP_filter_add _ _ (fun t => decide (dot d t.2.1 < dot d t.1)),
    List.countP_filter, List.countP_filter]
  congr 1
  · apply List.countP_congr
    intro t _
    simp only [Eu.ascE, Eu.bottomT, Bool.and_eq_true, decide_eq_true_iff, and_comm]
  · apply List.countP_congr
    intro t ht
    have c := Eu.corner P hv t ht
    have hne := hinj _ c.pred _ c.mid c.ne_pred
    simp only [Eu.ascE, Eu.amT, Bool.and_eq_true, Bool.not_eq_true', decide_eq_false_iff_not, decide_eq_true_iff,
      not_lt]
    exact ⟨fun h => ⟨lt_of_le_of_ne h.2 hne, h.1⟩, fun h => ⟨h.2, h.1.le⟩⟩
#print axioms Eu.face_count

end G3D
