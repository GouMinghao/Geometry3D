import G3D.Extracted.Mmeas
import G3D.Proofs.MeasTieBase
import G3D.Proofs.MeasTiePolygon
/-! # mmeas, `ConvexPolyhedron.area`  (C06)
    `G3D.Extracted.m_ConvexPolyhedron_area` is regenerated on every run by tools/extract_mmeas.py from the BODY in
    geometry/polyhedron.py: `a = 0; for polygon in self.convex_polygons: a += polygon.area(); return a`.
    For a body all of whose faces are `MeasOK` (Valid, stored centre in the plane) it is `Σ_faces areaNum / (2·√(n·n))`.
    Imports the tie of `ConvexPolygon.area` because the Python delegates to it. -/
namespace G3D.MeasTie.Polyhedron
open G3D G3D.MeasRt G3D.KTie G3D.Extracted G3D.MeasTie Real

section area
/-- the accumulator loop is the sum of the face areas -/
theorem m_ConvexPolyhedron_area_sum (M : MPolyhedron) :
    m_ConvexPolyhedron_area M = (M.convex_polygons.map m_ConvexPolygon_area).sum := by
  simp only [m_ConvexPolyhedron_area]
  rw [foldl_add_sum, zero_add]

/-- **`ConvexPolyhedron.area()` = Σ_faces areaNum / (2·√(n·n))** (the model's `faceAreaNums`) -/
theorem m_ConvexPolyhedron_area_tie (B : Polyhedron) (hf : ∀ f ∈ B.faces, MeasOK f) :
    m_ConvexPolyhedron_area (bodyToM B)
      = (B.faceAreaNums.map (fun an => ((an.1 : ℚ) : ℝ) / (2 * √((an.2 : ℚ) : ℝ)))).sum := by
  rw [m_ConvexPolyhedron_area_sum]
  simp only [bodyToM]
  unfold Polyhedron.faceAreaNums
  rw [List.map_map, List.map_map]
  exact congrArg List.sum (List.map_congr_left fun f hfm => Polygon.m_ConvexPolygon_area_tie f (hf f hfm))
end area

#print axioms m_ConvexPolyhedron_area_sum
#print axioms m_ConvexPolyhedron_area_tie
end G3D.MeasTie.Polyhedron
