import G3D.Model.TolGeo
import Mathlib.Tactic.Ring
import Mathlib.Tactic.Linarith
import Mathlib.Tactic.Positivity
import Mathlib.Tactic.FieldSimp

/-! Algebra behind the tolerance predicates: Lagrange / Cauchy–Schwarz for `R3`, the length
    function, coordinate-wise (sup-norm) bounds, the two-sided estimate for the last comparison of
    `Vector.parallel`, and the effect of `normalized()` on a perturbed vector. -/
namespace G3D.TolGeo
open R3

theorem dot_self_nonneg (a : R3) : 0 ≤ dot a a :=
  add_nonneg (add_nonneg (mul_self_nonneg _) (mul_self_nonneg _)) (mul_self_nonneg _)

theorem len_nonneg (a : R3) : 0 ≤ len a := Real.sqrt_nonneg _

theorem len_mul_self (a : R3) : len a * len a = dot a a :=
  Real.mul_self_sqrt (dot_self_nonneg a)

theorem len_pos {a : R3} : 0 < len a ↔ 0 < dot a a := Real.sqrt_pos

/-- `c ≤ |a|` from `c² ≤ a·a` -/
theorem le_len {a : R3} {c : ℝ} (h : c * c ≤ dot a a) : c ≤ len a :=
  Real.le_sqrt_of_sq_le ((sq c).trans_le h)

theorem mul_self_le_dot {a : R3} {c : ℝ} (hc : 0 ≤ c) (h : c ≤ len a) : c * c ≤ dot a a :=
  len_mul_self a ▸ mul_self_le_mul_self hc h

/-- `|a| ≤ c` from `a·a ≤ c²` -/
theorem len_le {a : R3} {c : ℝ} (hc : 0 ≤ c) (h : dot a a ≤ c * c) : len a ≤ c :=
  (Real.sqrt_le_left hc).2 (h.trans_eq (sq c).symm)

theorem dot_sub_self (a b : R3) : dot (sub a b) (sub a b) = dot a a + dot b b - 2 * dot a b := by
  simp only [dot, sub]; ring

/-- Lagrange's identity `|a|²|b|² − (a·b)² = |a × b|²` -/
theorem lagrange (a b : R3) :
    dot a a * dot b b - (dot a b) ^ 2 = dot (cross a b) (cross a b) := by
  simp only [dot, cross]; ring

/-- Cauchy–Schwarz with the code's lengths -/
theorem abs_dot_le (a b : R3) : |dot a b| ≤ len a * len b := by
  unfold len
  rw [← Real.sqrt_mul (dot_self_nonneg a)]
  exact Real.abs_le_sqrt (by linarith [lagrange a b, dot_self_nonneg (cross a b)])

theorem cross_sq_le (a b : R3) : dot (cross a b) (cross a b) ≤ dot a a * dot b b := by
  linarith [lagrange a b, sq_nonneg (dot a b)]

/-- reverse triangle inequality for the code's length -/
theorem abs_len_sub_len_le (a b : R3) : |len a - len b| ≤ len (sub a b) := by
  apply Real.abs_le_sqrt
  have h := (le_abs_self _).trans (abs_dot_le a b)
  rw [dot_sub_self, sub_sq, sq, sq, len_mul_self, len_mul_self]
  linarith

theorem dot_add_self_le (u v : R3) : dot (add u v) (add u v) ≤ 2 * dot u u + 2 * dot v v := by
  have e : dot (add u v) (add u v) + dot (sub u v) (sub u v) = 2 * dot u u + 2 * dot v v := by
    simp only [dot, add, sub]; ring
  linarith [dot_self_nonneg (sub u v)]

theorem dot_add_self_ge (u g : R3) : dot u u / 2 - dot g g ≤ dot (add u g) (add u g) := by
  have e : dot (add u g) (add u g) - (dot u u / 2 - dot g g)
      = dot (add u (smul 2 g)) (add u (smul 2 g)) / 2 := by
    simp only [dot, add, smul]; ring
  linarith [dot_self_nonneg (add u (smul 2 g))]

theorem dot_smul_self (t : ℝ) (d : R3) : dot (smul t d) (smul t d) = t ^ 2 * dot d d := by
  simp only [dot, smul]; ring

theorem add_smul_zero (a v : R3) : add a (smul 0 v) = a := by
  ext <;> simp only [add, smul, zero_mul, add_zero]

theorem add_smul_one_sub (a b : R3) : add a (smul 1 (sub b a)) = b := by
  ext <;> simp only [add, smul, sub, one_mul, add_sub_cancel]

def coordLe (c : ℝ) (a : R3) : Prop := |a.x| ≤ c ∧ |a.y| ≤ c ∧ |a.z| ≤ c

theorem coordLe.nonneg {c : ℝ} {a : R3} (h : coordLe c a) : 0 ≤ c := (abs_nonneg _).trans h.1

theorem coordLe.mono {c d : ℝ} {a : R3} (h : coordLe c a) (hcd : c ≤ d) : coordLe d a :=
  ⟨h.1.trans hcd, h.2.1.trans hcd, h.2.2.trans hcd⟩

theorem coordLe.add {c d : ℝ} {a b : R3} (ha : coordLe c a) (hb : coordLe d b) :
    coordLe (c + d) (add a b) :=
  ⟨(abs_add_le _ _).trans (add_le_add ha.1 hb.1), (abs_add_le _ _).trans (add_le_add ha.2.1 hb.2.1),
    (abs_add_le _ _).trans (add_le_add ha.2.2 hb.2.2)⟩

theorem abs_mul_le_mul {a b A B : ℝ} (ha : |a| ≤ A) (hb : |b| ≤ B) : |a * b| ≤ A * B := by
  rw [abs_mul]; exact mul_le_mul ha hb (abs_nonneg _) ((abs_nonneg _).trans ha)

theorem coordLe.smul {c k m : ℝ} {a : R3} (hk : |k| ≤ m) (ha : coordLe c a) :
    coordLe (m * c) (smul k a) :=
  ⟨abs_mul_le_mul hk ha.1, abs_mul_le_mul hk ha.2.1, abs_mul_le_mul hk ha.2.2⟩

theorem coordLe_len (a : R3) : coordLe (len a) a := by
  have hx := mul_self_nonneg a.x
  have hy := mul_self_nonneg a.y
  have hz := mul_self_nonneg a.z
  refine ⟨?_, ?_, ?_⟩ <;> apply Real.abs_le_sqrt <;> rw [sq, dot] <;> linarith

/-- `|a·b| ≤ 3·c·m` when the coordinates of `a` are within `c` and those of `b` within `m` -/
theorem abs_dot_le_of_coord {a b : R3} {c m : ℝ} (ha : coordLe c a) (hb : coordLe m b) :
    |dot a b| ≤ 3 * (c * m) := by
  have := abs_add_three (a.x * b.x) (a.y * b.y) (a.z * b.z)
  have := abs_mul_le_mul ha.1 hb.1
  have := abs_mul_le_mul ha.2.1 hb.2.1
  have := abs_mul_le_mul ha.2.2 hb.2.2
  unfold dot; linarith

/-- `a·a ≤ 3c²` when all coordinates are within `c` -/
theorem dot_self_le_of_coord {a : R3} {c : ℝ} (h : coordLe c a) : dot a a ≤ 3 * (c * c) :=
  (le_abs_self _).trans (abs_dot_le_of_coord h h)

theorem len_le_of_coord {a : R3} {c : ℝ} (h : coordLe c a) : len a ≤ 2 * c :=
  len_le (by linarith [h.nonneg]) (by linarith [dot_self_le_of_coord h, mul_self_nonneg c])

theorem cross_coord_le {b c : R3} {B C : ℝ} (hb : coordLe B b) (hc : coordLe C c) :
    coordLe (2 * (B * C)) (cross b c) := by
  refine ⟨?_, ?_, ?_⟩ <;> refine (abs_sub _ _).trans ?_ <;> rw [two_mul] <;> apply add_le_add <;>
    apply abs_mul_le_mul
  exacts [hb.2.1, hc.2.2, hb.2.2, hc.2.1, hb.2.2, hc.1, hb.1, hc.2.2, hb.1, hc.2.1, hb.2.1, hc.1]

/-! ### the last comparison of `Vector.parallel`

    With `p = |a||b|`, `q = |a·b|` the compared quantity is `p − q`, and `(p − q)(p + q) = |a × b|²` by Lagrange;
    `p ≤ p + q ≤ 2p` turns the comparison into a bound on the cross product, up to a factor 2. -/

theorem sq_sub_sq_eq_cross (a b : R3) :
    (len a * len b) ^ 2 - |dot a b| ^ 2 = dot (cross a b) (cross a b) := by
  rw [mul_pow, sq_abs, sq (len a), sq (len b), len_mul_self, len_mul_self, lagrange]

theorem parallel_core {eps : ℝ} {a b : R3} (ha : 0 < dot a a) (hb : 0 < dot b b)
    (h : dot (cross a b) (cross a b) < eps * dot a a * len b) :
    |(|dot a b|) - len a * len b| < eps * len a := by
  have hp : 0 < len a * len b := mul_pos (len_pos.2 ha) (len_pos.2 hb)
  have hqp := abs_dot_le a b
  have hc := sq_sub_sq_eq_cross a b
  have hpq : 0 ≤ (len a * len b - |dot a b|) * |dot a b| :=
    mul_nonneg (sub_nonneg.2 hqp) (abs_nonneg _)
  rw [abs_sub_comm, abs_of_nonneg (sub_nonneg.2 hqp)]
  refine lt_of_mul_lt_mul_right ?_ hp.le
  rw [← len_mul_self a] at h
  linarith

theorem cross_lt_of_parallel {eps : ℝ} {a b : R3} (ha : 0 < dot a a) (hb : 0 < dot b b)
    (h : |(|dot a b|) - len a * len b| < eps * len a) :
    dot (cross a b) (cross a b) < 2 * eps * dot a a * len b := by
  have hp : 0 < len a * len b := mul_pos (len_pos.2 ha) (len_pos.2 hb)
  have hqp := abs_dot_le a b
  have hc := sq_sub_sq_eq_cross a b
  have hpq : 0 ≤ (len a * len b - |dot a b|) * (len a * len b - |dot a b|) := mul_self_nonneg _
  rw [abs_sub_comm, abs_of_nonneg (sub_nonneg.2 hqp)] at h
  have := mul_lt_mul_of_pos_right h hp
  rw [← len_mul_self a]
  linarith

/-- `|a × b|² ≤ 2|e|²|d|² + 2|a|²|f|²` for `a = t·d + e`, `b = d + f`
    (`a × b = e × d + a × f` because `d × d = 0`) -/
theorem cross_perturbed_le (t : ℝ) (d e f : R3) :
    dot (cross (add (smul t d) e) (add d f)) (cross (add (smul t d) e) (add d f))
      ≤ 2 * (dot e e * dot d d) + 2 * (dot (add (smul t d) e) (add (smul t d) e) * dot f f) := by
  have e1 : cross (add (smul t d) e) (add d f) = add (cross e d) (cross (add (smul t d) e) f) := by
    ext <;> simp only [cross, add, smul] <;> ring
  rw [e1]
  linarith [dot_add_self_le (cross e d) (cross (add (smul t d) e) f), cross_sq_le e d,
    cross_sq_le (add (smul t d) e) f]

/-! ### perturbed copies -/

/-- every coordinate of `b` differs from that of `a` by at most `δ` -/
def closeBy (δ : ℝ) (a b : R3) : Prop :=
  |b.x - a.x| ≤ δ ∧ |b.y - a.y| ≤ δ ∧ |b.z - a.z| ≤ δ

theorem closeBy.symm {δ : ℝ} {a b : R3} (h : closeBy δ a b) : closeBy δ b a := by
  unfold closeBy at *
  rw [abs_sub_comm a.x, abs_sub_comm a.y, abs_sub_comm a.z]; exact h

theorem closeBy.sub_coord {δ : ℝ} {a b : R3} (h : closeBy δ a b) : coordLe δ (sub b a) := h

theorem closeBy.mono {δ ε : ℝ} {a b : R3} (h : closeBy δ a b) (hle : δ ≤ ε) : closeBy ε a b :=
  coordLe.mono (a := sub b a) h hle

/-- the difference of two δ-perturbed points is a 2δ-perturbed vector -/
theorem closeBy.sub {δ : ℝ} {a a' b b' : R3} (ha : closeBy δ a a') (hb : closeBy δ b b') :
    closeBy (2 * δ) (sub b a) (sub b' a') := by
  have m : ∀ x x' y y' : ℝ, |x' - x| ≤ δ → |y' - y| ≤ δ → |y' - x' - (y - x)| ≤ 2 * δ := by
    intro x x' y y' hx hy
    rw [show y' - x' - (y - x) = (y' - y) - (x' - x) by ring]
    linarith [abs_sub (y' - y) (x' - x)]
  exact ⟨m _ _ _ _ ha.1 hb.1, m _ _ _ _ ha.2.1 hb.2.1, m _ _ _ _ ha.2.2 hb.2.2⟩

theorem closeBy.sub_left {δ : ℝ} {a b : R3} (h : closeBy δ a b) (x : R3) : closeBy δ (R3.sub x a) (R3.sub x b) := by
  refine ⟨?_, ?_, ?_⟩ <;> simp only [R3.sub] <;> rw [sub_sub_sub_cancel_left, abs_sub_comm]
  exacts [h.1, h.2.1, h.2.2]

theorem closeBy.coordLe {δ c : ℝ} {a b : R3} (h : closeBy δ a b) (ha : coordLe c a) :
    coordLe (c + δ) b := by
  have m : ∀ x y : ℝ, |x| ≤ c → |y - x| ≤ δ → |y| ≤ c + δ := fun x y hx hy => by
    linarith [abs_sub_abs_le_abs_sub y x]
  exact ⟨m _ _ ha.1 h.1, m _ _ ha.2.1 h.2.1, m _ _ ha.2.2 h.2.2⟩

/-- all coordinates of `r' − r` within `γ` ⇒ `| |r'| − |r| | ≤ 2γ` -/
theorem len_close {r r' : R3} {γ : ℝ} (h : closeBy γ r r') : |len r' - len r| ≤ 2 * γ :=
  (abs_len_sub_len_le r' r).trans (len_le_of_coord h.sub_coord)

theorem len_ge_of_close {r r' : R3} {γ c : ℝ} (h : closeBy γ r r') (hr : c + 2 * γ ≤ len r) :
    c ≤ len r' := by
  linarith [(abs_le.1 (len_close h)).1]

/-! ### `normalized()` of a perturbed vector -/

theorem scalar_normalized_close {L L' u u' γ ρ : ℝ} (hρ : 0 < ρ) (hL : ρ ≤ L) (hL' : 0 < L')
    (hu : |u' - u| ≤ γ) (hu' : |u'| ≤ L') (hLL : |L' - L| ≤ 2 * γ) :
    |1 / L' * u' - 1 / L * u| ≤ 3 * γ / ρ := by
  have hL0 : 0 < L := hρ.trans_le hL
  have hγ : 0 ≤ γ := (abs_nonneg _).trans hu
  have e : 1 / L' * u' - 1 / L * u = ((u' - u) + (L - L') * (u' / L')) / L := by
    field_simp; ring
  have h1 : |u' / L'| ≤ 1 := by rw [abs_div, abs_of_pos hL']; exact (div_le_one hL').2 hu'
  have h2 : |(L - L') * (u' / L')| ≤ 2 * γ * 1 := abs_mul_le_mul (abs_sub_comm L L' ▸ hLL) h1
  rw [e, abs_div, abs_of_pos hL0]
  exact div_le_div₀ (by linarith) (by linarith [abs_add_le (u' - u) ((L - L') * (u' / L'))]) hρ hL

theorem normalized_closeBy {r r' : R3} {γ ρ : ℝ} (hρ : 0 < ρ) (hL : ρ ≤ len r) (hL' : 0 < len r')
    (h : closeBy γ r r') : closeBy (3 * γ / ρ) (normalized r) (normalized r') :=
  have hLL := len_close h
  ⟨scalar_normalized_close hρ hL hL' h.1 (coordLe_len r').1 hLL,
    scalar_normalized_close hρ hL hL' h.2.1 (coordLe_len r').2.1 hLL,
    scalar_normalized_close hρ hL hL' h.2.2 (coordLe_len r').2.2 hLL⟩

/-- a normalised vector has unit length -/
theorem normalized_dot_self {r : R3} (hr : 0 < dot r r) : dot (normalized r) (normalized r) = 1 := by
  have hL := len_pos.2 hr
  rw [normalized, dot_smul_self, ← len_mul_self r]; field_simp

theorem normalized_coord_le {r : R3} (hr : 0 < dot r r) : coordLe 1 (normalized r) := by
  have h := coordLe_len (normalized r)
  rwa [len, normalized_dot_self hr, Real.sqrt_one] at h

end G3D.TolGeo
