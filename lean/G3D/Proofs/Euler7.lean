import G3D.Proofs.Euler6

/-! # Euler's polyhedron formula, part 7: variants of the statement and concrete instances

    * `Eu.nodupB` : Bool judge of the additional hypothesis; `Polyhedron.euler_of_judges`
    * `Polyhedron.euler_of_exactHyp` : the statement for `ExactHyp` bodies with an interior point
    * the unit cube `cubeE`, a skew pyramid: hypotheses and counts by kernel evaluation
    * `Eu.doubleCube` : the face list of the cube repeated twice is `Valid` and `FaceLocal` but has
      `V - E + F = 8` — the hypothesis "every directed edge occurs once" cannot be dropped -/
namespace G3D
open V3

/-- Bool judge: every directed edge occurs once -/
def Eu.nodupB (B : Polyhedron) : Bool := decide (B.dirEdgesB.Nodup)

theorem Eu.nodup_of_B (B : Polyhedron) (h : Eu.nodupB B = true) : (dirEdges (B.faces.map (·.pts))).Nodup := by
  rw [← B.dirEdgesB_eq]; exact of_decide_eq_true h

/-- Euler's formula from the three Bool judges -/
theorem Polyhedron.euler_of_judges (B : Polyhedron) (h1 : B.validB = true) (h2 : B.faceLocalB = true)
    (h3 : Eu.nodupB B = true) :
    ((collectVerts B.faces).length : Int) - (edgesOf B.faces []).length + B.faces.length = 2 :=
  B.euler (B.valid_of_validB h1) (B.faceLocal_of_faceLocalB h2) (Eu.nodup_of_B B h3)

/-- Euler's formula for `ExactHyp` bodies with an interior point -/
theorem Polyhedron.euler_of_exactHyp (B : Polyhedron) (hE : B.ExactHyp) (ho : ∃ o : V3, ∀ f ∈ B.faces, f.side o < 0)
    (hnd : (dirEdges (B.faces.map (·.pts))).Nodup) :
    ((collectVerts B.faces).length : Int) - (edgesOf B.faces []).length + B.faces.length = 2 :=
  B.euler ⟨hE.proper.core.nonempty, hE.proper.core.faces_valid, hE.proper.core.center_in_plane,
    hE.proper.core.pts_sub, hE.proper.core.verts_inside, hE.proper.core.closed, ho⟩ hE.proper.faceLocal hnd

/-! ### the unit cube -/
theorem Eu.judges_congr (B B' : Polyhedron) (hf : B.faces = B'.faces) (hv : B.verts = B'.verts) :
    B.validB = B'.validB ∧ B.faceLocalB = B'.faceLocalB := by
  simp only [Polyhedron.validB, Polyhedron.validCoreB, Polyhedron.interiorB, Polyhedron.dirEdgesB,
    Polyhedron.faceLocalB, hf, hv, and_self]

theorem Eu.cubeE_judges : cubeE.validB = true ∧ cubeE.faceLocalB = true ∧ Eu.nodupB cubeE = true ∧
    (collectVerts cubeE.faces).length = 8 ∧ (edgesOf cubeE.faces []).length = 12 ∧ cubeE.faces.length = 6 :=
  have c := Eu.judges_congr cubeE unitCube rfl rfl
  ⟨c.1.trans unitCube_validB.1, c.2.trans unitCube_validB.2.2, by decide +kernel⟩

example : cubeE.validB = true ∧ cubeE.faceLocalB = true ∧ Eu.nodupB cubeE = true ∧
    (collectVerts cubeE.faces).length = 8 ∧ (edgesOf cubeE.faces []).length = 12 ∧ cubeE.faces.length = 6 :=
  Eu.cubeE_judges

theorem Eu.cubeE_euler :
    ((collectVerts cubeE.faces).length : Int) - (edgesOf cubeE.faces []).length + cubeE.faces.length = 2 :=
  cubeE.euler_of_judges Eu.cubeE_judges.1 Eu.cubeE_judges.2.1 Eu.cubeE_judges.2.2.1

/-! ### a skew pyramid: square base, apex off centre -/
def Eu.skewPyramid : Polyhedron := polyOfCycles
  [ [⟨0,0,0⟩, ⟨0,2,0⟩, ⟨2,2,0⟩, ⟨2,0,0⟩],
    [⟨0,2,0⟩, ⟨0,0,0⟩, ⟨1/2,1/3,3⟩], [⟨2,2,0⟩, ⟨0,2,0⟩, ⟨1/2,1/3,3⟩],
    [⟨2,0,0⟩, ⟨2,2,0⟩, ⟨1/2,1/3,3⟩], [⟨0,0,0⟩, ⟨2,0,0⟩, ⟨1/2,1/3,3⟩] ]

theorem Eu.skewPyramid_judges :
    Eu.skewPyramid.validB = true ∧ Eu.skewPyramid.faceLocalB = true ∧ Eu.nodupB Eu.skewPyramid = true ∧
    (collectVerts Eu.skewPyramid.faces).length = 5 ∧ (edgesOf Eu.skewPyramid.faces []).length = 8 ∧
    Eu.skewPyramid.faces.length = 5 := by
  decide +kernel

example : Eu.skewPyramid.validB = true ∧ Eu.skewPyramid.faceLocalB = true ∧ Eu.nodupB Eu.skewPyramid = true ∧
    (collectVerts Eu.skewPyramid.faces).length = 5 ∧ (edgesOf Eu.skewPyramid.faces []).length = 8 ∧
    Eu.skewPyramid.faces.length = 5 :=
  Eu.skewPyramid_judges

theorem Eu.skewPyramid_euler :
    ((collectVerts Eu.skewPyramid.faces).length : Int) - (edgesOf Eu.skewPyramid.faces []).length +
      Eu.skewPyramid.faces.length = 2 :=
  Eu.skewPyramid.euler_of_judges Eu.skewPyramid_judges.1 Eu.skewPyramid_judges.2.1 Eu.skewPyramid_judges.2.2.1

/-! ### the additional hypothesis is necessary -/
/-- the unit cube with its face list repeated twice -/
def Eu.doubleCube : Polyhedron := { unitCube with faces := unitCube.faces ++ unitCube.faces }

/-- every condition but `nonempty` and `closed` speaks of single faces, and the directed edges of the doubled list are
    those of the list, twice -/
theorem Eu.valid_double (B : Polyhedron) (hV : B.Valid) (hloc : B.FaceLocal) :
    ({ B with faces := B.faces ++ B.faces } : Polyhedron).Valid ∧
      ({ B with faces := B.faces ++ B.faces } : Polyhedron).FaceLocal := by
  have mem : ∀ {f : Polygon}, f ∈ B.faces ++ B.faces → f ∈ B.faces := fun h => (List.mem_append.mp h).elim id id
  refine ⟨⟨List.append_ne_nil_of_left_ne_nil hV.nonempty _, fun f hf => hV.faces_valid f (mem hf),
    fun f hf => hV.center_in_plane f (mem hf), fun f hf => hV.pts_sub f (mem hf),
    fun f hf => hV.verts_inside f (mem hf), ?_, hV.interior.imp fun _ ho f hf => ho f (mem hf)⟩, fun f hf e he => ?_⟩
  · show List.Perm (dirEdges ((B.faces ++ B.faces).map (·.pts))) _
    unfold dirEdges
    rw [List.map_append, List.flatMap_append, List.map_append]
    exact hV.closed.append hV.closed
  · obtain ⟨g, hg, h⟩ := hloc f (mem hf) e he
    exact ⟨g, List.mem_append_left _ hg, h⟩

/-- `Valid` and `FaceLocal` alone do not imply Euler's formula -/
theorem Eu.doubleCube_counterexample :
    Eu.doubleCube.Valid ∧ Eu.doubleCube.FaceLocal ∧ Eu.nodupB Eu.doubleCube = false ∧
    ((collectVerts Eu.doubleCube.faces).length : Int) - (edgesOf Eu.doubleCube.faces []).length +
      Eu.doubleCube.faces.length = 8 :=
  have h := Eu.valid_double unitCube (unitCube.valid_of_validB unitCube_validB.1)
    (unitCube.faceLocal_of_faceLocalB unitCube_validB.2.2)
  ⟨h.1, h.2, by decide +kernel, by decide +kernel⟩

/-! ### the additional hypothesis from "different entries of the face list have different hulls" -/

/-- two faces of a valid `FaceLocal` body with a common DIRECTED edge have the same hull
    (`K4.FacetBody.edge_unique` for `Valid ∧ FaceLocal` bodies) -/
theorem Eu.edge_unique (B : Polyhedron) (hV : B.Valid) (hloc : B.FaceLocal) (h1 h2 : Polygon)
    (hh1 : h1 ∈ B.faces) (hh2 : h2 ∈ B.faces) (e : V3 × V3) (he1 : e ∈ closedPairs h1.pts)
    (he2 : e ∈ closedPairs h2.pts) : ∀ x, InHull h1.pts x ↔ InHull h2.pts x := by
  have hP := hV.proper hloc
  obtain ⟨o, ho⟩ := hV.interior
  exact K4.same_hull_of_common_edge h1 h2 (hV.faces_valid h1 hh1) (hV.faces_valid h2 hh2) e he1 he2
    (hP.face_iff h1 hh1) (hP.face_iff h2 hh2) (fun x hx => (B.contains_iff_side x).mp hx h1 hh1)
    (fun x hx => (B.contains_iff_side x).mp hx h2 hh2) o (ho h2 hh2).ne

/-- **Euler's formula**, geometric form of the additional hypothesis: no two entries of the face list are the same
    facet; then every directed edge occurs once -/
theorem Polyhedron.euler_of_distinct (B : Polyhedron) (hV : B.Valid) (hloc : B.FaceLocal)
    (hdist : B.faces.Pairwise (fun h1 h2 => ¬ ∀ x, InHull h1.pts x ↔ InHull h2.pts x)) :
    ((collectVerts B.faces).length : Int) - (edgesOf B.faces []).length + B.faces.length = 2 :=
  B.euler hV hloc (K4.FacetBody.dirEdges_nodup_of B (fun h hh => (hV.faces_valid h hh).nodup) hdist
    (fun h1 hh1 h2 hh2 e => Eu.edge_unique B hV hloc h1 h2 hh1 hh2 e))
#print axioms Polyhedron.euler_of_distinct
#print axioms Eu.doubleCube_counterexample
#print axioms Eu.cubeE_euler

end G3D
