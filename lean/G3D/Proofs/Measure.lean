import G3D.Model.Measure
import G3D.Proofs.PolygonMem

namespace G3D
open V3

/-- componentwise sum of vectors -/
def vsum (l : List V3) : V3 := ⟨(l.map V3.x).sum, (l.map V3.y).sum, (l.map V3.z).sum⟩

theorem vsum_nil : vsum [] = zero := rfl
theorem vsum_cons (a : V3) (l : List V3) : vsum (a :: l) = add a (vsum l) := rfl

theorem Meas.absQ_eq_abs (x : Rat) : absQ x = |x| := by
  rcases lt_or_ge x 0 with h | h
  · rw [absQ, if_pos h, abs_of_neg h]
  · rw [absQ, if_neg (not_lt.mpr h), abs_of_nonneg h]

theorem absQ_neg (x : Rat) : absQ (-x) = absQ x := by
  rw [Meas.absQ_eq_abs, Meas.absQ_eq_abs, abs_neg]

theorem Meas.absQ_of_nonneg {x : Rat} (h : 0 ≤ x) : absQ x = x := by
  rw [Meas.absQ_eq_abs, abs_of_nonneg h]

theorem Meas.dot_smul_right (a n : V3) (k : Rat) : dot a (smul k n) = k * dot n a := by
  simp only [dot, smul]; ring

theorem Meas.dot_sub_split (n a b c : V3) : dot n (sub a c) = dot n (sub a b) + dot n (sub b c) := by
  simp only [dot, sub]; ring

/-- telescoping along a path: Σ (b - a) over consecutive pairs = last - first -/
theorem consec_diff_sum (p : V3) (l : List V3) (q : V3) :
    vsum ((G3D.consec (p :: l ++ [q])).map (fun e => sub e.2 e.1)) = sub q p := by
  induction l generalizing p with
  | nil => apply V3.ext' <;> exact add_zero _
  | cons a l ih =>
    rw [List.cons_append, List.cons_append, consec, List.map_cons, vsum_cons, ← List.cons_append, ih a]
    apply V3.ext' <;> exact sub_add_sub_cancel' _ _ _

theorem closed_diff_sum (l : List V3) : vsum ((G3D.closedPairs l).map (fun e => sub e.2 e.1)) = zero := by
  cases l with
  | nil => rfl
  | cons p ps => exact (consec_diff_sum p ps p).trans (by apply V3.ext' <;> exact sub_self _)

theorem dot_vsum (n : V3) (l : List V3) : dot n (vsum l) = (l.map (dot n)).sum := by
  induction l with
  | nil => simp only [vsum_nil, dot, zero, mul_zero, add_zero, List.map_nil, List.sum_nil]
  | cons a l ih => rw [vsum_cons, List.map_cons, List.sum_cons, ← ih]; simp only [dot, add]; ring

theorem cross_vsum (c : V3) (l : List V3) : cross c (vsum l) = vsum (l.map (cross c)) := by
  induction l with
  | nil => apply V3.ext' <;> simp only [cross, vsum_nil, zero, mul_zero, sub_self, List.map_nil]
  | cons a l ih =>
    rw [vsum_cons, List.map_cons, vsum_cons, ← ih]
    apply V3.ext' <;> simp only [cross, add] <;> ring

/-- the fan sum does not depend on the fan centre: Σ n.((a-c)×(b-c)) = n.Σ a×b over a closed cycle -/
theorem fan_sum_eq_shoelace (n c : V3) (l : List V3) :
    ((G3D.closedPairs l).map (fun e => dot n (cross (sub e.1 c) (sub e.2 c)))).sum =
      dot n (vsum ((G3D.closedPairs l).map (fun e => cross e.1 e.2))) := by
  -- the terms differ by `(n × c)·(b - a)`, and the edge vectors `b - a` of a closed cycle sum to zero
  have hterm : ∀ e : V3 × V3, dot n (cross e.1 e.2) =
      dot n (cross (sub e.1 c) (sub e.2 c)) + dot (cross n c) (sub e.2 e.1) := by
    intro e; simp only [dot, cross, sub]; ring
  have h0 := dot_vsum (cross n c) ((G3D.closedPairs l).map (fun e => sub e.2 e.1))
  rw [closed_diff_sum, List.map_map, Function.comp_def] at h0
  rw [dot_vsum, List.map_map, Function.comp_def, List.map_congr_left (fun e _ => hterm e), List.sum_map_add, ← h0]
  simp only [dot, zero, mul_zero, add_zero]
#print axioms fan_sum_eq_shoelace

/-! ### the vertex centroid lies in the hull, so every fan triangle is positively oriented -/
theorem foldl_add_eq (l : List V3) (acc : V3) : l.foldl add acc = add acc (vsum l) := by
  induction l generalizing acc with
  | nil => apply V3.ext' <;> exact (add_zero _).symm
  | cons a l ih =>
    rw [List.foldl_cons, ih, vsum_cons]; apply V3.ext' <;> exact add_assoc _ _ _

theorem sumV_eq_vsum (l : List V3) : sumV l = vsum l := by
  unfold sumV; rw [foldl_add_eq]; apply V3.ext' <;> exact zero_add _

theorem comb_replicate (w : Rat) : ∀ (l : List V3), comb (List.replicate l.length w) l = smul w (vsum l) := by
  intro l
  induction l with
  | nil => apply V3.ext' <;> exact (mul_zero w).symm
  | cons a l ih =>
    simp only [List.length_cons, List.replicate_succ, comb, ih, vsum_cons]
    apply V3.ext' <;> simp only [add, smul] <;> ring

theorem mean_in_hull (l : List V3) (hl : l ≠ []) : InHull l (meanV l) := by
  have hpos : (0 : Rat) < l.length := by exact_mod_cast List.length_pos_of_ne_nil hl
  refine ⟨List.replicate l.length (1 / (l.length : Rat)), List.length_replicate, ?_, ?_, ?_⟩
  · intro w hw; rw [List.eq_of_mem_replicate hw]; exact (one_div_pos.mpr hpos).le
  · rw [List.sum_replicate, nsmul_eq_mul, mul_one_div_cancel hpos.ne']
  · rw [comb_replicate]; unfold meanV; rw [sumV_eq_vsum]

/-- C06 (polygon area): for a coplanar, positively oriented cycle the fan-from-centroid sum computed
    by the code (absolute values per triangle) equals the shoelace value `n . Σ a×b`, for ANY vertex
    list in hull position w.r.t. which the centre `c` passes the edge tests -/
theorem fan_abs_eq_shoelace (n c : V3) (l : List V3)
    (hc : ∀ e ∈ G3D.closedPairs l, 0 ≤ orient n e.1 e.2 c) :
    ((G3D.closedPairs l).map (fun e => triNum n c e.1 e.2)).sum =
      dot n (vsum ((G3D.closedPairs l).map (fun e => cross e.1 e.2))) := by
  rw [← fan_sum_eq_shoelace n c l]
  congr 1
  apply List.map_congr_left
  intro e he
  -- `triNum n c a b` is `absQ (orient n c a b)`
  have h := hc e he
  rw [orient_cyc, orient_cyc] at h
  exact Meas.absQ_of_nonneg h

theorem centroid_passes_tests (n pl : V3) (p0 p1 p2 : V3) (rest : List V3)
    (hpl : ∀ p ∈ p0 :: p1 :: p2 :: rest, inPlane n pl p = true)
    (htp : triplesPos n (p0 :: p1 :: p2 :: rest)) :
    ∀ e ∈ G3D.closedPairs (p0 :: p1 :: p2 :: rest), 0 ≤ orient n e.1 e.2 (meanV (p0 :: p1 :: p2 :: rest)) := by
  have hin := mean_in_hull (p0 :: p1 :: p2 :: rest) (by simp)
  have := (polyContains_iff_hull n pl p0 p1 p2 rest hpl htp _).mpr hin
  unfold polyContains at this
  rw [Bool.and_eq_true, List.all_eq_true] at this
  intro e he
  simpa using this.2 e he

theorem polygon_area_shoelace (n pl : V3) (p0 p1 p2 : V3) (rest : List V3)
    (hpl : ∀ p ∈ p0 :: p1 :: p2 :: rest, inPlane n pl p = true)
    (htp : triplesPos n (p0 :: p1 :: p2 :: rest)) :
    ((G3D.closedPairs (p0 :: p1 :: p2 :: rest)).map
        (fun e => triNum n (meanV (p0 :: p1 :: p2 :: rest)) e.1 e.2)).sum =
      dot n (vsum ((G3D.closedPairs (p0 :: p1 :: p2 :: rest)).map (fun e => cross e.1 e.2))) :=
  fan_abs_eq_shoelace n _ _ (centroid_passes_tests n pl p0 p1 p2 rest hpl htp)
#print axioms polygon_area_shoelace
end G3D
