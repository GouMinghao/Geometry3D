import G3D.Model.Measure
import G3D.Proofs.Flat
import Mathlib.Analysis.SpecialFunctions.Sqrt

/-! `get_triangle_area` (geometry/polygon.py) evaluates Heron's formula
      a = |pa pb|, b = |pb pc|, c = |pc pa|, p = (a+b+c)/2, area = sqrt(p (p-a) (p-b) (p-c)).
    Here: Heron's radicand is the polynomial `(2a²b²+2b²c²+2c²a²-a⁴-b⁴-c⁴)/16`, that polynomial in
    the squared side lengths is `4 |u × v|²` (u = pb - pa, v = pc - pa), hence the Heron value is
    `|u × v| / 2`, the cross-product form used by the model (`triNum`).  Heron's expression is symmetric
    in (a,b,c), so the assignment of the names to the three sides is immaterial. -/
namespace G3D
open V3

/-- Heron's radicand as a polynomial in the squared side lengths `A = a²`, `B = b²`, `C = c²` -/
theorem heron_identity {a b c A B C : ℝ} (hA : a^2 = A) (hB : b^2 = B) (hC : c^2 = C) :
    ((a+b+c)/2) * ((a+b+c)/2 - a) * ((a+b+c)/2 - b) * ((a+b+c)/2 - c)
      = (2*A*B + 2*B*C + 2*C*A - A^2 - B^2 - C^2) / 16 := by
  subst hA hB hC; ring

theorem Meas.normSq_sub (u v : V3) : normSq (sub u v) = normSq u + normSq v - 2 * dot u v := by
  simp only [normSq, dot, sub]; ring

/-- the same polynomial, in the *squared* side lengths of the triangle spanned by `u`, `v`, is
    four times the squared norm of the cross product (exact, over `Rat`): by the law of cosines
    it is `4 (|u|²|v|² - (u·v)²)`, and that is Lagrange's identity -/
theorem heron_cross (u v : V3) :
    2 * normSq u * normSq v + 2 * normSq v * normSq (sub u v) + 2 * normSq (sub u v) * normSq u
        - (normSq u)^2 - (normSq v)^2 - (normSq (sub u v))^2
      = 4 * normSq (cross u v) := by
  rw [Meas.normSq_sub, lagrange]; ring

/-- the same with the three sides named as in the code: `pa pb`, `pb pc`, `pc pa` -/
theorem heron_cross_points (pa pb pc : V3) :
    2 * normSq (sub pb pa) * normSq (sub pc pb) + 2 * normSq (sub pc pb) * normSq (sub pa pc)
        + 2 * normSq (sub pa pc) * normSq (sub pb pa)
        - (normSq (sub pb pa))^2 - (normSq (sub pc pb))^2 - (normSq (sub pa pc))^2
      = 4 * normSq (cross (sub pb pa) (sub pc pa)) := by
  have e1 : normSq (sub pc pb) = normSq (sub (sub pb pa) (sub pc pa)) := by
    simp only [normSq, dot, sub]; ring
  have e2 : normSq (sub pa pc) = normSq (sub pc pa) := by
    simp only [normSq, dot, sub]; ring
  rw [e1, e2, ← heron_cross]; ring

/-- abstract form: if the squared sides `A B C ≥ 0` satisfy the polynomial relation with `N`, then the
    Heron value computed from `a = √A, b = √B, c = √C` is `√N / 2`; in particular the radicand is `N/4` -/
theorem heron_radicand (A B C N : ℝ) (hA : 0 ≤ A) (hB : 0 ≤ B) (hC : 0 ≤ C)
    (h : 2*A*B + 2*B*C + 2*C*A - A^2 - B^2 - C^2 = 4 * N) :
    ((√A+√B+√C)/2) * ((√A+√B+√C)/2 - √A) * ((√A+√B+√C)/2 - √B) * ((√A+√B+√C)/2 - √C) = N / 4 := by
  rw [heron_identity (Real.sq_sqrt hA) (Real.sq_sqrt hB) (Real.sq_sqrt hC), h]; ring

theorem Meas.sqrt_quarter (N : ℝ) : √(N / 4) = (1/2) * √N := by
  rw [show N / 4 = (1/2)^2 * N by ring, Real.sqrt_mul (by positivity), Real.sqrt_sq (by norm_num)]

theorem heron_sqrt (A B C N : ℝ) (hA : 0 ≤ A) (hB : 0 ≤ B) (hC : 0 ≤ C)
    (h : 2*A*B + 2*B*C + 2*C*A - A^2 - B^2 - C^2 = 4 * N) :
    √(((√A+√B+√C)/2) * ((√A+√B+√C)/2 - √A) * ((√A+√B+√C)/2 - √B) * ((√A+√B+√C)/2 - √C))
      = (1/2) * √N := by
  rw [heron_radicand A B C N hA hB hC h, Meas.sqrt_quarter]

/-- squared norm of a real triple -/
def nsqR (x y z : ℝ) : ℝ := x^2 + y^2 + z^2

theorem nsqR_nonneg (x y z : ℝ) : 0 ≤ nsqR x y z := by unfold nsqR; positivity

/-- Heron over ℝ for the triangle spanned by `u = (ux,uy,uz)` and `v = (vx,vy,vz)`:
    with `a = |u|`, `b = |v|`, `c = |u - v|` the Heron value equals `|u × v| / 2`,
    and the radicand is non-negative (so `math.sqrt` never sees a negative exact argument) -/
theorem heron_area_eq (ux uy uz vx vy vz : ℝ) :
    let a := √(nsqR ux uy uz)
    let b := √(nsqR vx vy vz)
    let c := √(nsqR (ux-vx) (uy-vy) (uz-vz))
    let s := (a+b+c)/2
    0 ≤ s * (s - a) * (s - b) * (s - c) ∧
    √(s * (s - a) * (s - b) * (s - c))
      = (1/2) * √(nsqR (uy*vz - uz*vy) (uz*vx - ux*vz) (ux*vy - uy*vx)) := by
  intro a b c s
  -- law of cosines and Lagrange's identity for real triples, as for `heron_cross`
  have hc : nsqR (ux-vx) (uy-vy) (uz-vz) = nsqR ux uy uz + nsqR vx vy vz - 2 * (ux*vx + uy*vy + uz*vz) := by
    unfold nsqR; ring
  have hl : nsqR (uy*vz - uz*vy) (uz*vx - ux*vz) (ux*vy - uy*vx)
      = nsqR ux uy uz * nsqR vx vy vz - (ux*vx + uy*vy + uz*vz)^2 := by
    unfold nsqR; ring
  have hr : s * (s - a) * (s - b) * (s - c) = nsqR (uy*vz - uz*vy) (uz*vx - ux*vz) (ux*vy - uy*vx) / 4 :=
    heron_radicand _ _ _ _ (nsqR_nonneg ux uy uz) (nsqR_nonneg vx vy vz) (nsqR_nonneg (ux-vx) (uy-vy) (uz-vz))
      (by rw [hc, hl]; generalize ux*vx + uy*vy + uz*vz = D; ring)
  rw [hr]
  exact ⟨div_nonneg (nsqR_nonneg _ _ _) (by norm_num), Meas.sqrt_quarter _⟩

/-- link to the model's numerator: when the plane normal `n` is parallel to `w = (a-c) × (b-c)`
    (the triangle lies in the plane), `triNum² = |n|² |w|²`, i.e. `triNum / (2|n|) = |w|/2` is the
    Heron value of `Props.C06.heron_is_half_cross` for `u = a - c`, `v = b - c`. -/
theorem triNum_sq (n c a b : V3) (hpar : cross n (cross (sub a c) (sub b c)) = zero) :
    (triNum n c a b)^2 = normSq n * normSq (cross (sub a c) (sub b c)) := by
  have hl := lagrange n (cross (sub a c) (sub b c))
  rw [hpar] at hl
  have h0 : normSq zero = 0 := by simp [normSq, dot, zero]
  rw [h0] at hl
  have : (triNum n c a b)^2 = (dot n (cross (sub a c) (sub b c)))^2 := by
    unfold triNum absQ
    split <;> ring
  rw [this]; linarith

#print axioms heron_identity
#print axioms heron_cross
#print axioms heron_area_eq
#print axioms triNum_sq
end G3D
