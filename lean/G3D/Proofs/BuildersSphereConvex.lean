import Mathlib.Analysis.SpecialFunctions.Trigonometric.Basic
import Mathlib.Tactic.Ring
import Mathlib.Tactic.Linarith
import Mathlib.Tactic.LinearCombination
import Mathlib.Tactic.FieldSimp
import Mathlib.Tactic.Positivity
import Mathlib.Algebra.BigOperators.Group.Finset.Basic
import G3D.Proofs.BuildersSphere

/-! C14 over ℝ, CONVEXITY of the inscribed Sphere solid: every vertex lies on the inner side (≤ 0) of the plane of
    every face (outward normal = shoelace vector area `vecArea2R` of the face cycle as the constructor leaves it,
    reference point = first vertex of the face), strictly for the vertices not on the face — every n1 ≥ 3, n2 ≥ 2.
    (The analogue of `cylinder_side_inner` / `cone_side_inner`.) -/
namespace G3D
namespace BuildersReal
open Real Builders R3

/-- cylindrical coordinates about the axis `c + ℝ·k`: `c + z·k + ρ·(cos θ·u + sin θ·v)` -/
noncomputable def BA.cyl (c k u v : R3) (ρ z θ : ℝ) : R3 := add (add c (smul z k)) (smul ρ (rad u v θ))

theorem BA.sphPt_cyl (c k u v : R3) (r φ θ : ℝ) :
    BA.sphPt c k u v r φ θ = BA.cyl c k u v (r * cos φ) (r * sin φ) θ := BA.sphPt_eq c k u v r φ θ

/-- the scalar factor of the side test -/
noncomputable def BA.sidePsi (ρ z ρ1 z1 ρ2 z2 θ θs θe : ℝ) : ℝ :=
  (z2 - z1) * (ρ * (sin (θe - θ) - sin (θs - θ)) - ρ1 * sin (θe - θs)) + (ρ1 - ρ2) * (z - z1) * sin (θe - θs)

/-- side test of a band quadrilateral `(A_s, A_e, B_e, B_s)` (rings `(ρ1, z1)`, `(ρ2, z2)`, longitudes `θs`, `θe`)
    against the point `(ρ, z, θ)`: a triple product, i.e. `k·(u × v)` times a determinant of coordinates -/
theorem BA.quad_side (c k u v : R3) (ρ z ρ1 z1 ρ2 z2 θ θs θe : ℝ) :
    dot (sub (BA.cyl c k u v ρ z θ) (BA.cyl c k u v ρ1 z1 θs))
      (vecArea2R [BA.cyl c k u v ρ1 z1 θs, BA.cyl c k u v ρ1 z1 θe, BA.cyl c k u v ρ2 z2 θe,
        BA.cyl c k u v ρ2 z2 θs]) =
      dot k (cross u v) * (ρ1 + ρ2) * BA.sidePsi ρ z ρ1 z1 ρ2 z2 θ θs θe := by
  unfold BA.cyl
  rw [BA.quadVA]
  unfold BA.sidePsi
  rw [sin_sub, sin_sub, sin_sub]
  simp only [rad, dot, cross, sub, add, smul]
  ring

/-- side test of a cap triangle `(p, A_s, A_e)`, `p = c + z2·k` on the axis -/
theorem BA.tri_side (c k u v : R3) (ρ z ρ1 z1 z2 θ θs θe : ℝ) :
    dot (sub (BA.cyl c k u v ρ z θ) (add c (smul z2 k)))
      (vecArea2R [add c (smul z2 k), BA.cyl c k u v ρ1 z1 θs, BA.cyl c k u v ρ1 z1 θe]) =
      dot k (cross u v) * ρ1 * BA.sidePsi ρ z ρ1 z1 0 z2 θ θs θe := by
  unfold BA.cyl
  rw [tri_vecArea2]
  unfold BA.sidePsi
  rw [sin_sub, sin_sub, sin_sub]
  simp only [rad, dot, cross, sub, add, smul]
  ring

/-! ### the trigonometric factorisation -/
/-- the latitude–longitude factor, `C = cos(θ − θm)`: neither summand is positive as soon as the longitude and the
    latitude of the point are at least half a step away from the face's mid-longitude (`C ≤ cos η`) and mid-latitude
    (`cos(ψ − φm) ≤ cos ε`) -/
noncomputable def BA.sidePhi (φm ψ ε η C : ℝ) : ℝ := cos φm * cos ψ * (C - cos η) + cos η * (cos (ψ - φm) - cos ε)

/-- band between the latitudes `φm ∓ ε`, sector between the longitudes `θm ∓ η`, point at `(ψ, θ)` of the sphere -/
theorem BA.sidePsi_trig (r ψ θ φm ε θm η : ℝ) :
    BA.sidePsi (r * cos ψ) (r * sin ψ) (r * cos (φm - ε)) (r * sin (φm - ε)) (r * cos (φm + ε)) (r * sin (φm + ε))
        θ (θm - η) (θm + η) =
      2 * sin η * (2 * r ^ 2 * sin ε) * BA.sidePhi φm ψ ε η (cos (θ - θm)) := by
  have t1 : sin (θm + η - θ) - sin (θm - η - θ) = 2 * cos (θ - θm) * sin η := by
    have e1 : θm + η - θ = η - (θ - θm) := by ring
    have e2 : θm - η - θ = -(η + (θ - θm)) := by ring
    rw [e1, e2, sin_neg, sin_sub, sin_add]; ring
  have t2 : sin (θm + η - (θm - η)) = 2 * sin η * cos η := by
    have : θm + η - (θm - η) = 2 * η := by ring
    rw [this, sin_two_mul]
  unfold BA.sidePsi BA.sidePhi
  rw [t1, t2, sin_sub φm ε, cos_sub φm ε, sin_add φm ε, cos_add φm ε, cos_sub ψ φm]
  linear_combination (-(4 * r ^ 2 * sin η * sin ε * cos η * cos ε)) * cos_sq_add_sin_sq φm

/-! ### the grid -/
/-- `cos` falls on `[0, π]` and is symmetric about `π`: on `[η, 2π − η]` it stays below `cos η` -/
theorem BA.cos_le_cos_of_le (η x : ℝ) (h0 : 0 ≤ η) (h1 : η ≤ x) (h2 : x ≤ 2 * π - η) : cos x ≤ cos η := by
  have := cos_le_cos_of_nonneg_of_le_pi (abs_nonneg (x - π)) (by linarith : π - η ≤ π)
    (abs_le.2 ⟨by linarith, by linarith⟩)
  rwa [cos_abs, cos_sub_pi, cos_pi_sub, neg_le_neg_iff] at this

theorem BA.cos_lt_cos_of_lt (η x : ℝ) (h0 : 0 ≤ η) (h1 : η < x) (h2 : x < 2 * π - η) : cos x < cos η := by
  have := cos_lt_cos_of_nonneg_of_le_pi (abs_nonneg (x - π)) (by linarith : π - η ≤ π)
    (abs_lt.2 ⟨by linarith, by linarith⟩)
  rwa [cos_abs, cos_sub_pi, cos_pi_sub, neg_lt_neg_iff] at this

/-- a grid of step `2δ` seen from the middle of one of its cells: the grid points are at the odd multiples `δ·t` of
    the half step; with `M` half steps to the full turn, none of them is nearer than `δ`, and all but the two ends
    `t = ±1` of the cell are farther -/
theorem BA.cos_grid (δ : ℝ) (t : ℤ) (M : ℕ) (hδ : 0 < δ) (hM : δ * M = 2 * π)
    (h : 1 ≤ t.natAbs ∧ t.natAbs + 1 ≤ M) :
    cos (δ * t) ≤ cos δ ∧ (2 ≤ t.natAbs ∧ t.natAbs + 2 ≤ M → cos (δ * t) < cos δ) := by
  rw [← cos_abs, abs_mul, abs_of_nonneg hδ.le, ← Int.cast_abs, ← Nat.cast_natAbs]
  have h1 : (1 : ℝ) ≤ t.natAbs := by exact_mod_cast h.1
  have h2 : (t.natAbs : ℝ) + 1 ≤ M := by exact_mod_cast h.2
  refine ⟨BA.cos_le_cos_of_le δ _ hδ.le (le_mul_of_one_le_right hδ.le h1)
    (by linarith [mul_le_mul_of_nonneg_left h2 hδ.le]), fun h' => ?_⟩
  have h1' : (2 : ℝ) ≤ t.natAbs := by exact_mod_cast h'.1
  have h2' : (t.natAbs : ℝ) + 2 ≤ M := by exact_mod_cast h'.2
  exact BA.cos_lt_cos_of_lt δ _ hδ.le (by linarith [mul_le_mul_of_nonneg_left h1' hδ.le])
    (by linarith [mul_le_mul_of_nonneg_left h2' hδ.le])

/-- longitudes: every point of a ring is at least half a step `π/n` away from the mid-longitude of sector `i`,
    strictly more for the points other than the two ends `i`, `(i+1) mod n` of the sector -/
theorem BA.lon_grid (n i k : ℕ) (hi : i < n) (hk : k < n) :
    cos (stepAngle n k - (stepAngle n i + π / n)) ≤ cos (π / n) ∧
      (k ≠ i → k ≠ (i + 1) % n → cos (stepAngle n k - (stepAngle n i + π / n)) < cos (π / n)) := by
  have hn : (0 : ℝ) < n := by exact_mod_cast (by omega : 0 < n)
  have hη : 0 < π / n := div_pos pi_pos hn
  have hM : π / n * ((2 * n : ℕ) : ℝ) = 2 * π := by push_cast; field_simp
  have ex : stepAngle n k - (stepAngle n i + π / n) = π / n * ((2 * k - 2 * i - 1 : ℤ) : ℝ) := by
    unfold stepAngle; push_cast; ring
  rw [ex]
  obtain ⟨le, lt⟩ := BA.cos_grid _ (2 * k - 2 * i - 1) _ hη hM (by omega)
  refine ⟨le, fun h1 h2 => lt ?_⟩
  rcases sm_cases hi with ⟨_, e⟩ | ⟨_, e⟩ <;> rw [e] at h2 <;> omega

/-- latitude of the ring with signed index `m` (`m = −n2 … n2`; negative: the lower rings `bc`) -/
noncomputable def BA.latZ (n2 : ℕ) (m : ℤ) : ℝ := π / 2 / n2 * m

theorem BA.latZ_nat (n2 m : ℕ) : BA.latZ n2 (m : ℤ) = BA.lat n2 m := by simp [BA.latZ, BA.lat]
theorem BA.latZ_neg (n2 : ℕ) (m : ℤ) : BA.latZ n2 (-m) = - BA.latZ n2 m := by simp [BA.latZ]

/-- latitudes: every ring is at least half a step `π/4/n2` away from the mid-latitude of the band between the rings
    `J`, `J+1` (`J < 0`: a lower band), strictly more for the rings other than these two -/
theorem BA.lat_grid (n2 : ℕ) (J m : ℤ) (hJ1 : -(n2 : ℤ) ≤ J) (hJ2 : J < n2) (hm1 : -(n2 : ℤ) ≤ m) (hm2 : m ≤ n2) :
    cos (BA.latZ n2 m - (BA.latZ n2 J + π / 4 / n2)) ≤ cos (π / 4 / n2) ∧
      (m ≠ J → m ≠ J + 1 → cos (BA.latZ n2 m - (BA.latZ n2 J + π / 4 / n2)) < cos (π / 4 / n2)) := by
  have hn : (0 : ℝ) < n2 := by exact_mod_cast (by omega : 0 < n2)
  have hε : 0 < π / 4 / n2 := by positivity
  have hM : π / 4 / n2 * ((8 * n2 : ℕ) : ℝ) = 2 * π := by push_cast; field_simp; ring
  have ex : BA.latZ n2 m - (BA.latZ n2 J + π / 4 / n2) = π / 4 / n2 * ((2 * m - 2 * J - 1 : ℤ) : ℝ) := by
    unfold BA.latZ; push_cast; ring
  rw [ex]
  obtain ⟨le, lt⟩ := BA.cos_grid _ (2 * m - 2 * J - 1) _ hε hM (by omega)
  exact ⟨le, fun h1 h2 => lt (by omega)⟩

/-! ### value of the side test on the faces -/
/-- the common closed form of the side test: `Φ` times factors that are positive on the grid -/
noncomputable def BA.sideVal (D r φm ψ ε η C : ℝ) : ℝ :=
  D * (2 * r * cos φm * cos ε) * (2 * sin η * (2 * r ^ 2 * sin ε)) * BA.sidePhi φm ψ ε η C

theorem BA.sideVal_neg (D r φm ψ ε η C : ℝ) : BA.sideVal D r φm ψ (-ε) η C = -BA.sideVal D r φm ψ ε η C := by
  unfold BA.sideVal BA.sidePhi; rw [cos_neg, sin_neg]; ring

theorem BA.ringSum (r φm ε : ℝ) : r * cos (φm - ε) + r * cos (φm + ε) = 2 * r * cos φm * cos ε := by
  rw [cos_sub, cos_add]; ring

/-- band quadrilateral `(A_s, A_e, B_e, B_s)` between the latitudes `φm ∓ ε` and the longitudes `θm ∓ η`,
    tested against the sphere point `(ψ, θ)` -/
theorem BA.band_face_value (c k u v : R3) (r ψ θ φm ε θm η : ℝ) :
    dot (sub (BA.sphPt c k u v r ψ θ) (BA.sphPt c k u v r (φm - ε) (θm - η)))
      (vecArea2R [BA.sphPt c k u v r (φm - ε) (θm - η), BA.sphPt c k u v r (φm - ε) (θm + η),
        BA.sphPt c k u v r (φm + ε) (θm + η), BA.sphPt c k u v r (φm + ε) (θm - η)]) =
      BA.sideVal (dot k (cross u v)) r φm ψ ε η (cos (θ - θm)) := by
  simp only [BA.sphPt_cyl]
  rw [BA.quad_side, BA.sidePsi_trig, BA.ringSum]
  unfold BA.sideVal; ring

/-- cap triangle `(pole, A_s, A_e)`, the pole at latitude `φm + ε = ±π/2`: the same value, its ring having radius 0 -/
theorem BA.cap_face_value (c k u v : R3) (r z2 ψ θ φm ε θm η : ℝ) (hz : z2 = r * sin (φm + ε))
    (hpole : cos (φm + ε) = 0) :
    dot (sub (BA.sphPt c k u v r ψ θ) (add c (smul z2 k)))
      (vecArea2R [add c (smul z2 k), BA.sphPt c k u v r (φm - ε) (θm - η),
        BA.sphPt c k u v r (φm - ε) (θm + η)]) =
      BA.sideVal (dot k (cross u v)) r φm ψ ε η (cos (θ - θm)) := by
  have h0 : r * cos (φm + ε) = 0 := by rw [hpole, mul_zero]
  simp only [BA.sphPt_cyl]
  rw [BA.tri_side, hz, ← h0, BA.sidePsi_trig]
  unfold BA.sideVal
  rw [← BA.ringSum, h0, add_zero]; ring

theorem BA.dot_flip (p : R3) (l : List R3) : dot p (vecArea2R (flipCycle l)) = -dot p (vecArea2R l) := by
  rw [vecArea2R_flip]; simp only [dot, smul]; ring

/-! ### the grid: signs -/
theorem BA.sin_pi_div_pos {x : ℝ} (hx : 1 < x) : 0 < sin (π / x) :=
  sin_pos_of_pos_of_lt_pi (by positivity) (div_lt_self pi_pos hx)

theorem BA.cos_half_sector (n1 : ℕ) (hn1 : 2 ≤ n1) : 0 ≤ cos (π / n1) ∧ (3 ≤ n1 → 0 < cos (π / n1)) := by
  have e : π / n1 = π / 2 / n1 * 2 := by ring
  have h2 : (2 : ℝ) ≤ n1 := by exact_mod_cast hn1
  rw [e]
  refine ⟨BA.cos_quarter_nonneg n1 2 (by omega) (by linarith) h2, fun h3 => ?_⟩
  have h3' : (3 : ℝ) ≤ n1 := by exact_mod_cast h3
  exact BA.cos_quarter_pos n1 2 (by omega) (by linarith) (by linarith)

theorem BA.half_band (n2 : ℕ) (h : 0 < n2) : 0 < sin (π / 4 / n2) ∧ 0 < cos (π / 4 / n2) := by
  have h1 : (1 : ℝ) ≤ n2 := by exact_mod_cast h
  have e : π / 4 / n2 = π / 2 / n2 * (1 / 2) := by ring
  refine ⟨?_, e ▸ BA.cos_quarter_pos n2 _ h (by linarith) (by linarith)⟩
  rw [div_div]
  exact BA.sin_pi_div_pos (by linarith)

theorem BA.cos_midlat_pos (n2 : ℕ) (J : ℤ) (hJ1 : -(n2 : ℤ) ≤ J) (hJ2 : J < n2) :
    0 < cos (BA.latZ n2 J + π / 4 / n2) := by
  have e : BA.latZ n2 J + π / 4 / n2 = π / 2 / n2 * (J + 1 / 2) := by unfold BA.latZ; ring
  have h1 : (J : ℝ) + 1 ≤ n2 := by exact_mod_cast hJ2
  have h0 : -(n2 : ℝ) ≤ J := by exact_mod_cast hJ1
  rw [e]
  exact BA.cos_quarter_pos n2 _ (by omega) (by linarith) (by linarith)

/-! ### the faces of the solid -/
/-- vertex of the solid: ring with signed index `m ∈ [−n2, n2]` (`m ≥ 0`: `mc`, `tc[m−1]`, top pole; `m < 0`:
    `bc[−m−1]`, bottom pole), point `i` of the ring -/
noncomputable def BA.vtx (c k u v : R3) (r : ℝ) (n1 n2 : ℕ) (m : ℤ) (i : ℕ) : R3 :=
  BA.sphPt c k u v r (BA.latZ n2 m) (stepAngle n1 i)

theorem BA.up_eq_vtx (c k u v : R3) (r : ℝ) (n1 n2 m i : ℕ) :
    BA.up c k u v r n1 n2 m i = BA.vtx c k u v r n1 n2 (m : ℤ) i := by
  unfold BA.up BA.vtx; rw [BA.latZ_nat]

theorem BA.lo_eq_vtx (c k u v : R3) (r : ℝ) (n1 n2 m i : ℕ) :
    BA.lo c k u v r n1 n2 m i = BA.vtx c k u v r n1 n2 (-(m : ℤ)) i := by
  unfold BA.lo BA.vtx; rw [BA.latZ_neg, BA.latZ_nat]

theorem BA.grid_angles (n1 n2 i j : ℕ) :
    stepAngle n1 i + π / n1 + π / n1 = stepAngle n1 (i + 1) ∧ BA.lat n2 j + π / 4 / n2 + π / 4 / n2 = BA.lat n2 (j + 1) := by
  constructor
  · unfold stepAngle; push_cast; ring
  · unfold BA.lat; push_cast; ring

/-- the value of the side test of a face of the band between the rings `J`, `J+1` (`J < 0`: a lower band; `J = n2−1`,
    `J = −n2`: the caps), sector `i`, at the vertex (ring `m`, point `k'`) -/
noncomputable def BA.faceVal (D r : ℝ) (n1 n2 : ℕ) (J : ℤ) (i k' : ℕ) (m : ℤ) : ℝ :=
  BA.sideVal D r (BA.latZ n2 J + π / 4 / n2) (BA.latZ n2 m) (π / 4 / n2) (π / n1)
    (cos (stepAngle n1 k' - (stepAngle n1 i + π / n1)))

/-- the mirror image of a cell `x … x + 2h` with middle `x + h` -/
theorem BA.neg_half {x h y : ℝ} (e : x + h + h = y) : -(x + h) - -h = -x ∧ -(x + h) + -h = -y :=
  ⟨by ring, by rw [← e]; ring⟩

/-- mid-latitude of the lower band `j`, the mirror image of the upper one -/
theorem BA.midlat_neg (n2 j : ℕ) : BA.latZ n2 (-((j : ℤ) + 1)) + π / 4 / n2 = -(BA.lat n2 j + π / 4 / n2) := by
  unfold BA.latZ BA.lat; push_cast; ring

/-- upper band `j`, sector `i` (as coded), against the vertex (ring `m`, point `k'`) -/
theorem BA.upper_value (c k u v : R3) (r : ℝ) (n1 n2 j i k' : ℕ) (m : ℤ) :
    dot (sub (BA.vtx c k u v r n1 n2 m k') (BA.up c k u v r n1 n2 j i)) (vecArea2R (BA.qUp c k u v r n1 n2 j i)) =
      BA.faceVal (dot k (cross u v)) r n1 n2 j i k' m := by
  have := BA.band_face_value c k u v r (BA.latZ n2 m) (stepAngle n1 k') (BA.lat n2 j + π / 4 / n2) (π / 4 / n2)
    (stepAngle n1 i + π / n1) (π / n1)
  obtain ⟨e2, e4⟩ := BA.grid_angles n1 n2 i j
  rw [add_sub_cancel_right, add_sub_cancel_right, e2, e4] at this
  unfold BA.faceVal
  rw [BA.latZ_nat]
  exact this

/-- lower band `j`, sector `i`, flipped by the constructor, against the vertex (ring `m`, point `k'`) -/
theorem BA.lower_value (c k u v : R3) (r : ℝ) (n1 n2 j i k' : ℕ) (m : ℤ) :
    dot (sub (BA.vtx c k u v r n1 n2 m k') (BA.lo c k u v r n1 n2 j i))
        (vecArea2R (flipCycle (BA.qLo c k u v r n1 n2 j i))) =
      BA.faceVal (dot k (cross u v)) r n1 n2 (-((j : ℤ) + 1)) i k' m := by
  have := BA.band_face_value c k u v r (BA.latZ n2 m) (stepAngle n1 k') (-(BA.lat n2 j + π / 4 / n2)) (-(π / 4 / n2))
    (stepAngle n1 i + π / n1) (π / n1)
  obtain ⟨e2, e4⟩ := BA.grid_angles n1 n2 i j
  obtain ⟨e3', e4'⟩ := BA.neg_half e4
  rw [add_sub_cancel_right, e2, e3', e4', BA.sideVal_neg] at this
  unfold BA.faceVal
  rw [BA.dot_flip, BA.midlat_neg]
  exact neg_eq_iff_eq_neg.2 this

/-- top cap, sector `i`, flipped by the constructor: `(top_point, tc[n2−2][s], tc[n2−2][e])` -/
theorem BA.top_value (c k u v : R3) (r : ℝ) (n1 n2 i k' : ℕ) (m : ℤ) (h2 : 1 ≤ n2) :
    dot (sub (BA.vtx c k u v r n1 n2 m k') (add c (smul r k))) (vecArea2R (flipCycle (BA.capT c k u v r n1 n2 i))) =
      BA.faceVal (dot k (cross u v)) r n1 n2 ((n2 - 1 : ℕ) : ℤ) i k' m := by
  obtain ⟨e2, e4⟩ := BA.grid_angles n1 n2 i (n2 - 1)
  have en : n2 - 1 + 1 = n2 := by omega
  rw [en, BA.lat_pole n2 (by omega)] at e4
  have := BA.cap_face_value c k u v r r (BA.latZ n2 m) (stepAngle n1 k') (BA.lat n2 (n2 - 1) + π / 4 / n2) (π / 4 / n2)
    (stepAngle n1 i + π / n1) (π / n1) (by rw [e4, sin_pi_div_two, mul_one]) (by rw [e4, cos_pi_div_two])
  rw [add_sub_cancel_right, add_sub_cancel_right, e2] at this
  unfold BA.faceVal
  rw [BA.latZ_nat]
  exact this

/-- bottom cap, sector `i`, as coded: `(bottom_point, bc[n2−2][e], bc[n2−2][s])` -/
theorem BA.bottom_value (c k u v : R3) (r : ℝ) (n1 n2 i k' : ℕ) (m : ℤ) (h2 : 1 ≤ n2) :
    dot (sub (BA.vtx c k u v r n1 n2 m k') (add c (smul (-r) k))) (vecArea2R (BA.capB c k u v r n1 n2 i)) =
      BA.faceVal (dot k (cross u v)) r n1 n2 (-(((n2 - 1 : ℕ) : ℤ) + 1)) i k' m := by
  obtain ⟨e2, e4⟩ := BA.grid_angles n1 n2 i (n2 - 1)
  have en : n2 - 1 + 1 = n2 := by omega
  rw [en, BA.lat_pole n2 (by omega)] at e4
  obtain ⟨e3', e4'⟩ := BA.neg_half e4
  have := BA.cap_face_value c k u v r (-r) (BA.latZ n2 m) (stepAngle n1 k') (-(BA.lat n2 (n2 - 1) + π / 4 / n2))
    (-(π / 4 / n2)) (stepAngle n1 i + π / n1) (π / n1) (by rw [e4', sin_neg, sin_pi_div_two]; ring)
    (by rw [e4', cos_neg, cos_pi_div_two])
  rw [add_sub_cancel_right, e2, e3', BA.sideVal_neg] at this
  unfold BA.faceVal
  rw [BA.capB_eq, BA.dot_flip, BA.midlat_neg]
  exact neg_eq_iff_eq_neg.2 this

/-- sign of the common value, band between the rings `J`, `J+1`, sector `i`, vertex (ring `m`, point `k'`): never
    positive, and negative for a vertex that is not a corner of the face -/
theorem BA.faceVal_sign (D r : ℝ) (n1 n2 : ℕ) (J : ℤ) (i k' : ℕ) (m : ℤ) (hD : 0 < D) (hr : 0 < r) (hn1 : 2 ≤ n1)
    (hJ1 : -(n2 : ℤ) ≤ J) (hJ2 : J < n2) (hi : i < n1) (hk : k' < n1) (hm1 : -(n2 : ℤ) ≤ m) (hm2 : m ≤ n2) :
    BA.faceVal D r n1 n2 J i k' m ≤ 0 ∧ (3 ≤ n1 →
      (m ≠ J ∧ m ≠ J + 1) ∨ (k' ≠ i ∧ k' ≠ (i + 1) % n1 ∧ -(n2 : ℤ) < m ∧ m < n2) →
      BA.faceVal D r n1 n2 J i k' m < 0) := by
  have hφ := BA.cos_midlat_pos n2 J hJ1 hJ2
  have hη : 0 < sin (π / n1) := BA.sin_pi_div_pos (by exact_mod_cast hn1)
  obtain ⟨hε, hε'⟩ := BA.half_band n2 (by omega)
  obtain ⟨hc, hc'⟩ := BA.cos_half_sector n1 hn1
  obtain ⟨lon, lon'⟩ := BA.lon_grid n1 i k' hi hk
  obtain ⟨lat, lat'⟩ := BA.lat_grid n2 J m hJ1 hJ2 hm1 hm2
  have a := mul_nonpos_of_nonneg_of_nonpos (mul_nonneg hφ.le (BA.cos_quarter_nonneg n2 m (by omega) (by exact_mod_cast hm1) (by exact_mod_cast hm2)))
    (sub_nonpos.2 lon)
  have b := mul_nonpos_of_nonneg_of_nonpos hc (sub_nonpos.2 lat)
  refine ⟨mul_nonpos_of_nonneg_of_nonpos (by positivity) (add_nonpos a b),
    fun h3 hne => mul_neg_of_pos_of_neg (by positivity) ?_⟩
  rcases hne with ⟨h1, h2⟩ | ⟨h1, h2, h4, h5⟩
  · exact add_neg_of_nonpos_of_neg a (mul_neg_of_pos_of_neg (hc' h3) (sub_neg.2 (lat' h1 h2)))
  · exact add_neg_of_neg_of_nonpos (mul_neg_of_pos_of_neg (mul_pos hφ (BA.cos_quarter_pos n2 m (by omega) (by exact_mod_cast h4) (by exact_mod_cast h5)))
      (sub_neg.2 (lon' h1 h2))) b

/-! ### C14, convexity of the Sphere solid, face by face
    Hypotheses: `0 < k·(u × v)` (the frame of `get_circle_point_list` is counter-clockwise about the normal:
    `frame_real_positive`), `0 < r`, `n1 ≥ 3` (the non-strict `sphere_convex` below: `n1 ≥ 2`), ring index `|m| ≤ n2`. -/

/-- upper band `j` (rings `j`, `j+1`; `j ≤ n2−2` in the solid), sector `i`, oriented as coded
    `(ring_j[s], ring_j[e], ring_{j+1}[e], ring_{j+1}[s])`: every vertex is strictly on the inner side of the face plane
    unless it is one of the four corners (rings `j`, `j+1`, points `i`, `(i+1) mod n1`) -/
theorem BA.sphere_upper_inner_strict (c k u v : R3) (r : ℝ) (n1 n2 j i k' : ℕ) (m : ℤ)
    (hD : 0 < dot k (cross u v)) (hr : 0 < r) (hn1 : 3 ≤ n1) (hj : j < n2) (hi : i < n1) (hk : k' < n1)
    (hm1 : -(n2 : ℤ) ≤ m) (hm2 : m ≤ n2)
    (hne : (m ≠ j ∧ m ≠ j + 1) ∨ (k' ≠ i ∧ k' ≠ (i + 1) % n1 ∧ -(n2 : ℤ) < m ∧ m < n2)) :
    dot (sub (BA.vtx c k u v r n1 n2 m k') (BA.up c k u v r n1 n2 j i))
      (vecArea2R (BA.qUp c k u v r n1 n2 j i)) < 0 := by
  rw [BA.upper_value]
  exact (BA.faceVal_sign _ r n1 n2 j i k' m hD hr (by omega) (by omega) (by omega) hi hk hm1 hm2).2 hn1 hne

/-- lower band `j`, sector `i`, after the constructor's flip -/
theorem BA.sphere_lower_inner_strict (c k u v : R3) (r : ℝ) (n1 n2 j i k' : ℕ) (m : ℤ)
    (hD : 0 < dot k (cross u v)) (hr : 0 < r) (hn1 : 3 ≤ n1) (hj : j < n2) (hi : i < n1) (hk : k' < n1)
    (hm1 : -(n2 : ℤ) ≤ m) (hm2 : m ≤ n2)
    (hne : (m ≠ -(j : ℤ) ∧ m ≠ -((j : ℤ) + 1)) ∨ (k' ≠ i ∧ k' ≠ (i + 1) % n1 ∧ -(n2 : ℤ) < m ∧ m < n2)) :
    dot (sub (BA.vtx c k u v r n1 n2 m k') (BA.lo c k u v r n1 n2 j i))
      (vecArea2R (flipCycle (BA.qLo c k u v r n1 n2 j i))) < 0 := by
  rw [BA.lower_value]
  exact (BA.faceVal_sign _ r n1 n2 _ i k' m hD hr (by omega) (by omega) (by omega) hi hk hm1 hm2).2 hn1
    (hne.imp_left fun h => ⟨h.2, by omega⟩)

/-- top cap triangle of sector `i` after the flip `(top_point, tc[n2−2][s], tc[n2−2][e])` -/
theorem BA.sphere_top_inner_strict (c k u v : R3) (r : ℝ) (n1 n2 i k' : ℕ) (m : ℤ) (hD : 0 < dot k (cross u v))
    (hr : 0 < r) (hn1 : 3 ≤ n1) (h2 : 1 ≤ n2) (hi : i < n1) (hk : k' < n1) (hm1 : -(n2 : ℤ) ≤ m) (hm2 : m ≤ n2)
    (hne : (m ≠ (n2 : ℤ) - 1 ∧ m ≠ n2) ∨ (k' ≠ i ∧ k' ≠ (i + 1) % n1 ∧ -(n2 : ℤ) < m ∧ m < n2)) :
    dot (sub (BA.vtx c k u v r n1 n2 m k') (add c (smul r k)))
      (vecArea2R (flipCycle (BA.capT c k u v r n1 n2 i))) < 0 := by
  rw [BA.top_value c k u v r n1 n2 i k' m h2]
  exact (BA.faceVal_sign _ r n1 n2 _ i k' m hD hr (by omega) (by omega) (by omega) hi hk hm1 hm2).2 hn1
    (hne.imp_left fun h => ⟨by omega, by omega⟩)

/-- bottom cap triangle of sector `i` as coded `(bottom_point, bc[n2−2][e], bc[n2−2][s])` -/
theorem BA.sphere_bottom_inner_strict (c k u v : R3) (r : ℝ) (n1 n2 i k' : ℕ) (m : ℤ)
    (hD : 0 < dot k (cross u v)) (hr : 0 < r) (hn1 : 3 ≤ n1) (h2 : 1 ≤ n2) (hi : i < n1) (hk : k' < n1)
    (hm1 : -(n2 : ℤ) ≤ m) (hm2 : m ≤ n2)
    (hne : (m ≠ -((n2 : ℤ) - 1) ∧ m ≠ -(n2 : ℤ)) ∨ (k' ≠ i ∧ k' ≠ (i + 1) % n1 ∧ -(n2 : ℤ) < m ∧ m < n2)) :
    dot (sub (BA.vtx c k u v r n1 n2 m k') (add c (smul (-r) k)))
      (vecArea2R (BA.capB c k u v r n1 n2 i)) < 0 := by
  rw [BA.bottom_value c k u v r n1 n2 i k' m h2]
  exact (BA.faceVal_sign _ r n1 n2 _ i k' m hD hr (by omega) (by omega) (by omega) hi hk hm1 hm2).2 hn1
    (hne.imp_left fun h => ⟨by omega, by omega⟩)

/-! ### the whole solid -/
/-- every placed id is a grid vertex -/
theorem BA.spherePlace_is_vtx (c k u v : R3) (r : ℝ) (n1 n2 id : ℕ) (hn1 : 0 < n1) (h2 : 1 ≤ n2) :
    ∃ (m : ℤ) (k' : ℕ), -(n2 : ℤ) ≤ m ∧ m ≤ n2 ∧ k' < n1 ∧
      BA.spherePlace c k u v r n1 n2 id = BA.vtx c k u v r n1 n2 m k' := by
  unfold BA.spherePlace
  have hm := Nat.mod_lt id hn1
  split_ifs with h1 h3 h4
  · have : id / n1 < n2 := Nat.div_lt_of_lt_mul (by rw [Nat.mul_comm]; exact h1)
    generalize id / n1 = q at *
    exact ⟨(q : ℕ), id % n1, by omega, by omega, hm, BA.up_eq_vtx ..⟩
  · have : id / n1 < 2 * n2 - 1 := Nat.div_lt_of_lt_mul (by rw [Nat.mul_comm]; exact h3)
    generalize id / n1 = q at *
    exact ⟨-((q - n2 + 1 : ℕ) : ℤ), id % n1, by omega, by omega, hm, BA.lo_eq_vtx ..⟩
  · refine ⟨(n2 : ℤ), 0, by omega, by omega, hn1, ?_⟩
    rw [← BA.up_eq_vtx, BA.up_pole c k u v r n1 n2 0 (by omega)]
  · refine ⟨-(n2 : ℤ), 0, by omega, by omega, hn1, ?_⟩
    rw [← BA.lo_eq_vtx, BA.lo_pole c k u v r n1 n2 0 (by omega)]

/-- C14, Sphere CONVEXITY, every n1 ≥ 2, n2 ≥ 2: for every face of the solid (outward normal: the shoelace vector
    area of the face cycle as the constructor leaves it; reference point: the face's first vertex) every vertex
    (ring `m`, point `k'`) is on the inner side -/
theorem BA.sphere_convex (c k u v : R3) (r : ℝ) (n1 n2 : ℕ) (hD : 0 < dot k (cross u v)) (hr : 0 < r)
    (hn1 : 2 ≤ n1) (h2 : 2 ≤ n2) :
    ∀ f ∈ BA.sphereSolid c k u v r n1 n2, ∀ (m : ℤ) (k' : ℕ), -(n2 : ℤ) ≤ m → m ≤ n2 → k' < n1 →
      dot (sub (BA.vtx c k u v r n1 n2 m k') (f.headD zero)) (vecArea2R f) ≤ 0 := by
  intro f hf m k' hm1 hm2 hk
  unfold BA.sphereSolid at hf
  obtain ⟨i, hi, hfi⟩ := List.mem_flatMap.mp hf
  have hi' : i < n1 := List.mem_range.mp hi
  unfold BA.sphereBlock at hfi
  simp only [List.mem_append, List.mem_cons, List.mem_flatMap, List.not_mem_nil, or_false] at hfi
  have le : ∀ J : ℤ, -(n2 : ℤ) ≤ J → J < n2 → BA.faceVal (dot k (cross u v)) r n1 n2 J i k' m ≤ 0 :=
    fun J h1 h2 => (BA.faceVal_sign _ r n1 n2 J i k' m hD hr hn1 h1 h2 hi' hk hm1 hm2).1
  rcases hfi with ((rfl | rfl) | ⟨j, hj, (rfl | rfl)⟩) | (rfl | rfl)
  · exact (BA.upper_value c k u v r n1 n2 0 i k' m).trans_le (le _ (by omega) (by omega))
  · rw [headD_flipCycle]
    exact (BA.lower_value c k u v r n1 n2 0 i k' m).trans_le (le _ (by omega) (by omega))
  · obtain ⟨_, hj2⟩ := List.mem_range'_1.mp hj
    exact (BA.upper_value c k u v r n1 n2 j i k' m).trans_le (le _ (by omega) (by omega))
  · obtain ⟨_, hj2⟩ := List.mem_range'_1.mp hj
    rw [headD_flipCycle]
    exact (BA.lower_value c k u v r n1 n2 j i k' m).trans_le (le _ (by omega) (by omega))
  · rw [headD_flipCycle]
    exact (BA.top_value c k u v r n1 n2 i k' m (by omega)).trans_le (le _ (by omega) (by omega))
  · exact (BA.bottom_value c k u v r n1 n2 i k' m (by omega)).trans_le (le _ (by omega) (by omega))

/-- the same on the model's face list and placement: for every face of `sphereOriented n1 n2` placed by
    `BA.spherePlace` and every vertex id, the vertex is on the inner side of the face plane -/
theorem BA.sphere_convex_placed (c k u v : R3) (r : ℝ) (n1 n2 : ℕ) (hD : 0 < dot k (cross u v)) (hr : 0 < r)
    (hn1 : 2 ≤ n1) (h2 : 2 ≤ n2) :
    ∀ f ∈ (sphereOriented n1 n2).map (List.map (BA.spherePlace c k u v r n1 n2)), ∀ id : ℕ,
      dot (sub (BA.spherePlace c k u v r n1 n2 id) (f.headD zero)) (vecArea2R f) ≤ 0 := by
  intro f hf id
  rw [BA.sphere_placed c k u v r n1 n2 h2] at hf
  obtain ⟨m, k', hm1, hm2, hk, e⟩ := BA.spherePlace_is_vtx c k u v r n1 n2 id (by omega) (by omega)
  rw [e]
  exact BA.sphere_convex c k u v r n1 n2 hD hr hn1 h2 f hf m k' hm1 hm2 hk

/-- … with the frame of `get_circle_point_list` (unit normal `k`, base vector `b` not parallel to it) -/
theorem BA.sphere_convex_closed_form (c k b : R3) (r : ℝ) (n1 n2 : ℕ) (hr : 0 < r) (hn1 : 2 ≤ n1) (h2 : 2 ≤ n2)
    (hk : 0 < normSq k) (hb : 0 < normSq (cross k b)) :
    ∀ f ∈ (sphereOriented n1 n2).map (List.map (BA.spherePlace c k (frameU k b 1) (frameV k b 1) r n1 n2)),
      ∀ id : ℕ, dot (sub (BA.spherePlace c k (frameU k b 1) (frameV k b 1) r n1 n2 id) (f.headD zero))
        (vecArea2R f) ≤ 0 :=
  BA.sphere_convex_placed c k _ _ r n1 n2 (frame_real_positive k b 1 one_pos hk hb).2 hr hn1 h2

#print axioms BA.sphere_upper_inner_strict
#print axioms BA.sphere_lower_inner_strict
#print axioms BA.sphere_top_inner_strict
#print axioms BA.sphere_bottom_inner_strict
#print axioms BA.sphere_convex
#print axioms BA.sphere_convex_placed
#print axioms BA.sphere_convex_closed_form
end BuildersReal
end G3D
