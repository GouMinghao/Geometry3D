import G3D.Model.PyRt
import G3D.Proofs.HandlersTieAttr
/-! Generic lemmas about the Python runtime `G3D.PyRt` used by `G3D.Proofs.HandlersTie` (Mathlib-free). -/
set_option linter.unusedSimpArgs false
namespace G3D.Tie
open V3 PyRt

/-! ### the `Except` monad, normalised to constructors -/
@[simp, pyrt] theorem ok_bind {ε α β} (a : α) (f : α → Except ε β) : (Except.ok a >>= f) = f a := rfl
@[simp, pyrt] theorem error_bind {ε α β} (e : ε) (f : α → Except ε β) : (Except.error e >>= f) = .error e := rfl
@[simp, pyrt] theorem pure_eq_ok {ε α} (a : α) : (pure a : Except ε α) = .ok a := rfl
@[simp, pyrt] theorem throw_eq_error {ε α} (e : ε) : (throw e : Except ε α) = .error e := rfl
@[simp, pyrt] theorem except_map_ok {ε α β} (f : α → β) (a : α) : (f <$> (Except.ok a : Except ε α)) = .ok (f a) := rfl
@[simp, pyrt] theorem except_map_error {ε α β} (f : α → β) (e : ε) : (f <$> (Except.error e : Except ε α)) = .error e := rfl

@[simp, pyrt] theorem bind_ok_comp {ε α β} (x : Except ε α) (f : α → β) : (x >>= fun a => Except.ok (f a)) = f <$> x := by
  cases x <;> rfl
@[simp] theorem map_id_except {ε α} (x : Except ε α) : ((fun a => a) <$> x) = x := by cases x <;> rfl

/-! ### evaluation rules on constructors (the simp set `pyrt`; none of them unfolds anything on a variable) -/
section rules
variable (p q : V3) (l : Line) (a : Plane) (s : Seg) (h : HalfLine) (P : Polygon) (B : Polyhedron) (o : Obj)
  (b : Bool) (n m : Int) (os : List Obj) (t : PyTy) (v w : Val) (x y : PyM Val) (e : BErr)

@[pyrt] theorem truthy_bool : (Val.bool b).truthy = b := rfl
@[pyrt] theorem truthy_none : Val.none.truthy = false := rfl
@[pyrt] theorem truthy_obj : (Val.obj o).truthy = true := rfl
@[pyrt] theorem ofRes_ok (r : Option Obj) : Val.ofRes (.ok r) = .ok (Val.ofOpt r) := rfl
@[pyrt] theorem ofRes_error : Val.ofRes (.error e) = .error e := rfl
@[pyrt] theorem ofOpt_none : Val.ofOpt none = .none := rfl
@[pyrt] theorem ofOpt_some : Val.ofOpt (some o) = .obj o := rfl
@[pyrt] theorem pyIsNone_none : pyIsNone .none = .bool true := rfl
@[pyrt] theorem pyIsNone_obj : pyIsNone (.obj o) = .bool false := rfl
@[pyrt] theorem pyNot_bool : pyNot (.bool b) = .bool (!b) := rfl
@[pyrt] theorem pyIsInstance_none : pyIsInstance .none t = .bool false := by cases t <;> rfl
@[pyrt] theorem pyIsInstance_point : pyIsInstance (.obj (.flat (.point p))) t = .bool (decide (t = .Point)) := by cases t <;> rfl
@[pyrt] theorem pyIsInstance_line : pyIsInstance (.obj (.flat (.line l))) t = .bool (decide (t = .Line)) := by cases t <;> rfl
@[pyrt] theorem pyIsInstance_plane : pyIsInstance (.obj (.flat (.plane a))) t = .bool (decide (t = .Plane)) := by cases t <;> rfl
@[pyrt] theorem pyIsInstance_seg : pyIsInstance (.obj (.flat (.seg s))) t = .bool (decide (t = .Segment)) := by cases t <;> rfl
@[pyrt] theorem pyIsInstance_halfline : pyIsInstance (.obj (.flat (.halfline h))) t = .bool (decide (t = .HalfLine)) := by cases t <;> rfl
@[pyrt] theorem pyIsInstance_polygon : pyIsInstance (.obj (.polygon P)) t = .bool (decide (t = .ConvexPolygon)) := by cases t <;> rfl
@[pyrt] theorem pyIsInstance_polyhedron : pyIsInstance (.obj (.polyhedron B)) t = .bool (decide (t = .ConvexPolyhedron)) := by cases t <;> rfl
@[pyrt] theorem pyAnd_ok_bool : pyAnd (.ok (.bool b)) y = if b then y else .ok (.bool false) := by cases b <;> rfl
@[pyrt] theorem pyOr_ok_bool : pyOr (.ok (.bool b)) y = if b then .ok (.bool true) else y := by cases b <;> rfl
@[pyrt] theorem pyAnd_error : pyAnd (.error e) y = .error e := rfl
@[pyrt] theorem pyOr_error : pyOr (.error e) y = .error e := rfl
@[pyrt] theorem pyLen_set : pyLen (.set os) = .ok (.int os.length) := rfl
@[pyrt] theorem pyLen_seq : pyLen (.seq os) = .ok (.int os.length) := rfl
@[pyrt] theorem pyLen_nums (r : List Rat) : pyLen (.nums r) = .ok (.int r.length) := rfl
@[pyrt] theorem pyList_set : pyList (.set os) = .ok (.seq os) := rfl
@[pyrt] theorem pyList_seq : pyList (.seq os) = .ok (.seq os) := rfl
@[pyrt] theorem pyIter_set : pyIter (.set os) = .ok (os.map .obj) := rfl
@[pyrt] theorem pyIter_seq : pyIter (.seq os) = .ok (os.map .obj) := rfl
@[pyrt] theorem pyIter_range : pyIter (.range n m) = .ok ((intsFrom n (m - n).toNat).map .int) := rfl
@[pyrt] theorem pyRange_int : pyRange (.int n) (.int m) = .ok (.range n m) := rfl
@[pyrt] theorem pyEq_int : pyEq (.int n) (.int m) = .ok (.bool (n == m)) := rfl
@[pyrt] theorem pyEq_point : pyEq (.obj (.flat (.point p))) (.obj (.flat (.point q))) = .ok (.bool (p == q)) := rfl
@[pyrt] theorem pyEq_line (l' : Line) : pyEq (.obj (.flat (.line l))) (.obj (.flat (.line l'))) = .ok (.bool (l.eqv l')) := rfl
@[pyrt] theorem pyEq_plane (a' : Plane) : pyEq (.obj (.flat (.plane a))) (.obj (.flat (.plane a'))) = .ok (.bool (a.eqv a')) := rfl
@[pyrt] theorem pyCmp_int (op : CmpOp) : pyCmp op (.int n) (.int m) = .ok (.bool (op.evalInt n m)) := rfl
@[pyrt] theorem evalInt_lt : CmpOp.lt.evalInt n m = decide (n < m) := rfl
@[pyrt] theorem evalInt_le : CmpOp.le.evalInt n m = decide (n ≤ m) := rfl
@[pyrt] theorem evalInt_gt : CmpOp.gt.evalInt n m = decide (m < n) := rfl
@[pyrt] theorem evalInt_ge : CmpOp.ge.evalInt n m = decide (m ≤ n) := rfl
@[pyrt] theorem pySetNew_eq : pySetNew = .set [] := rfl
@[pyrt] theorem pyDeepcopy_eq : pyDeepcopy v = v := rfl
@[pyrt] theorem pyAttr_plane_polygon : pyAttr_plane (.obj (.polygon P)) = .ok (.obj (.flat (.plane P.plane))) := rfl
@[pyrt] theorem pyAttr_points_polygon : pyAttr_points (.obj (.polygon P)) = .ok (.seq (P.pts.map ptObj)) := rfl
@[pyrt] theorem pyAttr_convex_polygons_polyhedron : pyAttr_convex_polygons (.obj (.polyhedron B)) = .ok (.seq (B.faces.map Obj.polygon)) := rfl
@[pyrt] theorem pyAttr_segment_set_polyhedron : pyAttr_segment_set (.obj (.polyhedron B)) = .ok (.set (B.edges.map sgObj)) := rfl
@[pyrt] theorem pyAttr_start_point_seg : pyAttr_start_point (.obj (.flat (.seg s))) = .ok (.obj (.flat (.point s.a))) := rfl
@[pyrt] theorem pyAttr_end_point_seg : pyAttr_end_point (.obj (.flat (.seg s))) = .ok (.obj (.flat (.point s.b))) := rfl
@[pyrt] theorem pyAttr_point_halfline : pyAttr_point (.obj (.flat (.halfline h))) = .ok (.obj (.flat (.point h.p))) := rfl
@[pyrt] theorem pyAttr_line_seg : pyAttr_line (.obj (.flat (.seg s))) = .ok (.obj (.flat (.line s.line))) := rfl
@[pyrt] theorem pyAttr_line_halfline : pyAttr_line (.obj (.flat (.halfline h))) = .ok (.obj (.flat (.line h.line))) := rfl
@[pyrt] theorem pyIn_point_line : pyIn (.obj (.flat (.point p))) (.obj (.flat (.line l))) = .ok (.bool (l.contains p)) := rfl
@[pyrt] theorem pyIn_point_plane : pyIn (.obj (.flat (.point p))) (.obj (.flat (.plane a))) = .ok (.bool (a.contains p)) := rfl
@[pyrt] theorem pyIn_point_seg : pyIn (.obj (.flat (.point p))) (.obj (.flat (.seg s))) = .ok (.bool (s.contains p)) := rfl
@[pyrt] theorem pyIn_point_halfline : pyIn (.obj (.flat (.point p))) (.obj (.flat (.halfline h))) = .ok (.bool (h.contains p)) := rfl
@[pyrt] theorem pyIn_halfline_halfline (g : HalfLine) : pyIn (.obj (.flat (.halfline g))) (.obj (.flat (.halfline h))) = .ok (.bool (h.containsHL g)) := rfl
@[pyrt] theorem pyIn_point_polygon : pyIn (.obj (.flat (.point p))) (.obj (.polygon P)) = .ok (.bool (P.contains p)) := rfl
@[pyrt] theorem pyIn_point_polyhedron : pyIn (.obj (.flat (.point p))) (.obj (.polyhedron B)) = .ok (.bool (B.contains p)) := rfl
@[pyrt] theorem pyIn_polygon_plane : pyIn (.obj (.polygon P)) (.obj (.flat (.plane a))) = .ok (.bool (P.inPlane a)) := rfl
@[pyrt] theorem pyIntersection_obj (o' : Obj) : pyIntersection (.obj o) (.obj o') = Val.ofRes (interRef o o') := rfl
@[pyrt] theorem pyMeth_intersection_obj (o' : Obj) : pyMeth_intersection (.obj o) (.obj o') = Val.ofRes (interRef o o') := rfl
@[pyrt] theorem pyVector_pt : pyVector (.obj (.flat (.point p))) (.obj (.flat (.point q))) = .ok (.vec (sub q p)) := rfl
@[pyrt] theorem pyLine_pt : pyLine (.obj (.flat (.point p))) (.obj (.flat (.point q))) =
    if q = p then .error .value else .ok (.obj (.flat (.line ⟨p, sub q p⟩))) := by
  simp only [pyLine]; split <;> rfl
@[pyrt] theorem pyMeth_parallel_vec (u u' : V3) : pyMeth_parallel (.vec u) (.vec u') = .ok (.bool (V3.parallel u u')) := rfl
@[pyrt] theorem pyMeth_move_pt (u : V3) : pyMeth_move (.obj (.flat (.point p))) (.vec u) = .ok (.obj (.flat (.point (add p u)))) := rfl
@[pyrt] theorem pyMul_vec_num (u : V3) (k : Rat) : pyMul (.vec u) (.num k) = .ok (.vec (smul k u)) := rfl
@[pyrt] theorem pyRelProjLen_vec (u u' : V3) : pyRelProjLen (.vec u) (.vec u') =
    if normSq u' = 0 then .error (.ctor .zeroDiv) else .ok (.num (dot u u' / normSq u')) := by
  simp only [pyRelProjLen]; split <;> rfl
@[pyrt] theorem pyListAppend_nums_num (r : List Rat) (k : Rat) : pyListAppend (.nums r) (.num k) = .ok (.nums (r ++ [k])) := rfl
@[pyrt] theorem pyMin_nums (k : Rat) (r : List Rat) : pyMin (.nums (k :: r)) = .ok (.num (r.foldl min k)) := rfl
@[pyrt] theorem pyMax_nums (k : Rat) (r : List Rat) : pyMax (.nums (k :: r)) = .ok (.num (r.foldl max k)) := rfl

/-! the reference dispatcher on operands of known kinds -/
@[pyrt] theorem interRef_flat_flat (g g' : Geo) : interRef (.flat g) (.flat g') = liftFlat (interFlat g g') := rfl
@[pyrt] theorem interRef_point_polygon : interRef (.flat (.point p)) (.polygon P) = interPointPolygon p P := rfl
@[pyrt] theorem interRef_polygon_point : interRef (.polygon P) (.flat (.point p)) = interPointPolygon p P := rfl
@[pyrt] theorem interRef_point_polyhedron : interRef (.flat (.point p)) (.polyhedron B) = interPointPolyhedron p B := rfl
@[pyrt] theorem interRef_polyhedron_point : interRef (.polyhedron B) (.flat (.point p)) = interPointPolyhedron p B := rfl
@[pyrt] theorem interRef_line_polygon : interRef (.flat (.line l)) (.polygon P) = interLinePolygon l P := rfl
@[pyrt] theorem interRef_polygon_line : interRef (.polygon P) (.flat (.line l)) = interLinePolygon l P := rfl
@[pyrt] theorem interRef_line_polyhedron : interRef (.flat (.line l)) (.polyhedron B) = interLinePolyhedron l B := rfl
@[pyrt] theorem interRef_polyhedron_line : interRef (.polyhedron B) (.flat (.line l)) = interLinePolyhedron l B := rfl
@[pyrt] theorem interRef_plane_polygon : interRef (.flat (.plane a)) (.polygon P) = interPlanePolygon a P := rfl
@[pyrt] theorem interRef_polygon_plane : interRef (.polygon P) (.flat (.plane a)) = interPlanePolygon a P := rfl
@[pyrt] theorem interRef_plane_polyhedron : interRef (.flat (.plane a)) (.polyhedron B) = interPlanePolyhedron a B := rfl
@[pyrt] theorem interRef_polyhedron_plane : interRef (.polyhedron B) (.flat (.plane a)) = interPlanePolyhedron a B := rfl
@[pyrt] theorem interRef_seg_polygon : interRef (.flat (.seg s)) (.polygon P) = interSegPolygon s P := rfl
@[pyrt] theorem interRef_polygon_seg : interRef (.polygon P) (.flat (.seg s)) = interSegPolygon s P := rfl
@[pyrt] theorem interRef_seg_polyhedron : interRef (.flat (.seg s)) (.polyhedron B) = interSegPolyhedron s B := rfl
@[pyrt] theorem interRef_polyhedron_seg : interRef (.polyhedron B) (.flat (.seg s)) = interSegPolyhedron s B := rfl
@[pyrt] theorem interRef_polygon_halfline : interRef (.polygon P) (.flat (.halfline h)) = interPolygonHalfLine P h := rfl
@[pyrt] theorem interRef_halfline_polygon : interRef (.flat (.halfline h)) (.polygon P) = interPolygonHalfLine P h := rfl
@[pyrt] theorem interRef_polyhedron_halfline : interRef (.polyhedron B) (.flat (.halfline h)) = interPolyhedronHalfLine B h := rfl
@[pyrt] theorem interRef_halfline_polyhedron : interRef (.flat (.halfline h)) (.polyhedron B) = interPolyhedronHalfLine B h := rfl
@[pyrt] theorem interRef_polygon_polygon (Q : Polygon) : interRef (.polygon P) (.polygon Q) = interPolygonPolygon P Q := rfl
@[pyrt] theorem interRef_polyhedron_polygon : interRef (.polyhedron B) (.polygon P) = interPolygonPolyhedron B P := rfl
@[pyrt] theorem interRef_polygon_polyhedron : interRef (.polygon P) (.polyhedron B) = interPolygonPolyhedron B P := rfl
@[pyrt] theorem interRef_polyhedron_polyhedron (A : Polyhedron) : interRef (.polyhedron A) (.polyhedron B) = interPolyhedronPolyhedron A B := rfl

@[pyrt] theorem interFlat_point_point : interFlat (.point p) (.point q) = interPointPoint p q := rfl
@[pyrt] theorem interFlat_point_line : interFlat (.point p) (.line l) = interPointLine p l := rfl
@[pyrt] theorem interFlat_point_plane : interFlat (.point p) (.plane a) = interPointPlane p a := rfl
@[pyrt] theorem interFlat_point_seg : interFlat (.point p) (.seg s) = interPointSeg p s := rfl
@[pyrt] theorem interFlat_point_halfline : interFlat (.point p) (.halfline h) = interPointHalfLine p h := rfl
@[pyrt] theorem interFlat_line_line (l' : Line) : interFlat (.line l) (.line l') = interLineLine l l' := rfl
@[pyrt] theorem interFlat_line_plane : interFlat (.line l) (.plane a) = interLinePlane l a := rfl
@[pyrt] theorem interFlat_plane_line : interFlat (.plane a) (.line l) = interLinePlane l a := rfl
@[pyrt] theorem interFlat_line_seg : interFlat (.line l) (.seg s) = interLineSeg l s := rfl
@[pyrt] theorem interFlat_seg_line : interFlat (.seg s) (.line l) = interLineSeg l s := rfl
@[pyrt] theorem interFlat_line_halfline : interFlat (.line l) (.halfline h) = interLineHalfLine l h := rfl
@[pyrt] theorem interFlat_plane_plane (a' : Plane) : interFlat (.plane a) (.plane a') = interPlanePlane a a' := rfl
@[pyrt] theorem interFlat_plane_seg : interFlat (.plane a) (.seg s) = interPlaneSeg a s := rfl
@[pyrt] theorem interFlat_seg_plane : interFlat (.seg s) (.plane a) = interPlaneSeg a s := rfl
@[pyrt] theorem interFlat_plane_halfline : interFlat (.plane a) (.halfline h) = interPlaneHalfLine a h := rfl
@[pyrt] theorem interFlat_seg_seg (s' : Seg) : interFlat (.seg s) (.seg s') = interSegSeg s s' := rfl
@[pyrt] theorem interFlat_seg_halfline : interFlat (.seg s) (.halfline h) = interSegHalfLine s h := rfl
@[pyrt] theorem interFlat_halfline_seg : interFlat (.halfline h) (.seg s) = interSegHalfLine s h := rfl
@[pyrt] theorem interFlat_halfline_halfline (h' : HalfLine) : interFlat (.halfline h) (.halfline h') = interHalfLineHalfLine h h' := rfl
@[pyrt] theorem liftFlat_ok_none : liftFlat (.ok none) = .ok none := rfl
@[pyrt] theorem liftFlat_ok_some (g : Geo) : liftFlat (.ok (some g)) = .ok (some (.flat g)) := rfl
@[pyrt] theorem liftFlat_error_bug : liftFlat (.error .bug) = .error .bug := rfl
end rules

/-! ### sets of points / segments / polygons versus the model's `addNew` / `addSeg` / `addPolygon` -/

/-- `set.add` on a list of embedded model values is the model's own duplicate-free insertion, for every embedding `emb`
    on which `objSame` is the model's test `same` -/
theorem addObj_map {α : Type} (emb : α → Obj) (same : α → α → Bool) (h : ∀ a b, objSame (emb a) (emb b) = same a b)
    (l : List α) (x : α) :
    addObj (l.map emb) (emb x) = (if l.any (same · x) then l else l ++ [x]).map emb := by
  unfold addObj
  simp only [List.any_map, Function.comp_def, h]
  split <;> simp

theorem addObj_pt (ps : List V3) (q : V3) : addObj (ps.map ptObj) (ptObj q) = (addNew ps q).map ptObj := by
  rw [addObj_map ptObj (· == ·) (fun _ _ => rfl), addNew]
  simp

@[simp, pyrt] theorem pySetAdd_pt (ps : List V3) (q : V3) :
    pySetAdd (.set (ps.map ptObj)) (.obj (.flat (.point q))) = .ok (.set ((addNew ps q).map ptObj)) := by
  rw [← addObj_pt]; rfl

@[simp, pyrt] theorem pySetAdd_sg (ss : List Seg) (s : Seg) :
    pySetAdd (.set (ss.map sgObj)) (.obj (.flat (.seg s))) = .ok (.set ((addSeg ss s).map sgObj)) := by
  rw [addSeg, ← addObj_map sgObj Seg.same (fun _ _ => rfl)]; rfl

@[simp, pyrt] theorem pySetAdd_polygon (fs : List Polygon) (P : Polygon) :
    pySetAdd (.set (fs.map Obj.polygon)) (.obj (.polygon P)) = .ok (.set ((addPolygon fs P).map Obj.polygon)) := by
  rw [addPolygon, ← addObj_map Obj.polygon Polygon.same (fun _ _ => rfl)]; rfl

theorem foldl_addObj_pt (qs acc : List V3) :
    (qs.map ptObj).foldl addObj (acc.map ptObj) = (qs.foldl addNew acc).map ptObj := by
  induction qs generalizing acc with
  | nil => rfl
  | cons q qs ih => simp only [List.map_cons, List.foldl_cons, addObj_pt, ih]

@[simp, pyrt] theorem pySetUnion_pt (acc qs : List V3) :
    pySetUnion (.set (acc.map ptObj)) (.set (qs.map ptObj)) = .ok (.set ((qs.foldl addNew acc).map ptObj)) := by
  simp [pySetUnion, foldl_addObj_pt]

@[simp, pyrt] theorem allPoints_pt (ps : List V3) : allPoints? (ps.map ptObj) = some ps := by
  induction ps with
  | nil => rfl
  | cons p ps ih => simp [allPoints?, ih, ptObj, objPoint?]

@[simp, pyrt] theorem allPolygons_polygon (fs : List Polygon) : allPolygons? (fs.map Obj.polygon) = some fs := by
  induction fs with
  | nil => rfl
  | cons p ps ih => simp [allPolygons?, ih, objPolygon?]

@[pyrt] theorem pyConvexPolygon_pt (ps : List V3) (r : Bool) (c : Val) :
    pyConvexPolygon (.seq (ps.map ptObj)) (.bool r) c = (fun P => Val.obj (.polygon P)) <$> liftC (Polygon.mk? ps r) := by
  simp only [pyConvexPolygon, allPoints_pt, Val.truthy]
  cases liftC (Polygon.mk? ps r) <;> rfl

@[pyrt] theorem pyConvexPolyhedron_polygon (fs : List Polygon) :
    pyConvexPolyhedron (.seq (fs.map Obj.polygon)) = (fun B => Val.obj (.polyhedron B)) <$> liftC (Polyhedron.mk? fs) := by
  simp only [pyConvexPolyhedron, allPolygons_polygon]
  cases liftC (Polyhedron.mk? fs) <;> rfl

/-! ### indexing -/
@[simp, pyrt] theorem pyIndex_seq_zero (o : Obj) (l : List Obj) : pyIndex (.seq (o :: l)) (.int 0) = .ok (.obj o) := by
  simp [pyIndex, normIdx]

@[simp, pyrt] theorem pyIndex_seq_one (o o' : Obj) (l : List Obj) : pyIndex (.seq (o :: o' :: l)) (.int 1) = .ok (.obj o') := by
  simp [pyIndex, normIdx]

/-! ### the result of a collected point set -/

/-- the common tail `len == 0 → None, == 1 → the point, == 2 → Segment, else Bug` -/
theorem ofPoints_cases (ps : List V3) :
    Val.ofRes (ofPoints ps) =
      match ps with
      | [] => .ok .none
      | [p] => .ok (.obj (.flat (.point p)))
      | [p, q] => if p = q then .error (.ctor .value) else .ok (.obj (.flat (.seg (Seg.mk' p q))))
      | _ => .error .bug := by
  match ps with
  | [] => rfl
  | [p] => rfl
  | [p, q] => by_cases h : p = q <;> simp [ofPoints, ofPointSet, mkSeg, h, liftFlat, Val.ofRes, Val.ofOpt, bind, Except.bind]
  | _ :: _ :: _ :: _ => rfl

@[simp, pyrt] theorem pySegment_pt (p q : V3) :
    pySegment (.obj (.flat (.point p))) (.obj (.flat (.point q))) =
      if p = q then .error (.ctor .value) else .ok (.obj (.flat (.seg (Seg.mk' p q)))) := by
  simp only [pySegment]; split <;> rfl

/-! ### `for` loops: a generated loop over embedded model values versus a model-level loop -/

def ForInStep.map' {σ τ} (f : σ → τ) : ForInStep σ → ForInStep τ
  | .yield s => .yield (f s)
  | .done s => .done (f s)

/-- If one round of the generated loop body, started in (the representation of) a model state, does what one round
    of the model-level step does, the two loops agree.  `emb` embeds the model's list elements into runtime
    values, `repr` the model's loop state into the tuple of runtime variables that Lean's `for` threads. -/
theorem forIn_repr {α β σ τ : Type} (emb : α → β) (repr : σ → τ) (xs : List α)
    (body : β → τ → PyM (ForInStep τ)) (step : α → σ → PyM (ForInStep σ))
    (h : ∀ x ∈ xs, ∀ s, body (emb x) (repr s) = ForInStep.map' repr <$> step x s) :
    ∀ s, forIn (xs.map emb) (repr s) body = repr <$> forIn xs s step := by
  induction xs with
  | nil => intro s; simp
  | cons x xs ih =>
    intro s
    simp only [List.map_cons, List.forIn_cons, h x (List.mem_cons_self ..)]
    cases step x s with
    | error e => simp
    | ok r =>
      have ih' := ih (fun y hy => h y (List.mem_cons_of_mem _ hy))
      cases r <;> simp only [ForInStep.map', ih', except_map_ok, ok_bind, pure_eq_ok]

/-- the only exception a flat computation may raise is the "Bug detected" TypeError -/
def OnlyBug (r : Res) : Prop := ∀ e, r = .error e → e = .bug

end G3D.Tie
