import G3D.Proofs.KTieKhashPolygon
import G3D.Proofs.KTieKhashPlane
import G3D.Proofs.KTieKhashPoint
import G3D.Proofs.Judge
/-! # khash, `ConvexPolygon.__hash__` end to end: the extracted hash is the model's hash-sum tuple; equal polygons hash equal  (C08)
    Imports the Plane and Point ties (the polygon hash delegates to `Plane.__hash__` and `Point.__hash__`; a change there rightly
    concerns this module too).
    Exact reading of the comparisons (`sigE`, `negE`); for all H, rnd, rndI. -/
namespace G3D.KTie.Khash
open G3D G3D.Extracted G3D.KTie

theorem implPoint_eq_ref (H : HFun) (rnd : ℝ → ℝ) : impl_hash_Point H rnd = pointHashRef H rnd := by
  funext p; exact hash_Point_tie H rnd p

theorem implPlane_eq_ref (H : HFun) (rnd : ℝ → ℝ) : impl_hash_Plane H rnd sigE negE = planeHashRef H rnd := by
  funext p n; exact hash_Plane_tie H rnd p n

section hash_ConvexPolygon3
theorem hash_ConvexPolygon3_ref (H : HFun) (rnd : ℝ → ℝ) (rndI : Int → Int) (a b c pp pn : RVec) :
    impl_hash_ConvexPolygon3 H rnd rndI sigE negE a b c pp pn = polygonHashRef H rnd rndI [a, b, c] pp pn := by
  rw [hash_ConvexPolygon3_shape, implPoint_eq_ref, implPlane_eq_ref]; rfl

/-- **the extracted hash of a triangle is `hFace` of the model's `Polygon.hashTupleAbs`**, instantiated with the extracted point
    hash and the (hash(plane) + hash(-plane), hash(plane) * hash(-plane)) pair computed from the canonical plane key -/
theorem hash_ConvexPolygon3_tuple_partial (H : HFun) (rnd : ℝ → ℝ) (rndI : Int → Int) (P : Polygon) (a b c : V3) (hp : P.pts = [a, b, c])
    (hw : P.plane.WF) :
    impl_hash_ConvexPolygon3 H rnd rndI sigE negE a.toR b.toR c.toR P.plane.p.toR (unitR P.plane.n.toR)
      = hFace H rndI (P.hashTupleAbs (hPt H rnd) (hPlanePair H rnd)) := by
  rw [hash_ConvexPolygon3_ref, ← polygonHashRef_tuple H rnd rndI P hw, hp]; rfl

/-- **EQUAL TRIANGLES HAVE EQUAL EXTRACTED HASHES** (same vertex set in any order / start vertex, same carrier plane with either
    orientation), for every H, rnd, rndI -/
theorem hash_ConvexPolygon3_eq_of_same_partial (H : HFun) (rnd : ℝ → ℝ) (rndI : Int → Int) {P Q : Polygon} (hP : P.Valid) (hQ : Q.Valid)
    (hs : P.same Q = true) (a b c a' b' c' : V3) (hp : P.pts = [a, b, c]) (hq : Q.pts = [a', b', c']) :
    impl_hash_ConvexPolygon3 H rnd rndI sigE negE a.toR b.toR c.toR P.plane.p.toR (unitR P.plane.n.toR)
      = impl_hash_ConvexPolygon3 H rnd rndI sigE negE a'.toR b'.toR c'.toR Q.plane.p.toR (unitR Q.plane.n.toR) := by
  simpa only [hash_ConvexPolygon3_ref, hp, hq, List.map] using polygonHashRef_eq_of_same H rnd rndI hP hQ hs

def exP : Polygon := ⟨[⟨0,0,0⟩, ⟨1,0,0⟩, ⟨0,1,0⟩], ⟨⟨0,0,0⟩, ⟨0,0,1⟩⟩, ⟨0,0,0⟩⟩
def exQ : Polygon := ⟨[⟨0,1,0⟩, ⟨1,0,0⟩, ⟨0,0,0⟩], ⟨⟨0,1,0⟩, ⟨0,0,-2⟩⟩, ⟨0,0,0⟩⟩

/-- non-vacuity: the same triangle listed from another start vertex in the opposite sense, with the opposite, rescaled normal -/
theorem hash_ConvexPolygon3_example (H : HFun) (rnd : ℝ → ℝ) (rndI : Int → Int) :
    impl_hash_ConvexPolygon3 H rnd rndI sigE negE (V3.toR ⟨0,0,0⟩) (V3.toR ⟨1,0,0⟩) (V3.toR ⟨0,1,0⟩) (V3.toR ⟨0,0,0⟩)
        (unitR (V3.toR ⟨0,0,1⟩))
      = impl_hash_ConvexPolygon3 H rnd rndI sigE negE (V3.toR ⟨0,1,0⟩) (V3.toR ⟨1,0,0⟩) (V3.toR ⟨0,0,0⟩) (V3.toR ⟨0,1,0⟩)
        (unitR (V3.toR ⟨0,0,-2⟩)) :=
  hash_ConvexPolygon3_eq_of_same_partial H rnd rndI (P := exP) (Q := exQ)
    (Polygon.valid_of_polygonValidB exP rfl (by decide +kernel)) (Polygon.valid_of_polygonValidB exQ rfl (by decide +kernel))
    (by decide +kernel) _ _ _ _ _ _ rfl rfl
end hash_ConvexPolygon3

section hash_ConvexPolygon4
theorem hash_ConvexPolygon4_ref (H : HFun) (rnd : ℝ → ℝ) (rndI : Int → Int) (a b c d pp pn : RVec) :
    impl_hash_ConvexPolygon4 H rnd rndI sigE negE a b c d pp pn = polygonHashRef H rnd rndI [a, b, c, d] pp pn := by
  rw [hash_ConvexPolygon4_shape, implPoint_eq_ref, implPlane_eq_ref]; rfl

theorem hash_ConvexPolygon4_tuple_partial (H : HFun) (rnd : ℝ → ℝ) (rndI : Int → Int) (P : Polygon) (a b c d : V3)
    (hp : P.pts = [a, b, c, d]) (hw : P.plane.WF) :
    impl_hash_ConvexPolygon4 H rnd rndI sigE negE a.toR b.toR c.toR d.toR P.plane.p.toR (unitR P.plane.n.toR)
      = hFace H rndI (P.hashTupleAbs (hPt H rnd) (hPlanePair H rnd)) := by
  rw [hash_ConvexPolygon4_ref, ← polygonHashRef_tuple H rnd rndI P hw, hp]; rfl

/-- **EQUAL QUADRILATERALS HAVE EQUAL EXTRACTED HASHES**, for every H, rnd, rndI -/
theorem hash_ConvexPolygon4_eq_of_same_partial (H : HFun) (rnd : ℝ → ℝ) (rndI : Int → Int) {P Q : Polygon} (hP : P.Valid) (hQ : Q.Valid)
    (hs : P.same Q = true) (a b c d a' b' c' d' : V3) (hp : P.pts = [a, b, c, d]) (hq : Q.pts = [a', b', c', d']) :
    impl_hash_ConvexPolygon4 H rnd rndI sigE negE a.toR b.toR c.toR d.toR P.plane.p.toR (unitR P.plane.n.toR)
      = impl_hash_ConvexPolygon4 H rnd rndI sigE negE a'.toR b'.toR c'.toR d'.toR Q.plane.p.toR (unitR Q.plane.n.toR) := by
  simpa only [hash_ConvexPolygon4_ref, hp, hq, List.map] using polygonHashRef_eq_of_same H rnd rndI hP hQ hs
end hash_ConvexPolygon4

#print axioms hash_ConvexPolygon3_tuple_partial
#print axioms hash_ConvexPolygon3_eq_of_same_partial
#print axioms hash_ConvexPolygon4_eq_of_same_partial
end G3D.KTie.Khash
