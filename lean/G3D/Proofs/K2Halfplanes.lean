import G3D.Proofs.K2Geom
/-! Kernel K2, general 2-D statement (finite Minkowski–Weyl for a bounded intersection of half-planes).
    In a plane (normal `n`, base point `p0`) let `cs` be finitely many half-plane constraints
    `0 ≤ g . x + k`.  If the feasible set has no direction of recession (`NoRecession`; for a non-empty feasible set
    this is boundedness, `noRecession_of_bounded`), every feasible point of the plane is a convex combination of at
    most four *vertices*: feasible points where two constraints with non-parallel boundary lines are tight
    (`halfplanes_hull`).  Proof: the chord argument, twice (chord through the point; then along the boundary line
    of the tight constraint at each chord end). -/
namespace G3D
open V3

/-- all constraints `0 ≤ g . x + k` hold at `x` -/
def HFeasible (cs : List (V3 × Rat)) (x : V3) : Prop := ∀ c ∈ cs, 0 ≤ dot c.1 x + c.2

/-- no in-plane direction along which every constraint is non-decreasing -/
def NoRecession (n : V3) (cs : List (V3 × Rat)) : Prop :=
  ∀ d, d ≠ zero → dot n d = 0 → ∃ c ∈ cs, dot c.1 d < 0

/-- a vertex of the feasible region: feasible, in the plane, two constraints tight whose boundary lines in the
    plane are not parallel -/
def HVertex (n p0 : V3) (cs : List (V3 × Rat)) (v : V3) : Prop :=
  inPlane n p0 v = true ∧ HFeasible cs v ∧
    ∃ c1 ∈ cs, ∃ c2 ∈ cs, dot c1.1 v + c1.2 = 0 ∧ dot c2.1 v + c2.2 = 0 ∧ dot n (cross c1.1 c2.1) ≠ 0

def lineCons (cs : List (V3 × Rat)) (sv dv : V3) : List (Rat × Rat) :=
  cs.map (fun c => (dot c.1 sv + c.2, dot c.1 dv))

theorem dot_pt (g sv dv : V3) (t : Rat) : dot g (pt sv dv t) = dot g sv + dot g dv * t := by
  simp only [pt, dot, add, smul]; ring

theorem lineCons_feas (cs : List (V3 × Rat)) (sv dv : V3) (t : Rat) :
    Feas (lineCons cs sv dv) t ↔ HFeasible cs (pt sv dv t) := by
  unfold lineCons HFeasible
  rw [Feas_map]
  refine forall₂_congr (fun c _ => ?_)
  rw [dot_pt]
  constructor <;> intro h <;> linarith

/-- a line of the plane through a feasible point meets the feasible region in a segment whose two ends are
    tight on constraints that are not constant along the line -/
theorem line_clip (n : V3) (cs : List (V3 × Rat)) (hnr : NoRecession n cs) (sv dv : V3) (hdv : dv ≠ zero)
    (hd : dot n dv = 0) (hs : HFeasible cs sv) :
    ∃ tlo thi, tlo ≤ 0 ∧ 0 ≤ thi ∧ HFeasible cs (pt sv dv tlo) ∧ HFeasible cs (pt sv dv thi) ∧
      (∃ c ∈ cs, dot c.1 dv ≠ 0 ∧ dot c.1 (pt sv dv tlo) + c.2 = 0) ∧
      (∃ c ∈ cs, dot c.1 dv ≠ 0 ∧ dot c.1 (pt sv dv thi) + c.2 = 0) := by
  have h0 : Feas (lineCons cs sv dv) 0 := by rw [lineCons_feas, pt_at_zero]; exact hs
  obtain ⟨cn, hcn, hcnn⟩ := hnr dv hdv hd
  obtain ⟨cp, hcp, hcpp⟩ := hnr (neg dv) (K3.neg_ne_zero hdv) (by simp only [dot, neg] at hd ⊢; linarith)
  have hcpp' : 0 < dot cp.1 dv := by simp only [dot, neg] at hcpp ⊢; linarith
  obtain ⟨tlo, hflo, hlo, clo, hclo, hclop, hclot⟩ := lp_lo (lineCons cs sv dv) 0 h0
    ⟨_, List.mem_map.mpr ⟨cp, hcp, rfl⟩, hcpp'⟩
  obtain ⟨thi, hfhi, hhi, chi, hchi, hchin, hchit⟩ := lp_hi (lineCons cs sv dv) 0 h0
    ⟨_, List.mem_map.mpr ⟨cn, hcn, rfl⟩, hcnn⟩
  refine ⟨tlo, thi, hlo 0 h0, hhi 0 h0, (lineCons_feas cs sv dv tlo).mp hflo, (lineCons_feas cs sv dv thi).mp hfhi,
    ?_, ?_⟩
  · obtain ⟨c, hc, rfl⟩ := List.mem_map.mp hclo
    simp only at hclop hclot
    exact ⟨c, hc, ne_of_gt hclop, by rw [dot_pt]; linarith⟩
  · obtain ⟨c, hc, rfl⟩ := List.mem_map.mp hchi
    simp only at hchin hchit
    exact ⟨c, hc, ne_of_lt hchin, by rw [dot_pt]; linarith⟩

/-- a boundary point (tight on `c1`, which is not constant along some in-plane direction) lies between two
    vertices on the boundary line of `c1` -/
theorem boundary_between_vertices (n p0 : V3) (hn : n ≠ zero) (cs : List (V3 × Rat)) (hnr : NoRecession n cs)
    (u : V3) (hup : inPlane n p0 u = true) (huf : HFeasible cs u)
    (c1 : V3 × Rat) (hc1 : c1 ∈ cs) (d : V3) (hd : dot n d = 0) (hc1d : dot c1.1 d ≠ 0)
    (ht : dot c1.1 u + c1.2 = 0) :
    ∃ w1 w2, HVertex n p0 cs w1 ∧ HVertex n p0 cs w2 ∧ Between w1 w2 u := by
  set d1 := cross n c1.1 with hd1
  have hd1n : dot n d1 = 0 := by simp only [hd1, dot, cross]; ring
  have hd1c : dot c1.1 d1 = 0 := by simp only [hd1, dot, cross]; ring
  have hd1z : d1 ≠ zero := by
    intro hz
    apply hc1d
    have hz' : cross c1.1 n = zero := by
      rw [cross_anticomm, ← hd1, hz]; apply V3.ext' <;> simp [neg, zero]
    obtain ⟨k, hk⟩ : ∃ k, c1.1 = smul k n := ⟨_, eq_smul_of_cross_eq_zero hn hz'⟩
    rw [hk]
    simp only [dot, smul] at hd ⊢
    linear_combination k * hd
  obtain ⟨tlo, thi, l0, l1, flo, fhi, ⟨clo, hclo, hclod, hclot⟩, ⟨chi, hchi, hchid, hchit⟩⟩ :=
    line_clip n cs hnr u d1 hd1z hd1n huf
  have key : ∀ t (c : V3 × Rat), c ∈ cs → HFeasible cs (pt u d1 t) → dot c.1 d1 ≠ 0 →
      dot c.1 (pt u d1 t) + c.2 = 0 → HVertex n p0 cs (pt u d1 t) := by
    intro t c hc hf hcd hct
    refine ⟨inPlane_pt hup hd1n t, hf, c1, hc1, c, hc, ?_, hct, ?_⟩
    · rw [dot_pt, hd1c]; linarith
    · intro hz; apply hcd
      have : dot c.1 d1 = dot n (cross c1.1 c.1) := by simp only [hd1, dot, cross]; ring
      rw [this, hz]
  exact ⟨pt u d1 tlo, pt u d1 thi, key tlo clo hclo flo hclod hclot, key thi chi hchi fhi hchid hchit,
    Between_pt_origin l0 l1⟩

/-- **(a) `halfplanes_hull`.**  Finitely many half-planes in a plane, no direction of recession: every feasible
    point is a convex combination of (at most four) vertices — feasible points at which two constraints with
    non-parallel boundary lines are tight. -/
theorem halfplanes_hull (n p0 : V3) (hn : n ≠ zero) (cs : List (V3 × Rat)) (hnr : NoRecession n cs)
    (x : V3) (hxp : inPlane n p0 x = true) (hxf : HFeasible cs x) :
    ∃ w1 w2 w3 w4, HVertex n p0 cs w1 ∧ HVertex n p0 cs w2 ∧ HVertex n p0 cs w3 ∧ HVertex n p0 cs w4 ∧
      InHull [w1, w2, w3, w4] x := by
  obtain ⟨hdn, hdz⟩ := K3.perp_spec n
  set d := K3.perp n
  obtain ⟨tlo, thi, l0, l1, flo, fhi, ⟨clo, hclo, hclod, hclot⟩, ⟨chi, hchi, hchid, hchit⟩⟩ :=
    line_clip n cs hnr x d hdz hdn hxf
  obtain ⟨w1, w2, v1, v2, b12⟩ := boundary_between_vertices n p0 hn cs hnr (pt x d tlo) (inPlane_pt hxp hdn tlo) flo
    clo hclo d hdn hclod hclot
  obtain ⟨w3, w4, v3, v4, b34⟩ := boundary_between_vertices n p0 hn cs hnr (pt x d thi) (inPlane_pt hxp hdn thi) fhi
    chi hchi d hdn hchid hchit
  refine ⟨w1, w2, w3, w4, v1, v2, v3, v4, ?_⟩
  have hu : InHull [w1, w2, w3, w4] (pt x d tlo) := between_in_hull (by simp) (by simp) b12
  have hv : InHull [w1, w2, w3, w4] (pt x d thi) := between_in_hull (by simp) (by simp) b34
  exact InHull.between hu hv (Between_pt_origin l0 l1)

/-- a non-empty bounded feasible region has no direction of recession -/
theorem noRecession_of_bounded (n p0 : V3) (cs : List (V3 × Rat)) (x0 : V3) (hx0p : inPlane n p0 x0 = true)
    (hx0 : HFeasible cs x0) (R : Rat)
    (hb : ∀ x, inPlane n p0 x = true → HFeasible cs x → normSq (sub x x0) ≤ R) : NoRecession n cs := by
  intro d hdz hdn
  by_contra hcon
  push Not at hcon
  have hN := normSq_pos hdz
  have hR : 0 ≤ R := by
    have := hb x0 hx0p hx0
    have e : normSq (sub x0 x0) = 0 := by simp [normSq, dot, sub]
    linarith
  have hray : ∀ t : Rat, 0 ≤ t → HFeasible cs (pt x0 d t) := by
    intro t ht c hc
    rw [dot_pt]
    have h1 := hx0 c hc
    have h2 := hcon c hc
    linarith [mul_nonneg h2 ht]
  set t := R / normSq d + 1 with ht
  have ht1 : 1 ≤ t := by
    have : 0 ≤ R / normSq d := div_nonneg hR (le_of_lt hN)
    linarith
  have htN : t * normSq d = R + normSq d := by rw [ht]; field_simp
  have := hb (pt x0 d t) (inPlane_pt hx0p hdn t) (hray t (by linarith))
  have e : normSq (sub (pt x0 d t) x0) = t * (t * normSq d) := by
    simp only [normSq, dot, sub, pt, add, smul]; ring
  rw [e, htN] at this
  linarith [mul_nonneg (sub_nonneg.mpr ht1) hR, mul_nonneg (sub_nonneg.mpr ht1) (le_of_lt hN)]

#print axioms halfplanes_hull
#print axioms noRecession_of_bounded
end G3D
