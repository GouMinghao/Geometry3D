import G3D.Extracted.Mmeas
import G3D.Proofs.MeasTieBase
/-! # mmeas, `Pyramid.height`  (C06)
    `G3D.Extracted.m_Pyramid_height` is regenerated on every run by tools/extract_mmeas.py from the BODY in
    geometry/pyramid.py: `abs(Vector(p0, self.point) * self.convex_polygon.plane.n.normalized())` with `p0 = points[0]`.
    The stored unit normal normalised once more is itself, and the value is the model's `heightNum / √(n·n)` — for every
    polygon with a non-zero normal.  (Own module: independent of the area bodies.) -/
namespace G3D.MeasTie.Pyramid
open G3D G3D.MeasRt G3D.KTie G3D.Extracted G3D.MeasTie Real

section height
/-- on any runtime pyramid whose stored normal is a unit vector direction `vNormalized n`, `n ≠ 0` -/
theorem m_Pyramid_height_real (pts : List RVec) (c p n apex : RVec) (hn : n ≠ RVec.zero) :
    m_Pyramid_height ⟨⟨pts, c, ⟨p, vNormalized n⟩⟩, apex⟩
      = |RVec.dot (RVec.sub apex (pyGetD pts 0 RVec.zero)) n| / √(RVec.normSq n) := by
  simp only [m_Pyramid_height, vecFromTo]
  rw [vNormalized_idem hn, dot_vNormalized, abs_div, abs_of_nonneg (Real.sqrt_nonneg _)]

/-- **`Pyramid.height()` = `heightNum / √(n·n)`** -/
theorem m_Pyramid_height_tie (f : Polygon) (apex : V3) (hn : f.plane.n ≠ V3.zero) :
    m_Pyramid_height (pyrToM (f, apex))
      = ((pyramidHeightNum f apex : ℚ) : ℝ) / √((V3.normSq f.plane.n : ℚ) : ℝ) := by
  simp only [pyrToM, polyToM, planeToM]
  rw [m_Pyramid_height_real _ _ _ _ _ (toR_nonzero hn), pyGetD_zero_map, toR_sub, toR_dot, toR_normSq]
  unfold pyramidHeightNum
  rw [cast_absQ]
end height

#print axioms m_Pyramid_height_real
#print axioms m_Pyramid_height_tie
end G3D.MeasTie.Pyramid
