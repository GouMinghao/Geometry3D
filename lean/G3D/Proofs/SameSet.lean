import G3D.Model.SameSet
import G3D.Proofs.BridgeExact

/-! # Equality of composites ⇔ same point set

    `ConvexPolygon.__eq__` / `ConvexPolyhedron.__eq__` compare hashes built from the SET of vertices and the carrier
    plane up to sign (polygon) / the sets of vertices and faces (polyhedron).  The model's idealisations are
    `Polygon.same` and `Polyhedron.sameB`.  Here: on valid objects they decide equality of the denoted point sets
    (the convex hull of the vertex list).

    * `Polygon.same_iff_same_hull` (both directions, `Valid` polygons);
    * `Polyhedron.sameB_iff_same_hull` (both directions, `Proper` bodies whose listed vertices are face vertices);
    * reflexivity / symmetry / transitivity as Bool equalities.

    Key facts: an exposed point of a finite set lying in the hull of a second set, all of whose points lie in the
    hull of the first, belongs to the second set (`SameSet.exposed_mem`); every vertex of a valid polygon is exposed
    (`Polygon.Valid.strictConvexPos`); every face vertex of a `Proper` body is exposed
    (`Polyhedron.Proper.vertex_exposed`); a face of a `Proper` body is cut out of ANY `Proper` body with the same
    hull by one of its own face planes (`SameSet.face_partner`, via `Polyhedron.line_interval`). -/
namespace G3D
open V3

/-! ### exposed points -/

/-- **exposed points are generators**: if `p` is exposed in `L`, every point of `M` lies in the hull of `L`, and `p`
    lies in the hull of `M`, then `p ∈ M` -/
theorem SameSet.exposed_mem {L M : List V3} {d p : V3} (hexp : ∀ q ∈ L, q ≠ p → dot d q < dot d p)
    (hM : ∀ m ∈ M, InHull L m) (hp : InHull M p) : p ∈ M := by
  obtain ⟨ws, hlen, hnn, hsum, hc⟩ := hp
  rcases comb_exposed d p ws M hlen hnn
    (fun q hq hne => (hull_exposed (hM q hq) hexp).resolve_left hne) with ⟨hor, _⟩ | h
  · rcases hor with h0 | hm
    · rw [hsum] at h0; exact absurd h0 one_ne_zero
    · exact hm
  · rw [hc, hsum] at h
    linarith

/-- two lists in strictly convex position with the same hull have the same members -/
theorem SameSet.mem_of_same_hull {L M : List V3} (hL : StrictConvexPos L)
    (h : ∀ x, InHull L x ↔ InHull M x) : ∀ p ∈ L, p ∈ M := by
  intro p hp
  obtain ⟨d, hd⟩ := hL p hp
  exact SameSet.exposed_mem hd (fun m hm => (h m).mpr (vertex_in_hull M m hm)) ((h p).mp (vertex_in_hull L p hp))

/-- the hull depends on the set of generators only -/
theorem SameSet.hull_congr {L M : List V3} (h1 : ∀ p ∈ L, p ∈ M) (h2 : ∀ p ∈ M, p ∈ L) (x : V3) :
    InHull L x ↔ InHull M x := ⟨fun h => h.mono h1, fun h => h.mono h2⟩

/-! ### polygons -/

theorem Polygon.same_iff (P Q : Polygon) :
    P.same Q = true ↔ (∀ p ∈ P.pts, p ∈ Q.pts) ∧ (∀ q ∈ Q.pts, q ∈ P.pts) ∧ P.plane.eqv Q.plane = true := by
  simp only [Polygon.same, Bool.and_eq_true, List.all_eq_true, decide_eq_true_eq, and_assoc]

theorem SameSet.den_of_valid (P : Polygon) (hv : P.Valid) (p : V3) (hp : p ∈ P.pts) : P.plane.den p :=
  (inPlane_iff_den P.plane p).mp (hv.pts_inPlane p hp)

theorem SameSet.first_three (P : Polygon) (hP : P.Valid) :
    ∃ p0 p1 p2, p0 ∈ P.pts ∧ p1 ∈ P.pts ∧ p2 ∈ P.pts ∧ cross (sub p1 p0) (sub p2 p0) ≠ zero := by
  obtain ⟨p0, m0, p1, m1, p2, m2, ho⟩ := hP.nondeg
  exact ⟨p0, p1, p2, m0, m1, m2, fun hz => ho (by rw [orient, hz]; simp [dot, zero])⟩

theorem SameSet.plane_eqv_of_three (a b : Plane) (ha : a.WF) (hb : b.WF) {p0 p1 p2 : V3}
    (hN : cross (sub p1 p0) (sub p2 p0) ≠ zero) (a0 : a.den p0) (a1 : a.den p1) (a2 : a.den p2)
    (b0 : b.den p0) (b1 : b.den p1) (b2 : b.den p2) : a.eqv b = true := by
  obtain ⟨k1, hk1⟩ := parallel_of_perp _ _ a.n hN (a.dot_sub_eq_zero a1 a0) (a.dot_sub_eq_zero a2 a0)
  obtain ⟨k2, hk2⟩ := parallel_of_perp _ _ b.n hN (b.dot_sub_eq_zero b1 b0) (b.dot_sub_eq_zero b2 b0)
  refine Plane.eqv_of_parallel_common a b ha hb ?_ p0 a0 b0
  rw [parallel_iff_cross, hk1, hk2]
  apply V3.ext' <;> simp only [cross, smul, zero] <;> ring

/-- a valid polygon all of whose vertices are vertices of a second valid polygon lies in the same carrier plane -/
theorem SameSet.plane_eqv_of_sub (P Q : Polygon) (hP : P.Valid) (hQ : Q.Valid) (hsub : ∀ p ∈ P.pts, p ∈ Q.pts) :
    P.plane.eqv Q.plane = true := by
  obtain ⟨p0, p1, p2, m0, m1, m2, hN⟩ := SameSet.first_three P hP
  exact SameSet.plane_eqv_of_three _ _ (Polygon.plane_WF P hP) (Polygon.plane_WF Q hQ) hN
    (SameSet.den_of_valid P hP _ m0) (SameSet.den_of_valid P hP _ m1) (SameSet.den_of_valid P hP _ m2)
    (SameSet.den_of_valid Q hQ _ (hsub _ m0)) (SameSet.den_of_valid Q hQ _ (hsub _ m1))
    (SameSet.den_of_valid Q hQ _ (hsub _ m2))

/-- **`ConvexPolygon.__eq__` decides equality of the point sets** (valid polygons) -/
theorem Polygon.same_iff_same_hull (P Q : Polygon) (hP : P.Valid) (hQ : Q.Valid) :
    P.same Q = true ↔ ∀ x, InHull P.pts x ↔ InHull Q.pts x := by
  rw [Polygon.same_iff]
  constructor
  · rintro ⟨h1, h2, _⟩ x
    exact SameSet.hull_congr h1 h2 x
  · intro h
    have h1 := SameSet.mem_of_same_hull hP.strictConvexPos h
    have h2 := SameSet.mem_of_same_hull hQ.strictConvexPos (fun x => (h x).symm)
    exact ⟨h1, h2, SameSet.plane_eqv_of_sub P Q hP hQ h1⟩
#print axioms Polygon.same_iff_same_hull

/-- with the membership test instead of the hull -/
theorem Polygon.same_iff_same_contains (P Q : Polygon) (hP : P.Valid) (hQ : Q.Valid) :
    P.same Q = true ↔ ∀ x, P.contains x = Q.contains x := by
  simp only [Polygon.same_iff_same_hull P Q hP hQ, Bool.eq_iff_iff, Polygon.contains_iff P hP, Polygon.contains_iff Q hQ]

/-- on valid polygons the carrier-plane component of `__eq__` is implied by the vertex-set component -/
theorem Polygon.same_iff_same_verts (P Q : Polygon) (hP : P.Valid) (hQ : Q.Valid) :
    P.same Q = true ↔ ∀ p, p ∈ P.pts ↔ p ∈ Q.pts := by
  rw [Polygon.same_iff]
  constructor
  · rintro ⟨h1, h2, _⟩ p; exact ⟨h1 p, h2 p⟩
  · intro h
    exact ⟨fun p => (h p).mp, fun p => (h p).mpr, SameSet.plane_eqv_of_sub P Q hP hQ (fun p => (h p).mp)⟩

theorem Polygon.same_refl (P : Polygon) (hP : P.Valid) : P.same P = true :=
  (Polygon.same_iff_same_hull P P hP hP).mpr (fun _ => Iff.rfl)

theorem Polygon.same_comm (P Q : Polygon) (hP : P.Valid) (hQ : Q.Valid) : P.same Q = Q.same P := by
  rw [Bool.eq_iff_iff, Polygon.same_iff_same_hull P Q hP hQ, Polygon.same_iff_same_hull Q P hQ hP]
  exact ⟨fun h x => (h x).symm, fun h x => (h x).symm⟩

theorem Polygon.same_trans (P Q R : Polygon) (hP : P.Valid) (hQ : Q.Valid) (hR : R.Valid)
    (h1 : P.same Q = true) (h2 : Q.same R = true) : P.same R = true := by
  rw [Polygon.same_iff_same_hull _ _ hP hQ] at h1
  rw [Polygon.same_iff_same_hull _ _ hQ hR] at h2
  exact (Polygon.same_iff_same_hull _ _ hP hR).mpr (fun x => (h1 x).trans (h2 x))

/-- equal polygons are indistinguishable for `same` -/
theorem Polygon.same_congr_left (P Q R : Polygon) (hP : P.Valid) (hQ : Q.Valid) (hR : R.Valid)
    (h : P.same Q = true) : P.same R = Q.same R := by
  rw [Bool.eq_iff_iff]
  exact ⟨fun h' => Polygon.same_trans Q P R hQ hP hR (by rw [Polygon.same_comm Q P hQ hP]; exact h) h',
    fun h' => Polygon.same_trans P Q R hP hQ hR h h'⟩


/-! ### polyhedra: `sameB` ⇒ same point set -/

theorem Polyhedron.sameB_iff (A B : Polyhedron) :
    A.sameB B = true ↔ (∀ v ∈ A.verts, v ∈ B.verts) ∧ (∀ v ∈ B.verts, v ∈ A.verts) ∧
      (∀ f ∈ A.faces, ∃ g ∈ B.faces, f.same g = true) ∧ (∀ g ∈ B.faces, ∃ f ∈ A.faces, g.same f = true) := by
  simp only [Polyhedron.sameB, Bool.and_eq_true, List.all_eq_true, List.any_eq_true, decide_eq_true_eq, and_assoc]

/-- equal bodies have the same convex hull (no hypothesis) -/
theorem Polyhedron.sameB_same_hull (A B : Polyhedron) (h : A.sameB B = true) (x : V3) :
    InHull A.verts x ↔ InHull B.verts x := by
  obtain ⟨h1, h2, _⟩ := (Polyhedron.sameB_iff A B).mp h
  exact SameSet.hull_congr h1 h2 x

/-- equal `Proper` bodies have the same membership test -/
theorem Polyhedron.sameB_same_contains (A B : Polyhedron) (hA : A.Proper) (hB : B.Proper)
    (h : A.sameB B = true) (x : V3) : A.contains x = B.contains x := by
  rw [Bool.eq_iff_iff, hA.contains_iff_hull, hB.contains_iff_hull]
  exact Polyhedron.sameB_same_hull A B h x

/-! ### every face vertex of a `Proper` body is an exposed point of the body -/

/-- a functional `M n + d` with `M` large is maximal at `v` only, when `n` is maximal at `v` and `d` is maximal at
    `v` only among the maximisers of `n` -/
theorem SameSet.exists_M (n d v : V3) : ∀ l : List V3, (∀ u ∈ l, dot n u ≤ dot n v) →
    (∀ u ∈ l, dot n u = dot n v → u ≠ v → dot d u < dot d v) →
    ∃ M0 : Rat, ∀ M, M0 ≤ M → ∀ u ∈ l, u ≠ v → M * dot n u + dot d u < M * dot n v + dot d v := by
  intro l
  induction l with
  | nil => intro _ _; exact ⟨0, fun M _ u hu => by cases hu⟩
  | cons a l ih =>
    intro h1 h2
    obtain ⟨M0, hM0⟩ := ih (fun u hu => h1 u (List.mem_cons_of_mem _ hu))
      (fun u hu => h2 u (List.mem_cons_of_mem _ hu))
    rcases (h1 a List.mem_cons_self).eq_or_lt with heq | hlt
    · -- `a` maximises `n` too: every `M` serves
      refine ⟨M0, fun M hM u hu hne => ?_⟩
      rcases List.mem_cons.mp hu with rfl | hu
      · have := h2 u List.mem_cons_self heq hne
        rw [heq]; linarith
      · exact hM0 M hM u hu hne
    · have hδpos : 0 < dot n v - dot n a := by linarith
      refine ⟨max M0 ((dot d a - dot d v) / (dot n v - dot n a) + 1), fun M hM u hu hne => ?_⟩
      rcases List.mem_cons.mp hu with hua | hu
      · have hM1 : (dot d a - dot d v) / (dot n v - dot n a) + 1 ≤ M := le_trans (le_max_right _ _) hM
        have e : (dot d a - dot d v) / (dot n v - dot n a) * (dot n v - dot n a) = dot d a - dot d v :=
          div_mul_cancel₀ _ (ne_of_gt hδpos)
        have h3 := mul_le_mul_of_nonneg_right hM1 (le_of_lt hδpos)
        rw [hua]
        linarith only [h3, e, hδpos]
      · exact hM0 M (le_trans (le_max_left _ _) hM) u hu hne

theorem SameSet.side_eq (f : Polygon) (x : V3) : f.side x = dot f.plane.n x - dot f.plane.n f.center := by
  simp only [Polygon.side, dot, sub]; ring

/-- **every vertex of a face of a `Proper` body is an exposed point of the vertex set** -/
theorem Polyhedron.Proper.vertex_exposed {A : Polyhedron} (hP : A.Proper) (f : Polygon) (hf : f ∈ A.faces)
    (v : V3) (hv : v ∈ f.pts) : ∃ D : V3, ∀ u ∈ A.verts, u ≠ v → dot D u < dot D v := by
  obtain ⟨d, hd⟩ := (hP.core.faces_valid f hf).strictConvexPos v hv
  have hsv : f.side v = 0 := hP.side_of_face f hf v (vertex_in_hull f.pts v hv)
  rw [SameSet.side_eq] at hsv
  have h1 : ∀ u ∈ A.verts, dot f.plane.n u ≤ dot f.plane.n v := by
    intro u hu
    have h := hP.core.verts_inside f hf u hu
    have e : dot (sub u f.center) f.plane.n = f.side u := rfl
    rw [e, SameSet.side_eq] at h
    linarith
  have h2 : ∀ u ∈ A.verts, dot f.plane.n u = dot f.plane.n v → u ≠ v → dot d u < dot d v := by
    intro u hu heq hne
    have hsu : f.side u = 0 := by rw [SameSet.side_eq, heq]; exact hsv
    have hcu : A.contains u = true := Polyhedron.contains_vert A hP.core.verts_inside u hu
    exact (hull_exposed (hP.tight u hcu f hf hsu) hd).resolve_left hne
  obtain ⟨M0, hM⟩ := SameSet.exists_M f.plane.n d v A.verts h1 h2
  refine ⟨add (smul M0 f.plane.n) d, fun u hu hne => ?_⟩
  have h := hM M0 (le_refl _) u hu hne
  have e : ∀ x, dot (add (smul M0 f.plane.n) d) x = M0 * dot f.plane.n x + dot d x := by
    intro x; simp only [dot, add, smul]; ring
  rw [e, e]; exact h
#print axioms Polyhedron.Proper.vertex_exposed

/-- every listed vertex is a vertex of some face -/
def Polyhedron.VertsOnFaces (A : Polyhedron) : Prop := ∀ v ∈ A.verts, ∃ f ∈ A.faces, v ∈ f.pts

theorem Polyhedron.vertsOnFacesB_iff (A : Polyhedron) : A.vertsOnFacesB = true ↔ A.VertsOnFaces := by
  simp only [Polyhedron.vertsOnFacesB, Polyhedron.VertsOnFaces, List.all_eq_true, List.any_eq_true,
    decide_eq_true_eq]

/-- the vertex list of a `Proper` body that lists face vertices only is in strictly convex position -/
theorem Polyhedron.Proper.verts_strictConvexPos {A : Polyhedron} (hP : A.Proper) (hR : A.VertsOnFaces) :
    StrictConvexPos A.verts := by
  intro v hv
  obtain ⟨f, hf, hvf⟩ := hR v hv
  exact hP.vertex_exposed f hf v hvf

/-- **same hull ⇒ same vertex set** -/
theorem Polyhedron.same_verts_of_same_hull (A B : Polyhedron) (hA : A.Proper) (hB : B.Proper)
    (hAv : A.VertsOnFaces) (hBv : B.VertsOnFaces) (h : ∀ x, InHull A.verts x ↔ InHull B.verts x) :
    ∀ v, v ∈ A.verts ↔ v ∈ B.verts := fun v =>
  ⟨SameSet.mem_of_same_hull (hA.verts_strictConvexPos hAv) h v,
   SameSet.mem_of_same_hull (hB.verts_strictConvexPos hBv) (fun x => (h x).symm) v⟩

/-! ### same hull ⇒ same faces -/

theorem SameSet.side_zero_iff_den (g : Polygon) (hc : G3D.inPlane g.plane.n g.plane.p g.center = true) (x : V3) :
    g.side x = 0 ↔ g.plane.den x :=
  (g.side_zero_inPlane hc x).trans (inPlane_iff_den g.plane x)

/-- **a face of a `Proper` body has a partner among the faces of every `Proper` body with the same hull.**
    The line through the centroid `z` of three vertices of `f` along the normal of `f` leaves the common body at
    `z`; there it is tight on a face `g` of `B` (`Polyhedron.line_interval`); `g ≤ 0` on the three vertices and
    `g = 0` at their centroid, so the plane of `g` contains them and is the plane of `f`; body ∩ plane = face for
    both. -/
theorem SameSet.face_partner {A B : Polyhedron} (hA : A.Proper) (hB : B.Proper)
    (h : ∀ x, InHull A.verts x ↔ InHull B.verts x) (f : Polygon) (hf : f ∈ A.faces) :
    ∃ g ∈ B.faces, f.same g = true := by
  have hcon : ∀ x, A.contains x = true ↔ B.contains x = true := fun x => by
    rw [hA.contains_iff_hull, hB.contains_iff_hull]; exact h x
  have hfv := hA.core.faces_valid f hf
  have hn : f.plane.n ≠ zero := Polygon.plane_WF f hfv
  obtain ⟨p0, p1, p2, hm0, hm1, hm2, hN⟩ := SameSet.first_three f hfv
  -- the centroid of the three vertices
  have hz3 := mean_in_hull [p0, p1, p2] (List.cons_ne_nil _ _)
  generalize hzdef : meanV [p0, p1, p2] = z at hz3
  have hzf : InHull f.pts z := hz3.mono (by simp [hm0, hm1, hm2])
  have hzA : A.contains z = true := hA.face_sub f hf z hzf
  have hzs : f.side z = 0 := hA.side_of_face f hf z hzf
  have hzB : B.contains z = true := (hcon z).mp hzA
  obtain ⟨tlo, thi, hle, hint, _, ⟨g, hg, hgs, _⟩⟩ :=
    B.line_interval hB.hullCore z f.plane.n hn ⟨0, by rw [pt_at_zero]; exact hzB⟩
  have h0 : tlo ≤ 0 ∧ 0 ≤ thi := (hint 0).mp (by rw [pt_at_zero]; exact hzB)
  have hthi : thi ≤ 0 := by
    have h' := (A.contains_iff_side _).mp ((hcon _).mpr ((hint thi).mpr ⟨hle, le_refl _⟩)) f hf
    rw [f.side_pt, hzs, zero_add] at h'
    exact nonpos_of_mul_nonpos_left h' (normSq_pos hn)
  have hthi0 : thi = 0 := le_antisymm hthi h0.2
  rw [hthi0, pt_at_zero] at hgs
  -- `g` vanishes on the three vertices
  have hgle : ∀ p ∈ f.pts, g.side p ≤ 0 := by
    intro p hpm
    have hcA : A.contains p = true := hA.face_sub f hf p (vertex_in_hull f.pts p hpm)
    exact (B.contains_iff_side p).mp ((hcon p).mp hcA) g hg
  have hsum : g.side z = (g.side p0 + g.side p1 + g.side p2) / 3 := by
    rw [← hzdef]; simp only [meanV, sumV, List.foldl, List.length, Polygon.side, dot, sub, add, smul, zero]; push_cast; ring
  have e0 := hgle p0 hm0
  have e1 := hgle p1 hm1
  have e2 := hgle p2 hm2
  rw [hgs] at hsum
  have hg0 : g.side p0 = 0 := by linarith only [hsum, e0, e1, e2]
  have hg1 : g.side p1 = 0 := by linarith only [hsum, e0, e1, e2]
  have hg2 : g.side p2 = 0 := by linarith only [hsum, e0, e1, e2]
  -- hence the planes agree
  have hcg := hB.core.center_in_plane g hg
  have hcf := hA.core.center_in_plane f hf
  have hgv := hB.core.faces_valid g hg
  have heqv : f.plane.eqv g.plane = true :=
    SameSet.plane_eqv_of_three f.plane g.plane hn (Polygon.plane_WF g hgv) hN
      (SameSet.den_of_valid f hfv p0 hm0) (SameSet.den_of_valid f hfv p1 hm1) (SameSet.den_of_valid f hfv p2 hm2)
      ((SameSet.side_zero_iff_den g hcg p0).mp hg0) ((SameSet.side_zero_iff_den g hcg p1).mp hg1)
      ((SameSet.side_zero_iff_den g hcg p2).mp hg2)
  have hden := Plane.eqv_den f.plane g.plane hn (Polygon.plane_WF g hgv) heqv
  -- body ∩ plane = face, for both
  refine ⟨g, hg, (Polygon.same_iff_same_hull f g hfv hgv).mpr (fun x => ?_)⟩
  rw [hA.face_iff f hf x, hB.face_iff g hg x, hcon x, SameSet.side_zero_iff_den f hcf,
    SameSet.side_zero_iff_den g hcg, hden x]
#print axioms SameSet.face_partner

/-! ### `ConvexPolyhedron.__eq__` decides equality of the point sets -/

/-- **`ConvexPolyhedron.__eq__` ⇔ same point set**, for `Proper` bodies that list face vertices only (which every
    constructed body does) -/
theorem Polyhedron.sameB_iff_same_hull (A B : Polyhedron) (hA : A.Proper) (hB : B.Proper)
    (hAv : A.VertsOnFaces) (hBv : B.VertsOnFaces) :
    A.sameB B = true ↔ ∀ x, InHull A.verts x ↔ InHull B.verts x := by
  constructor
  · exact Polyhedron.sameB_same_hull A B
  · intro h
    have hv := Polyhedron.same_verts_of_same_hull A B hA hB hAv hBv h
    exact (Polyhedron.sameB_iff A B).mpr ⟨fun v => (hv v).mp, fun v => (hv v).mpr,
      fun f hf => SameSet.face_partner hA hB h f hf,
      fun g hg => SameSet.face_partner hB hA (fun x => (h x).symm) g hg⟩
#print axioms Polyhedron.sameB_iff_same_hull

/-- the same with the membership test as the denotation -/
theorem Polyhedron.sameB_iff_same_contains (A B : Polyhedron) (hA : A.Proper) (hB : B.Proper)
    (hAv : A.VertsOnFaces) (hBv : B.VertsOnFaces) :
    A.sameB B = true ↔ ∀ x, A.contains x = B.contains x := by
  simp only [Polyhedron.sameB_iff_same_hull A B hA hB hAv hBv, Bool.eq_iff_iff, hA.contains_iff_hull, hB.contains_iff_hull]

/-- in particular the face component of `__eq__` is implied by the vertex component -/
theorem Polyhedron.sameB_iff_same_verts (A B : Polyhedron) (hA : A.Proper) (hB : B.Proper)
    (hAv : A.VertsOnFaces) (hBv : B.VertsOnFaces) :
    A.sameB B = true ↔ ∀ v, v ∈ A.verts ↔ v ∈ B.verts := by
  constructor
  · intro h v
    obtain ⟨h1, h2, _⟩ := (Polyhedron.sameB_iff A B).mp h
    exact ⟨h1 v, h2 v⟩
  · intro h
    exact (Polyhedron.sameB_iff_same_hull A B hA hB hAv hBv).mpr
      (fun x => SameSet.hull_congr (fun v => (h v).mp) (fun v => (h v).mpr) x)

theorem Polyhedron.sameB_refl (A : Polyhedron) (hfv : ∀ f ∈ A.faces, f.Valid) : A.sameB A = true :=
  (Polyhedron.sameB_iff A A).mpr ⟨fun _ h => h, fun _ h => h,
    fun f hf => ⟨f, hf, Polygon.same_refl f (hfv f hf)⟩, fun f hf => ⟨f, hf, Polygon.same_refl f (hfv f hf)⟩⟩

theorem Polyhedron.sameB_comm (A B : Polyhedron) : A.sameB B = B.sameB A := by
  rw [Bool.eq_iff_iff, Polyhedron.sameB_iff, Polyhedron.sameB_iff]
  exact ⟨fun ⟨a, b, c, d⟩ => ⟨b, a, d, c⟩, fun ⟨a, b, c, d⟩ => ⟨b, a, d, c⟩⟩

theorem Polyhedron.sameB_trans (A B C : Polyhedron) (hA : ∀ f ∈ A.faces, f.Valid) (hB : ∀ f ∈ B.faces, f.Valid)
    (hC : ∀ f ∈ C.faces, f.Valid) (h1 : A.sameB B = true) (h2 : B.sameB C = true) : A.sameB C = true := by
  obtain ⟨a1, b1, c1, d1⟩ := (Polyhedron.sameB_iff A B).mp h1
  obtain ⟨a2, b2, c2, d2⟩ := (Polyhedron.sameB_iff B C).mp h2
  refine (Polyhedron.sameB_iff A C).mpr ⟨fun v hv => a2 v (a1 v hv), fun v hv => b1 v (b2 v hv), ?_, ?_⟩
  · intro f hf
    obtain ⟨g, hg, hfg⟩ := c1 f hf
    obtain ⟨k, hk, hgk⟩ := c2 g hg
    exact ⟨k, hk, Polygon.same_trans f g k (hA f hf) (hB g hg) (hC k hk) hfg hgk⟩
  · intro k hk
    obtain ⟨g, hg, hkg⟩ := d2 k hk
    obtain ⟨f, hf, hgf⟩ := d1 g hg
    exact ⟨f, hf, Polygon.same_trans k g f (hC k hk) (hB g hg) (hA f hf) hkg hgf⟩


/-! ### constructed bodies -/

theorem SameSet.flipOf_mem (c : V3) (g : Polygon) (hg : g.Valid) (p : V3) : p ∈ (flipOf c g).pts ↔ p ∈ g.pts := by
  by_cases hd : dot (sub g.plane.p c) g.plane.n < 0
  · obtain ⟨Q, q0, rest, hgp, hQ, _, hQp, _⟩ := Polygon.neg?_of_valid g hg
    have hflip : flipOf c g = Q := by unfold flipOf; rw [if_pos hd, hQ]
    rw [hflip, hQp, hgp]; simp
  · have hflip : flipOf c g = g := by unfold flipOf; rw [if_neg hd]
    rw [hflip]

/-- every constructed body lists face vertices only -/
theorem Polyhedron.mk?_vertsOnFaces (input : List Polygon) (hv : ∀ g ∈ input, g.Valid) (B : Polyhedron)
    (h : Polyhedron.mk? input = .ok B) : B.VertsOnFaces := by
  obtain ⟨hverts, _, _, _, hF, _⟩ := Polyhedron.mk?_eq input B h
  intro v hvB
  rw [hverts, mem_collectVerts] at hvB
  obtain ⟨g, hg, hvg⟩ := hvB
  refine ⟨flipOf B.center g, ?_, (SameSet.flipOf_mem _ g (hv g hg) v).mpr hvg⟩
  rw [hF]; exact List.mem_map.mpr ⟨g, hg, rfl⟩

/-- so does the body `move` leaves behind -/
theorem Polyhedron.moved_vertsOnFaces (B : Polyhedron) (hV : B.Valid) (v : V3) : (B.moved v).VertsOnFaces := by
  intro w hw
  obtain ⟨p, hp, rfl⟩ := List.mem_map.mp (show w ∈ (collectVerts B.faces).map (fun p => add p v) from hw)
  obtain ⟨f, hf, hpf⟩ := (mem_collectVerts _ p).mp hp
  have hpts := (moved_face f (hV.faces_valid f hf) (hV.center_in_plane f hf) v).2.2.2.1
  refine ⟨(rebuild f).translate v, List.mem_map.mpr ⟨f, hf, rfl⟩, ?_⟩
  rw [hpts]; exact List.mem_map.mpr ⟨p, hpf, rfl⟩

theorem Polyhedron.mk?_reoriented_proper (B0 : Polyhedron) (hV : B0.Valid) (hloc : B0.FaceLocal) (F input : List Polygon)
    (hperm : List.Perm F B0.faces) (hrel : List.Forall₂ Reoriented F input) (B : Polyhedron)
    (h : Polyhedron.mk? input = .ok B) : B.Proper ∧ B.VertsOnFaces ∧ ∀ x, B.contains x = B0.contains x := by
  obtain ⟨_, hE⟩ := Polyhedron.mk?_reoriented_exactHyp_of_ok B0 hV hloc F input hperm hrel B h
  obtain ⟨_, _, _, _, m, _⟩ := Polyhedron.mk?_reoriented_queries B0 hV F input hperm hrel B h
  refine ⟨hE.proper, Polyhedron.mk?_vertsOnFaces input (fun g hg => ?_) B h, m⟩
  obtain ⟨_, _, hr⟩ := Forall₂.exists_left hrel g hg
  exact hr.valid

/-- **equality is canonical for constructed bodies**: two successful constructions from two reordered, re-oriented
    face lists of the same `Valid`, `FaceLocal` body compare equal -/
theorem Polyhedron.mk?_reoriented_sameB (B0 : Polyhedron) (hV : B0.Valid) (hloc : B0.FaceLocal)
    (F1 F2 input1 input2 : List Polygon)
    (hperm1 : List.Perm F1 B0.faces) (hrel1 : List.Forall₂ Reoriented F1 input1)
    (hperm2 : List.Perm F2 B0.faces) (hrel2 : List.Forall₂ Reoriented F2 input2)
    (B1 B2 : Polyhedron) (h1 : Polyhedron.mk? input1 = .ok B1) (h2 : Polyhedron.mk? input2 = .ok B2) :
    B1.sameB B2 = true := by
  obtain ⟨p1, v1, m1⟩ := Polyhedron.mk?_reoriented_proper B0 hV hloc F1 input1 hperm1 hrel1 B1 h1
  obtain ⟨p2, v2, m2⟩ := Polyhedron.mk?_reoriented_proper B0 hV hloc F2 input2 hperm2 hrel2 B2 h2
  exact (Polyhedron.sameB_iff_same_contains B1 B2 p1 p2 v1 v2).mpr (fun x => by rw [m1, m2])
#print axioms Polyhedron.mk?_reoriented_sameB

/-- … and compare equal to the reference body itself when that lists face vertices only -/
theorem Polyhedron.mk?_reoriented_sameB_ref (B0 : Polyhedron) (hV : B0.Valid) (hloc : B0.FaceLocal)
    (hv0 : B0.VertsOnFaces) (F input : List Polygon)
    (hperm : List.Perm F B0.faces) (hrel : List.Forall₂ Reoriented F input)
    (B : Polyhedron) (h : Polyhedron.mk? input = .ok B) : B.sameB B0 = true := by
  obtain ⟨p, v, m⟩ := Polyhedron.mk?_reoriented_proper B0 hV hloc F input hperm hrel B h
  exact (Polyhedron.sameB_iff_same_contains B B0 p (hV.proper hloc) v hv0).mpr m

/-! ### concrete instances -/

/-- the unit square, counter-clockwise from the origin -/
def SameSet.sq1 : Polygon := cycleFace [⟨0,0,0⟩, ⟨1,0,0⟩, ⟨1,1,0⟩, ⟨0,1,0⟩]
/-- the unit square, clockwise from the opposite corner (normal reversed) -/
def SameSet.sq2 : Polygon := cycleFace [⟨1,1,0⟩, ⟨1,0,0⟩, ⟨0,0,0⟩, ⟨0,1,0⟩]
/-- a triangle on three of its corners -/
def SameSet.tri : Polygon := cycleFace [⟨0,0,0⟩, ⟨1,0,0⟩, ⟨1,1,0⟩]

theorem SameSet.sq_valid : SameSet.sq1.Valid ∧ SameSet.sq2.Valid ∧ SameSet.tri.Valid :=
  ⟨Polygon.valid_of_validB _ (by decide +kernel), Polygon.valid_of_validB _ (by decide +kernel),
   Polygon.valid_of_validB _ (by decide +kernel)⟩

/-- equal as objects (by evaluation), hence equal as point sets (by the theorem) -/
example : SameSet.sq1.same SameSet.sq2 = true ∧ SameSet.sq1 ≠ SameSet.sq2 ∧
    ∀ x, InHull SameSet.sq1.pts x ↔ InHull SameSet.sq2.pts x :=
  ⟨by decide +kernel, by decide +kernel,
   (Polygon.same_iff_same_hull _ _ SameSet.sq_valid.1 SameSet.sq_valid.2.1).mp (by decide +kernel)⟩

/-- unequal as objects (by evaluation), hence different point sets (by the theorem) -/
example : ¬ ∀ x, InHull SameSet.sq1.pts x ↔ InHull SameSet.tri.pts x := fun h =>
  absurd ((Polygon.same_iff_same_hull _ _ SameSet.sq_valid.1 SameSet.sq_valid.2.2).mpr h) (by decide +kernel)

theorem cubeE_vertsOnFaces : cubeE.VertsOnFaces := (cubeE.vertsOnFacesB_iff).mp (by decide +kernel)

/-- the unit cube rebuilt by the constructor from its faces listed backwards and turned inside out equals the unit
    cube: by the theorem … -/
example (B : Polyhedron) (h : Polyhedron.mk? Bridge.cubeInput = .ok B) : B.sameB cubeE = true := by
  obtain ⟨p, v, m⟩ := Polyhedron.mk?_reoriented_proper unitCube unitCube_valid unitCube_faceLocal _ _
    Bridge.cubeInput_hyp.1 Bridge.cubeInput_hyp.2 B h
  exact (Polyhedron.sameB_iff_same_contains B cubeE p cubeE_exactHyp.proper v cubeE_vertsOnFaces).mpr m

/-- … and by evaluation (the stored bodies differ: other face order, other vertex order) -/
example : (match Polyhedron.mk? Bridge.cubeInput with
    | .ok B => B.sameB cubeE && cubeE.sameB B && !(B.verts == cubeE.verts) && !(B.faces == cubeE.faces)
    | .error _ => false) = true := by decide +kernel

/-- the unit cube and its translate by `(1, 0, 0)` are unequal as objects (by evaluation), hence are different
    point sets (by the theorem) -/
example : ¬ ∀ x, InHull cubeE.verts x ↔ InHull (unitCube.moved ⟨1, 0, 0⟩).verts x := fun h =>
  absurd ((Polyhedron.sameB_iff_same_hull cubeE (unitCube.moved ⟨1, 0, 0⟩) cubeE_exactHyp.proper
    (unitCube.moved_exactHyp unitCube_valid unitCube_faceLocal _).proper cubeE_vertsOnFaces
    (unitCube.moved_vertsOnFaces unitCube_valid _)).mpr h) (by decide +kernel)

end G3D

#print axioms G3D.Polygon.same_iff_same_hull
#print axioms G3D.Polyhedron.sameB_iff_same_hull
#print axioms G3D.Polyhedron.mk?_reoriented_sameB_ref
#print axioms G3D.cubeE_vertsOnFaces
#print axioms G3D.SameSet.sq_valid
