import G3D.Extracted.Kvec
import G3D.Proofs.Vec
/-! # kvec, equality: `Vector.__eq__`, `Point.__eq__`  (C08, C19)
    `G3D.Extracted.impl_*` are regenerated on every run (tools/extract_kvec.py, engine tools/kernels_engine.py): the REAL code is run on
    symbolic numbers, every comparison against the tolerance is recorded (operands and shape) and answered from a scripted
    path.  Each kernel has its own `section`: when the walk of ONE kernel fails the generated file holds only the marker
    `impl_<kernel>_EXTRACTION_FAILED` for it and exactly the theorems of that section stop compiling.
    (The ties of the group kvec are spread over four modules, one per property served: KTieKvecEq (C08), KTieKvecOrth (C11),
    KTieKvecLen (C06), KTieKvecPar (C11, C19).) -/
namespace G3D.KTie.Kvec
open G3D V3 G3D.Extracted

theorem eq_iff_sub (a b : V3) : a = b ↔ a.x - b.x = 0 ∧ a.y - b.y = 0 ∧ a.z - b.z = 0 := by
  simp only [sub_eq_zero]
  exact ⟨fun h => by rw [h]; exact ⟨rfl, rfl, rfl⟩, fun ⟨h1, h2, h3⟩ => V3.ext' h1 h2 h3⟩

section vectorEq
theorem vectorEq_tie (a b : V3) :
    impl_vectorEq_residual0 a b = a.x - b.x ∧ impl_vectorEq_residual1 a b = a.y - b.y ∧
    impl_vectorEq_residual2 a b = a.z - b.z := ⟨rfl, rfl, rfl⟩

/-- exact reading of the three recorded tests = structural equality of the model -/
theorem vectorEq_iff (a b : V3) :
    a = b ↔ impl_vectorEq_residual0 a b = 0 ∧ impl_vectorEq_residual1 a b = 0 ∧ impl_vectorEq_residual2 a b = 0 :=
  eq_iff_sub a b

theorem vectorEq_path :
    impl_vectorEq_path = [("abs(R) < eps", true), ("abs(R) < eps", true), ("abs(R) < eps", true)] := rfl
end vectorEq

section pointEq
theorem pointEq_tie (p q : V3) :
    impl_pointEq_residual0 p q = p.x - q.x ∧ impl_pointEq_residual1 p q = p.y - q.y ∧
    impl_pointEq_residual2 p q = p.z - q.z := ⟨rfl, rfl, rfl⟩

theorem pointEq_iff (p q : V3) :
    p = q ↔ impl_pointEq_residual0 p q = 0 ∧ impl_pointEq_residual1 p q = 0 ∧ impl_pointEq_residual2 p q = 0 :=
  eq_iff_sub p q

theorem pointEq_path :
    impl_pointEq_path = [("abs(R) < eps", true), ("abs(R) < eps", true), ("abs(R) < eps", true)] := rfl
end pointEq

section combined
theorem eq_paths :
    impl_vectorEq_path = [("abs(R) < eps", true), ("abs(R) < eps", true), ("abs(R) < eps", true)] ∧
    impl_pointEq_path = [("abs(R) < eps", true), ("abs(R) < eps", true), ("abs(R) < eps", true)] := ⟨vectorEq_path, pointEq_path⟩
end combined

end G3D.KTie.Kvec
