import G3D.Extracted.Hpolyhedron
import G3D.Proofs.HandlersTieShared
/-! # Tie, group `hpolyhedron` (property C02): flat × ConvexPolyhedron and the helpers only these handlers use —
    extracted body (`G3D.Extracted.Hpolyhedron`, tools/extract_hpolyhedron.py) = hand model.
    See `G3D.Proofs.HandlersTie` for the conventions. -/
set_option linter.unusedSimpArgs false
namespace G3D.Tie
open V3 PyRt Extracted

/-! ### `get_segment_from_point_list` -/

def relStep (p0 v0 : V3) (pi : V3) (rels : List Rat) : PyM (ForInStep (List Rat)) :=
  if !(V3.parallel (sub pi p0) v0) then .error .value
  else if normSq v0 = 0 then .error (.ctor .zeroDiv)
  else .ok (.yield (rels ++ [dot (sub pi p0) v0 / normSq v0]))

theorem forIn_relStep (p0 v0 : V3) (rest : List V3) (rels : List Rat) :
    forIn rest rels (relStep p0 v0) =
      if rest.any (fun pi => !(V3.parallel (sub pi p0) v0)) then .error .value
      else if rest ≠ [] ∧ normSq v0 = 0 then .error (.ctor .zeroDiv)
      else .ok (rels ++ rest.map (fun pi => dot (sub pi p0) v0 / normSq v0)) := by
  induction rest generalizing rels with
  | nil => simp
  | cons p rest ih =>
    simp only [List.forIn_cons, relStep, List.any_cons]
    by_cases hp : V3.parallel (sub p p0) v0 = true
    · simp only [hp, Bool.not_true, Bool.false_eq_true, if_false, Bool.false_or]
      by_cases hn : normSq v0 = 0
      · have hv : v0 = zero := normSq_eq_zero.mp hn
        have : (rest.any fun pi => !V3.parallel (sub pi p0) v0) = false := by
          rw [List.any_eq_false]; intro x _; rw [hv, parallel_zero_right]; simp
        simp [hn, this]
      · simp only [hn, if_false, ok_bind, ih, and_false]
        split
        · rfl
        · simp
    · have hp' : V3.parallel (sub p p0) v0 = false := by simpa using hp
      simp [hp']

theorem h_get_segment_from_point_list_eq (ps : List V3) :
    h_get_segment_from_point_list (Val.ptSeq ps) =
      (fun s => Val.obj (.flat (.seg s))) <$> segmentFromPointList ps := by
  unfold h_get_segment_from_point_list segmentFromPointList
  match ps with
  | [] => rfl
  | [p] => rfl
  | p0 :: p1 :: rest =>
    have hlen : ¬ ((rest.length : Int) + 1 + 1 < 2) := by omega
    have hn : ((rest.length : Int) + 1 + 1 - 2).toNat = rest.length := by omega
    simp only [pyrt, Val.ptSeq, List.map_cons, List.length_cons, Nat.cast_add, Nat.cast_one, hlen, decide_false,
      Bool.false_eq_true, if_false, ptObj, hn, List.length_map,
      show pyListLit [Val.int 0, Val.int 1] = .ok (.nums [0, 1]) from rfl]
    rw [← map_snd_indexed rest 2, show Val.nums [0, 1] = Val.nums ((fun r : List Rat => r) [0, 1]) from rfl,
      forIn_repr (fun xi : V3 × Int => Val.int xi.2) Val.nums (indexed 2 rest) _ (fun xi => relStep p0 (sub p1 p0) xi.1),
      forIn_indexed, forIn_relStep]
    · split
      · rfl
      · split
        · rfl
        · simp only [pyrt, List.cons_append, List.nil_append, List.foldl_cons, min_self, max_self]
          split <;> rfl
    · intro ⟨pi, i⟩ hmem rels
      have hidx : pyIndex (.seq (.flat (.point p0) :: .flat (.point p1) :: rest.map ptObj)) (.int i) =
          .ok (.obj (.flat (.point pi))) := pyIndex_indexed [_, _] rest pi i hmem
      simp only [hidx, pyrt, relStep]
      cases V3.parallel (sub pi p0) (sub p1 p0)
      · rfl
      · by_cases hz : normSq (sub p1 p0) = 0 <;> simp [hz, pyrt, ForInStep.map']

/-! ### the two polyhedron `get_*_intersection_point_set` helpers -/

/-- the code of both helpers: a loop over the faces, then one over the edges, with the same body -/
theorem boundaryLoops_eq (facePt : Polygon → ResB) (edgePt : Seg → Res) (hE : ∀ s, OnlyBug (edgePt s))
    (body : Val → Val → PyM (ForInStep Val))
    (hf : ∀ f (acc : List V3), body (.obj (.polygon f)) (.set (acc.map ptObj)) =
      hitBody (Val.ofRes (facePt f)) (.set (acc.map ptObj)))
    (he : ∀ s (acc : List V3), body (.obj (.flat (.seg s))) (.set (acc.map ptObj)) =
      hitBody (Val.ofRes (liftFlat (edgePt s))) (.set (acc.map ptObj))) (B : Polyhedron) :
    (do let ps ← forIn (B.faces.map (Val.obj ∘ Obj.polygon)) (Val.set []) body
        let ps ← forIn (B.edges.map (Val.obj ∘ sgObj)) ps body
        Except.ok ps) = Val.ptSet <$> boundaryHits facePt edgePt B := by
  rw [set_nil_pt, faceLoop_eq facePt body hf, boundaryHits]
  cases faceHits facePt B.faces [] with
  | error e => rfl
  | ok acc =>
    simp only [pyrt, Val.ptSet]
    rw [edgeLoop_eq edgePt hE body he]
    cases edgeHits edgePt B.edges acc <;> rfl

theorem h_get_segment_convexpolyhedron_intersection_point_set_eq (s : Seg) (B : Polyhedron) :
    h_get_segment_convexpolyhedron_intersection_point_set (.obj (.flat (.seg s))) (.obj (.polyhedron B)) =
      Val.ptSet <$> segPolyhedronPointSet s B := by
  unfold h_get_segment_convexpolyhedron_intersection_point_set
  simp only [pyrt, List.map_map]
  exact boundaryLoops_eq _ _ (fun t => interSegSeg_onlyBug t s) _ (fun _ _ => rfl) (fun _ _ => rfl) B

theorem h_get_halfline_convexpolyhedron_intersection_point_set_eq (h : HalfLine) (B : Polyhedron) :
    h_get_halfline_convexpolyhedron_intersection_point_set (.obj (.flat (.halfline h))) (.obj (.polyhedron B)) =
      Val.ptSet <$> boundaryHits (fun f => interPolygonHalfLine f h) (fun s => interSegHalfLine s h) B := by
  unfold h_get_halfline_convexpolyhedron_intersection_point_set
  simp only [pyrt, List.map_map]
  exact boundaryLoops_eq _ _ (fun t => interSegHalfLine_onlyBug t h) _ (fun _ _ => rfl) (fun _ _ => rfl) B

/-! ### `inter_line_convexpolyhedron` -/

def lineFaceStep (l : Line) (f : Polygon) (st : Option Obj × List V3) : PyM (ForInStep (Option Obj × List V3)) :=
  match interLinePolygon l f with
  | .ok (some (.flat (.seg s))) => .ok (.done (some (.flat (.seg s)), st.2))
  | .ok (some (.flat (.point q))) => .ok (.yield (none, addNew st.2 q))
  | .ok none => .ok (.yield (none, st.2))
  | .ok _ => .error .bug
  | .error e => .error e

theorem interLinePolyhedron_loop_eq (l : Line) (fs : List Polygon) (acc : List V3) :
    interLinePolyhedron.loop l fs acc =
      (do let st ← forIn fs ((none : Option Obj), acc) (lineFaceStep l)
          match st.1 with
          | some o => .ok (some o)
          | none => match st.2 with
            | [] => .ok none
            | [p] => pt? p
            | ps => do let s ← segmentFromPointList ps; seg? s) := by
  induction fs generalizing acc with
  | nil =>
    simp only [interLinePolyhedron.loop, List.forIn_nil, pyrt]
    rcases acc with _ | ⟨p, _ | ⟨q, r⟩⟩ <;> rfl
  | cons f fs ih =>
    simp only [List.forIn_cons, interLinePolyhedron.loop, lineFaceStep]
    split <;> simp only [*, ih, pyrt]
    rfl

theorem h_inter_line_convexpolyhedron_eq (l : Line) (B : Polyhedron) :
    h_inter_line_convexpolyhedron (.obj (.flat (.line l))) (.obj (.polyhedron B)) = Val.ofRes (interLinePolyhedron l B) := by
  unfold h_inter_line_convexpolyhedron interLinePolyhedron
  simp only [pyrt, List.map_map]
  rw [show ((none : Option Val), Val.set []) = reprRP (none, []) from rfl,
    forIn_repr (Val.obj ∘ Obj.polygon) reprRP B.faces _ (lineFaceStep l), interLinePolyhedron_loop_eq]
  · rcases forIn B.faces ((none : Option Obj), ([] : List V3)) (lineFaceStep l) with e | ⟨_ | o, acc⟩
    · rfl
    · simp only [pyrt, reprRP, Option.map_none, Val.ptSet]
      match acc with
      | [] => rfl
      | [p] => rfl
      | p :: q :: rest =>
        have h : ∀ n : Int, n < 2 → ((((p :: q :: rest).map ptObj).length : Int) == n) = false := by
          intro n hn; simp only [List.map_cons, List.length_cons, beq_eq_false_iff_ne]; omega
        have h2 : (2 : Int) ≤ (((p :: q :: rest).map ptObj).length : Int) := by
          simp only [List.map_cons, List.length_cons]; omega
        have hs := h_get_segment_from_point_list_eq (p :: q :: rest)
        rw [Val.ptSeq] at hs
        simp only [h 0 (by decide), h 1 (by decide), h2, hs, decide_true, Bool.false_eq_true, if_false, if_true]
        cases segmentFromPointList (p :: q :: rest) <;> rfl
    · rfl
  · intro f _ st
    simp only [Function.comp, pyrt, lineFaceStep, reprRP]
    rcases interLinePolygon l f with e | _ | ⟨g | P | B'⟩
    · rfl
    · rfl
    · cases g with
      | point q => simp only [pyrt, Val.ptSet]; rfl
      | _ => rfl
    · rfl
    · rfl

/-! ### `inter_plane_convexpolyhedron` -/

def findStep {α : Type} (c : α → Bool) (x : α) (_ : Option α) : PyM (ForInStep (Option α)) :=
  if c x then .ok (.done (some x)) else .ok (.yield none)

theorem forIn_findStep {α : Type} (c : α → Bool) (xs : List α) :
    forIn xs none (findStep c) = .ok (xs.find? c) := by
  induction xs with
  | nil => simp
  | cons x xs ih =>
    simp only [List.forIn_cons, findStep, List.find?_cons]
    by_cases h : c x = true
    · simp [h]
    · have h' : c x = false := by simpa using h
      simp [h', ih]

theorem interPlanePolyhedron_loop_eq (a : Plane) (ss : List Seg) (acc : List V3) :
    interPlanePolyhedron.loop a ss acc = edgeHits (fun s => interPlaneSeg a s) ss acc := by
  induction ss generalizing acc with
  | nil => rfl
  | cons s ss ih =>
    simp only [interPlanePolyhedron.loop, edgeHits]
    split <;> simp only [*, ih]

theorem h_inter_plane_convexpolyhedron_eq (a : Plane) (B : Polyhedron) :
    h_inter_plane_convexpolyhedron (.obj (.flat (.plane a))) (.obj (.polyhedron B)) = Val.ofRes (interPlanePolyhedron a B) := by
  unfold h_inter_plane_convexpolyhedron interPlanePolyhedron
  simp only [pyrt, List.map_map]
  rw [show ((none : Option Val), ()) = (fun r : Option Polygon => (r.map (Val.obj ∘ Obj.polygon), ())) none from rfl,
    forIn_repr (Val.obj ∘ Obj.polygon) (fun r : Option Polygon => (r.map (Val.obj ∘ Obj.polygon), ())) B.faces _
      (findStep (fun f => f.inPlane a)), forIn_findStep]
  swap
  · intro f _ st
    simp only [Function.comp, pyrt, findStep]
    by_cases hc : f.inPlane a = true <;> simp [hc, ForInStep.map']
  cases B.faces.find? (fun f => f.inPlane a) with
  | some f => rfl
  | none =>
    simp only [pyrt, Option.map_none, interPlanePolyhedron_loop_eq, set_nil_pt]
    rw [edgeLoop_eq (fun s => interPlaneSeg a s) (interPlaneSeg_onlyBug a) _ (fun _ _ => rfl)]
    cases edgeHits (fun s => interPlaneSeg a s) B.edges [] with
    | error e => rfl
    | ok acc =>
      simp only [pyrt, Val.ptSet]
      refine (pointTail_eq _ _).trans ?_
      match acc with
      | [] => rfl
      | [p] => rfl
      | [p, q] => by_cases hpq : p = q <;> simp [hpq, pyrt, seg?, liftC]
      | p :: q :: r :: rest => dsimp only; cases liftC (Polygon.mk? (p :: q :: r :: rest)) <;> rfl

/-! ### `inter_segment_convexpolyhedron`, `inter_convexpolyhedron_halfline` -/

theorem h_inter_segment_convexpolyhedron_eq (s : Seg) (B : Polyhedron) :
    h_inter_segment_convexpolyhedron (.obj (.flat (.seg s))) (.obj (.polyhedron B)) = Val.ofRes (interSegPolyhedron s B) := by
  unfold h_inter_segment_convexpolyhedron interSegPolyhedron
  simp -zeta only [pyrt, h_get_segment_convexpolyhedron_intersection_point_set_eq]
  -- with the membership of both end points decided, one arm of the code's `if / elif / elif / else` is live
  cases ha : B.contains s.a <;> cases hb : B.contains s.b <;>
    simp -zeta only [pyrt, Bool.not_true, Bool.not_false, Bool.and_true, Bool.and_false, Bool.false_eq_true, ↓reduceIte]
  case true.true => rfl
  all_goals
    cases segPolyhedronPointSet s B with
    | error e => rfl
    | ok acc =>
      simp only [pyrt, Val.ptSet]
      exact (pointTail_eq _ _).trans (ofPoints_cases _).symm

theorem h_inter_convexpolyhedron_halfline_eq (B : Polyhedron) (h : HalfLine) :
    h_inter_convexpolyhedron_halfline (.obj (.polyhedron B)) (.obj (.flat (.halfline h))) =
      Val.ofRes (interPolyhedronHalfLine B h) := by
  unfold h_inter_convexpolyhedron_halfline interPolyhedronHalfLine
  simp -zeta only [pyrt, h_get_halfline_convexpolyhedron_intersection_point_set_eq, ite_bind_jp]
  cases boundaryHits (fun f => interPolygonHalfLine f h) (fun s => interSegHalfLine s h) B with
  | error e => rfl
  | ok acc =>
    simp only [pyrt, Val.ptSet, ite_ok_ptSet]
    exact (pointTail_eq _ _).trans (ofPoints_cases _).symm

/-! ### `inter_point_convexpolyhedron` -/
theorem h_inter_point_convexpolyhedron_eq (p : V3) (B : Polyhedron) :
    h_inter_point_convexpolyhedron (.obj (.flat (.point p))) (.obj (.polyhedron B)) = Val.ofRes (interPointPolyhedron p B) := by
  unfold h_inter_point_convexpolyhedron interPointPolyhedron
  simp only [pyrt]
  cases B.contains p <;> rfl

/-! ## axiom audit -/
#print axioms h_get_segment_from_point_list_eq
#print axioms h_get_segment_convexpolyhedron_intersection_point_set_eq
#print axioms h_get_halfline_convexpolyhedron_intersection_point_set_eq
#print axioms h_inter_line_convexpolyhedron_eq
#print axioms h_inter_plane_convexpolyhedron_eq
#print axioms h_inter_segment_convexpolyhedron_eq
#print axioms h_inter_convexpolyhedron_halfline_eq
#print axioms h_inter_point_convexpolyhedron_eq

end G3D.Tie
