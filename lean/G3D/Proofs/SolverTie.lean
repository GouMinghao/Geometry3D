import G3D.Extracted.Solver
import G3D.Proofs.SolverTieGauss
/-! Tie of G3D/Extracted/Solver.lean (generated from Geometry3D/utils/solver.py by tools/extract_solver.py) to the hand
    model G3D/Model/Solver2.lean: every extracted definition equals the model's.  Property C16 (and C17, whose Plane
    general-form / parametric constructors call `solve`).

    SolverTieGauss.lean : `shape_tie`, `find_pivot_row_tie0`, `find_pivot_row_tie`, `gaussian_elimination_tie`
    this file           : `null_shape_tie` (the literal comparison of the one trusted reading), `null_tie`, `nullrow_tie`,
                          `count_tie`, `index_tie`, `first_nonzero_tie`, `init_tie`, `bool_tie`, `nonzero_tie`,
                          `call_tie` (passes `pass1_loop`, `pass2_loop`, `pass3_loop`), `solve_tie`, `solution_fields`,
                          `solve_call_tie`, `solve_bool_tie` (end to end), `rank_le`;
                          `deviation_empty`, `deviation_rank`, `deviation_ragged`: inputs OUTSIDE the hypotheses on which
                          the literal translation and the hand model differ.

    Method: the loop bodies are written once more here in `do`-notation (`pass1Body`, .. ; `outerBody`, `innerBody` in
    SolverTieGauss) and the generated definition is shown to be that loop by `rfl` (`call_unfold`, `gauss_unfold`): any
    change of the generated term breaks that step.  Each loop is then proved equal to the model's recursion by induction.
    Python exceptions: `liftE` embeds the model's `Err` (`noSolution`, `wrongArity` = the two `ValueError`s by message,
    `noneUsed` = the `TypeError` of `number * None`); `IndexError` / `ZeroDivisionError` are shown not to occur under the
    hypotheses (rows of length n+1, pivot / first non-zero entries ≠ 0, `first_nonzero(row) < n` in a solvable system). -/
set_option linter.unusedVariables false
set_option linter.unusedSimpArgs false
set_option linter.unusedTactic false
set_option linter.unreachableTactic false
namespace G3D.SolverTie
open G3D.PyRtS G3D.Extracted G3D.Solver2


theorem null_shape_tie : s_null_shape = "f |- abs(f) < get_eps()" := by decide

theorem null_tie (f : Rat) : s_null f = .ok (f == 0) := rfl

theorem nullrow_tie (r : List Rat) : s_nullrow r = .ok (nullRow r) := by
  unfold s_nullrow
  rw [pyAll_pure s_null (fun x => x == 0) r (fun x _ => null_tie x)]
  rfl

theorem count_tie (f : Rat → PyM Bool) (f' : Rat → Bool) (l : List Rat) (hf : ∀ x ∈ l, f x = .ok (f' x)) :
    s_count f l = .ok ((l.filter f').length : Int) := by
  unfold s_count
  simp only [pure_eq_ok]
  suffices h : ∀ (c : Int), (forIn l c fun i __s => do
          let b ← f i
          if b = true then Except.ok (ForInStep.yield (__s + 1)) else Except.ok (ForInStep.yield __s))
        = Except.ok (c + ((l.filter f').length : Int)) by
    rw [h]; simp
  induction l with
  | nil => intro c; simp
  | cons x xs ih =>
    intro c
    have ihx := ih (fun y hy => hf y (List.mem_cons_of_mem _ hy))
    rw [List.forIn_cons, hf x (List.mem_cons_self ..)]
    cases hx : f' x
    · simp [ihx, hx]
    · simp [ihx, hx]; omega




/-- first index (from `k`) whose element satisfies `p` -/
def findFrom (p : Rat → Bool) : Nat → List Rat → Option Nat
  | _, [] => none
  | k, x :: xs => if p x then some k else findFrom p (k + 1) xs

theorem index_loop (f : Rat → PyM Bool) (f' : Rat → Bool) :
    ∀ (l : List Rat) (k : Nat), (∀ x ∈ l, f x = .ok (f' x)) →
    (forIn (enumFrom k l) ((none : Option Int), ()) fun x __s =>
          match x with
          | (i, v) => do
            let b ← f v
            if b = true then Except.ok (ForInStep.done (some i, ())) else Except.ok (ForInStep.yield (none, ())))
      = Except.ok ((findFrom f' k l).map (fun (n : Nat) => (n : Int)), ()) := by
  intro l
  induction l with
  | nil => intro k _; simp [findFrom]
  | cons x xs ih =>
    intro k hf
    have ihx := ih (k + 1) (fun y hy => hf y (List.mem_cons_of_mem _ hy))
    rw [enumFrom_cons, List.forIn_cons]
    simp only [hf x (List.mem_cons_self ..), ok_bind]
    cases hx : f' x
    · simp [ihx, hx, findFrom]
    · simp [hx, findFrom]

theorem index_tie (f : Rat → PyM Bool) (f' : Rat → Bool) (l : List Rat) (hf : ∀ x ∈ l, f x = .ok (f' x)) :
    s_index f l = match findFrom f' 0 l with
      | some n => .ok (n : Int)
      | none => .error (.valueError "No item satisfies {}") := by
  unfold s_index
  simp only [pure_eq_ok, pyEnumerate_eq]
  rw [index_loop f f' l 0 hf]
  cases findFrom f' 0 l <;> rfl

theorem firstNonzero_le : ∀ (l : Row), firstNonzero l ≤ l.length := by
  intro l; fun_induction firstNonzero l <;> simp_all

theorem firstNonzero_lt_iff : ∀ (l : Row), firstNonzero l < l.length ↔ ∃ a ∈ l, a ≠ 0 := by
  intro l; fun_induction firstNonzero l <;> simp_all

theorem firstNonzero_getD : ∀ (l : Row), firstNonzero l < l.length → l.getD (firstNonzero l) 0 ≠ 0 := by
  intro l; fun_induction firstNonzero l <;> simp_all

theorem findFrom_nonzero (r : List Rat) (k : Nat) :
    findFrom (fun x => !(x == 0)) k r = if firstNonzero r < r.length then some (k + firstNonzero r) else none := by
  induction r generalizing k with
  | nil => rfl
  | cons a as ih =>
    by_cases h : a = 0
    · simp only [findFrom, firstNonzero, h, ih (k + 1), List.length_cons, Nat.add_lt_add_iff_right, beq_self_eq_true,
        Bool.not_true, Bool.false_eq_true, if_false, if_true, Nat.add_assoc, Nat.add_comm 1]
    · simp [findFrom, firstNonzero, h]

theorem first_nonzero_tie (r : List Rat) : s_first_nonzero r = .ok (firstNonzero r : Int) := by
  unfold s_first_nonzero
  simp only [pure_eq_ok, pyEnumerate_eq, null_tie, ok_bind]
  have h := index_loop (fun v => Except.ok (!(v == 0))) (fun v => !(v == 0)) r 0 (fun _ _ => rfl)
  simp only [ok_bind] at h
  rw [h, findFrom_nonzero]
  split
  · simp
  · have := firstNonzero_le r
    simp [pyLen]; omega


/-- the record that `Solution.__init__` builds, in terms of the model -/
def solutionOf (s : Mat) : Solution :=
  { _s := s
    varcount := ((s.headD []).length : Int) - 1
    _solvable := solvable s
    varargs := ((s.headD []).length : Int) - 1 - ((nonNullRows s).length : Int)
    exact := (((s.headD []).length : Int) - 1 - ((nonNullRows s).length : Int)) == 0 }

theorem init_tie (s : Mat) (hne : ∀ row ∈ s, row ≠ []) : s_init s = .ok (solutionOf s) := by
  unfold s_init
  have h1 : pyAny (fun row => do
        let a ← pyAnd (do let a ← pyAll (fun coeff => do let b ← s_null coeff; pure b) (pySliceTo row (-1)); pure a)
                      (do let i ← pyIdx row (-1); let b ← s_null i; pure !b)
        pure a) s
      = .ok (s.any (fun row => row.dropLast.all (· == 0) && (row.getLastD 0 != 0))) := by
    apply pyAny_pure
    intro row hrow
    rw [pySliceTo_neg_one, pyIdx_neg_one (hne row hrow)]
    rw [pyAll_pure _ (fun x => x == 0) _ (fun x _ => by simp [null_tie])]
    simp only [pyAnd, null_tie, pure_eq_ok, ok_bind]
    cases (row.dropLast.all fun x => x == 0) <;> simp [bne]
  have h2 : pyCompIf (fun row => do let b ← s_nullrow row; pure !b) (fun row => pure (1 : Int)) s
      = .ok (((s.filter (fun r => !nullRow r))).map (fun _ => (1 : Int))) := by
    apply pyCompIf_pure
    · intro row _; simp [nullrow_tie]
    · intro row _; rfl
  simp only [shape_tie, ok_bind, pure_eq_ok] at h1 h2 ⊢
  rw [h1, h2]
  simp only [ok_bind, pySum_ones]
  rfl


/-- body of the first loop of `__call__` (state: `vals`) -/
def pass1Body (x : Int × Row) (vals : List (Option Rat)) : PyM (ForInStep (List (Option Rat))) :=
  match x with
  | (i, row) => do
    if ((← s_count (fun i => do return !((← s_null i))) (pySliceTo row (-1 : Int))) == (1 : Int)) then
      let var : Int ← s_index (fun i => do return !((← s_null i))) (pySliceTo row (-1 : Int))
      let vals ← pySetIdx vals var (some (← pyDiv (← pyIdx row (-1 : Int)) (← pyIdx row var)))
      return ForInStep.yield vals
    return ForInStep.yield vals

/-- body of the second loop (state: `(v, vals)`) -/
def pass2Body (pivots : List Int) (i : Int) (st : List Rat × List (Option Rat)) :
    PyM (ForInStep (List Rat × List (Option Rat))) := do
  let v := st.1
  let vals := st.2
  if !(pyTruthy v) then
    return ForInStep.done (v, vals)
  if (← pyAnd (do return pyIsNone (← pyIdx vals i)) (do return !(pyIn i pivots))) then
    let pop_1 ← pyPop v
    let v := pop_1.2
    let vals ← pySetIdx vals i (some pop_1.1)
    return ForInStep.yield (v, vals)
  return ForInStep.yield (v, vals)

/-- the element of the generator expression under `sum(...)` in the third loop -/
def sumElt (row : Row) (vals : List (Option Rat)) (j : Int) : PyM Rat := do
  return (((-1 : Rat) * (← pyIdx row j)) * (← pyNum (← pyIdx vals j)))

/-- body of the third loop (state: `vals`) -/
def pass3Body (s : Mat) (i : Int) (vals : List (Option Rat)) : PyM (ForInStep (List (Option Rat))) := do
  let row : List Rat ← pyIdx s i
  if (← s_nullrow row) then
    return ForInStep.yield vals
  let tbd : Int ← s_first_nonzero row
  let s : Rat := pySum (← pyComp (sumElt row vals) (pyRange (tbd + (1 : Int)) (pyLen row - (1 : Int))))
  let s := s + (← pyIdx row (-1 : Int))
  let vals ← pySetIdx vals tbd (some (← pyDiv s (← pyIdx row tbd)))
  return ForInStep.yield vals

theorem call_unfold (self : Solution) (v : List Rat) : s_call self v = (do
    if !(self._solvable) then
      throw (PyErr.valueError "Has no solution")
    if (pyLen v != self.varargs) then
      throw (PyErr.valueError "Expected {} values, got {}")
    let vals ← forIn (pyEnumerate self._s) (pyRepeat [none] self.varcount) pass1Body
    let pivots := pySetOf (← pyCompIf (fun row => do return !((← s_nullrow row)))
      (fun row => do return (← s_first_nonzero row)) self._s)
    let st ← forIn (pyReversed (pyRange (0 : Int) (pyLen vals))) (pyList v, vals) (pass2Body pivots)
    let vals ← forIn (pyReversed (pyRange (0 : Int) (pyLen self._s))) st.2 (pass3Body self._s)
    return pyTuple vals) := by
  rfl


theorem pass1_length (s : Mat) (vals : List (Option Rat)) : (pass1 s vals).length = vals.length :=
  (pass1_spec s s vals fun _ h => h).1

theorem pass1_loop (n : Nat) : ∀ (rows : Mat) (k : Nat) (vals : List (Option Rat)),
    (∀ row ∈ rows, row.length = n + 1) → vals.length = n →
    forIn (enumFrom k rows) vals pass1Body = .ok (pass1 rows vals) := by
  intro rows
  induction rows with
  | nil => intro k vals _ _; simp [pass1]
  | cons row rest ih =>
    intro k vals hrows hv
    have hrow : row.length = n + 1 := hrows row (List.mem_cons_self ..)
    have hne : row ≠ [] := by intro h; rw [h] at hrow; simp at hrow
    have hcs : row.dropLast.length = n := by simp [hrow]
    rw [enumFrom_cons, List.forIn_cons, pass1, List.foldl_cons]
    have hcount : s_count (fun i => Except.ok !(i == 0)) (pySliceTo row (-1 : Int))
        = .ok (((row.dropLast.filter (fun x => !(x == 0))).length : Nat) : Int) := by
      rw [pySliceTo_neg_one]
      exact count_tie _ _ _ (fun x _ => rfl)
    have step : pass1Body ((k : Int), row) vals = .ok (ForInStep.yield
        (if (row.dropLast.filter (· != 0)).length = 1 then
          vals.set (firstNonzero row.dropLast) (some (row.getLastD 0 / row.getD (firstNonzero row.dropLast) 0))
         else vals)) := by
      unfold pass1Body
      simp only [pure_eq_ok, null_tie, ok_bind, hcount]
      by_cases hc : (row.dropLast.filter (fun x => !(x == 0))).length = 1
      · have hex : firstNonzero row.dropLast < row.dropLast.length := by
          rw [firstNonzero_lt_iff]
          obtain ⟨a, ha⟩ := List.exists_mem_of_length_pos (by omega : 0 < (row.dropLast.filter (fun x => !(x == 0))).length)
          rw [List.mem_filter] at ha
          exact ⟨a, ha.1, by simpa using ha.2⟩
        have hindex : s_index (fun i => Except.ok !(i == 0)) (pySliceTo row (-1 : Int))
            = .ok ((firstNonzero row.dropLast : Nat) : Int) := by
          rw [pySliceTo_neg_one, index_tie _ (fun x => !(x == 0)) _ (fun x _ => rfl), findFrom_nonzero, if_pos hex]
          simp
        have hget : row.getD (firstNonzero row.dropLast) 0 ≠ 0 := by
          rw [← getD_dropLast row _ hex]; exact firstNonzero_getD _ hex
        simp only [ok_bind, hc, hindex, pyIdx_neg_one hne,
          pyIdx_getD (l := row) (firstNonzero row.dropLast) rfl (by omega), pyDiv, hget, if_false, pure_eq_ok,
          pySetIdx_nat (l := vals) (firstNonzero row.dropLast) _ rfl (by omega)]
        rw [if_pos (show (row.dropLast.filter (· != 0)).length = 1 from hc)]
        rfl
      · have : ((((row.dropLast.filter (fun x => !(x == 0))).length : Nat) : Int) == 1) = false := by
          simp; exact_mod_cast hc
        simp only [this]
        rw [if_neg (show ¬ (row.dropLast.filter (· != 0)).length = 1 from hc)]
        rfl
    rw [step]
    simp only [ok_bind]
    exact ih (k + 1) _ (fun r hr => hrows r (List.mem_cons_of_mem _ hr)) (by split <;> simpa using hv)


theorem pyIn_cast (i : Nat) (piv : List Nat) :
    pyIn (i : Int) (piv.map (fun (c : Nat) => (c : Int))) = decide (i ∈ piv) := by
  simp [pyIn, List.contains_eq_mem]

theorem pass2_loop (piv : List Nat) : ∀ (i : Nat) (v : List Rat) (vals : List (Option Rat)), i ≤ vals.length →
    (Prod.snd <$> forIn (pyReversed (pyRange (0 : Int) ((i : Nat) : Int))) (v, vals)
        (pass2Body (piv.map (fun (c : Nat) => (c : Int)))))
      = .ok (pass2 piv i v vals) := by
  intro i
  induction i with
  | zero => intro v vals _; rw [pyReversed_range_zero]; simp [pass2]
  | succ i ih =>
    intro v vals hi
    rw [pyReversed_range_succ, List.forIn_cons]
    have step : pass2Body (piv.map (fun (c : Nat) => (c : Int))) (i : Int) (v, vals)
        = .ok (if v.isEmpty then ForInStep.done (v, vals) else ForInStep.yield
            (if vals.getD i none = none ∧ i ∉ piv then (v.dropLast, vals.set i (some (v.getLastD 0))) else (v, vals))) := by
      unfold pass2Body
      cases hv : v.isEmpty
      · have hidx : pyIdx vals (i : Int) = .ok (vals.getD i none) := by
          rw [pyIdx_nat i rfl (by omega), getD_eq_getElem]
        have hvne : v ≠ [] := by intro h; rw [h] at hv; cases hv
        have hpop : pyPop v = .ok (v.getLastD 0, v.dropLast) := by
          unfold pyPop
          rw [List.getLast?_eq_some_getLast hvne]
          simp only [pure_eq_ok]
          congr 2
          rw [List.getLastD_eq_getLast?, List.getLast?_eq_some_getLast hvne]; rfl
        simp only [pyTruthy, hv, Bool.not_false, Bool.not_true, Bool.false_eq_true, if_false, pyAnd, hidx,
          pure_eq_ok, ok_bind, pyIsNone, pyIn_cast]
        by_cases hc : vals.getD i none = none ∧ i ∉ piv
        · rw [if_pos hc]
          simp only [hc.1, Option.isNone_none, if_true, hc.2, decide_false, Bool.not_false, ok_bind,
            hpop, pySetIdx_nat (l := vals) i _ rfl (by omega)]
        · rw [if_neg hc]
          cases hh : vals.getD i none with
          | none => simp [show i ∈ piv from by_contra fun h2 => hc ⟨hh, h2⟩]
          | some x => simp
      · simp only [pyTruthy, hv, Bool.not_true, Bool.not_false, if_true]
        rfl
    rw [step, pass2]
    by_cases hv : v.isEmpty = true
    · simp [hv]
    · rw [if_neg hv, if_neg hv]
      by_cases hc : vals.getD i none = none ∧ i ∉ piv
      · rw [if_pos hc, if_pos hc]; exact ih _ _ (by simp; omega)
      · rw [if_neg hc, if_neg hc]; exact ih _ _ (by omega)


/-- the Python exception that the model's error stands for -/
def embedErr : Err → PyErr
  | .noSolution => .valueError "Has no solution"
  | .wrongArity => .valueError "Expected {} values, got {}"
  | .noneUsed => .typeError

/-- a model result as a runtime result -/
def liftE {α} : Except Err α → PyM α
  | .ok a => .ok a
  | .error e => .error (embedErr e)

@[simp] theorem liftE_ok {α} (a : α) : liftE (.ok a : Except Err α) = .ok a := rfl
@[simp] theorem liftE_error {α} (e : Err) : liftE (.error e : Except Err α) = .error (embedErr e) := rfl
theorem liftE_bind {α β} (x : Except Err α) (f : α → Except Err β) :
    liftE (x >>= f) = liftE x >>= fun a => liftE (f a) := by
  cases x <;> rfl

/-- one row of the back substitution (the model's `pass3` is `pass3 rest vals >>= pass3Step row`) -/
def pass3Step (row : Row) (vals' : List (Option Rat)) : Except Err (List (Option Rat)) :=
  if nullRow row then pure vals' else do
    let s ← sumNeg ((row.drop (firstNonzero row + 1)).dropLast) (vals'.drop (firstNonzero row + 1))
    pure (vals'.set (firstNonzero row) (some ((s + row.getLastD 0) / row.getD (firstNonzero row) 0)))

theorem pass3_cons (row : Row) (rest : List Row) (vals : List (Option Rat)) :
    pass3 (row :: rest) vals = pass3 rest vals >>= pass3Step row := by
  simp only [pass3, pass3Step]
  cases pass3 rest vals with
  | error e => rfl
  | ok vals' =>
    show (if nullRow row = true then _ else _) = (if nullRow row = true then _ else _)
    split <;> rfl

theorem pass3_append : ∀ (a b : List Row) (vals : List (Option Rat)),
    pass3 (a ++ b) vals = pass3 b vals >>= pass3 a := by
  intro a
  induction a with
  | nil => intro b vals; cases h : pass3 b vals <;> simp [pass3, h] <;> rfl
  | cons row rest ih =>
    intro b vals
    rw [List.cons_append, pass3_cons, ih]
    cases h : pass3 b vals with
    | error e => rfl
    | ok v => simp only [ok_bind]; rw [pass3_cons]

theorem pass3Step_length (row : Row) (vals vals' : List (Option Rat)) (h : pass3Step row vals = .ok vals') :
    vals'.length = vals.length := by
  unfold pass3Step at h
  split at h
  · cases h; rfl
  · cases hs : sumNeg ((row.drop (firstNonzero row + 1)).dropLast) (vals.drop (firstNonzero row + 1)) with
    | error e => rw [hs] at h; cases h
    | ok s => rw [hs] at h; cases h; simp

/-- the generator expression under `sum(...)` in the third loop = the model's `sumNeg` -/
theorem sum_loop (row : Row) (vals : List (Option Rat)) (n : Nat) (hrow : row.length = n + 1) (hvals : vals.length = n) :
    ∀ (cnt t : Nat), t + cnt = n →
    (pySum <$> pyComp (sumElt row vals) (pyRange (t : Int) (pyLen row - 1)))
      = liftE (sumNeg ((row.drop t).dropLast) (vals.drop t)) := by
  have hcs : row.dropLast.length = n := by simp [hrow]
  have hlen : pyLen row - 1 = (n : Int) := by unfold pyLen; omega
  simp only [dropLast_drop, hlen]
  intro cnt
  induction cnt with
  | zero =>
    intro t ht
    rw [pyRange_empty (by omega), List.drop_eq_nil_of_le (by omega)]
    rfl
  | succ c ih =>
    intro t ht
    have ht1 : t < n := by omega
    have hdl : row.dropLast.drop t = row.getD t 0 :: row.dropLast.drop (t + 1) := by
      rw [List.drop_eq_getElem_cons (by omega), ← getD_eq_getElem _ 0, getD_dropLast row t (by omega)]
    have hv : vals.drop t = vals.getD t none :: vals.drop (t + 1) := by
      rw [List.drop_eq_getElem_cons (by omega), getD_eq_getElem]
    rw [pyRange_cons (by omega), hdl, hv]
    have e1 : pyIdx row (t : Int) = .ok (row.getD t 0) := pyIdx_getD t rfl (by omega)
    have e2 : pyIdx vals (t : Int) = .ok (vals.getD t none) := by
      rw [pyIdx_nat t rfl (by omega), getD_eq_getElem]
    have ihx := ih (t + 1) (by omega)
    rw [← Nat.cast_succ]
    have ge : sumElt row vals (t : Int) = (match vals.getD t none with
        | none => .error .typeError
        | some x => .ok (-1 * row.getD t 0 * x)) := by
      unfold sumElt
      simp only [e1, e2, ok_bind, pure_eq_ok]
      cases vals.getD t none <;> rfl
    simp only [pyComp, ge]
    cases hval : vals.getD t none with
    | none => simp [sumNeg, embedErr]
    | some x =>
      simp only [ok_bind, sumNeg]
      generalize pyComp (sumElt row vals) (pyRange ((t + 1 : Nat) : Int) (n : Int)) = C at ihx ⊢
      generalize sumNeg (row.dropLast.drop (t + 1)) (vals.drop (t + 1)) = S at ihx ⊢
      -- `ihx` relates the two in each of the four cases
      cases S <;> cases C <;> simp at ihx <;> simp [pySum_cons, ihx]


/-- in a solvable system a non-null row has its first non-zero entry among the coefficients -/
theorem firstNonzero_lt_of_solvable (n : Nat) (row : Row) (hl : row.length = n + 1) (hnn : nullRow row = false)
    (hs : (row.dropLast.all (· == 0) && (row.getLastD 0 != 0)) = false) : firstNonzero row < n := by
  have hne : row ≠ [] := by rintro rfl; simp at hl
  by_cases hex : ∃ a ∈ row.dropLast, a ≠ 0
  · have e : firstNonzero row = firstNonzero row.dropLast := by
      conv_lhs => rw [← List.dropLast_append_getLast hne]
      exact firstNonzero_append _ _ hex
    simpa [e, hl] using (firstNonzero_lt_iff row.dropLast).mpr hex
  · rw [(nullRow_iff row).mpr (null_of_coeffs_zero hne (by simpa using hex) hs)] at hnn
    cases hnn

theorem pass3_step (n : Nat) (s : Mat) (hu : Uniform (n + 1) s) (hs : solvable s = true)
    (k : Nat) (hk : k < s.length) (vals : List (Option Rat)) (hv : vals.length = n) :
    pass3Body s (k : Int) vals = (ForInStep.yield <$> liftE (pass3Step (s.getD k []) vals)) := by
  have hget : s.getD k [] = s[k] := by
    exact getD_eq_getElem _ _ hk
  have hmem : s.getD k [] ∈ s := by rw [hget]; exact List.getElem_mem hk
  generalize s.getD k [] = row at hmem hget
  have hrow : row.length = n + 1 := hu row hmem
  have hne : row ≠ [] := by intro h; rw [h] at hrow; simp at hrow
  have e0 : pyIdx s (k : Int) = .ok row := by rw [pyIdx_nat k rfl hk, hget]
  unfold pass3Body pass3Step
  simp only [e0, ok_bind, nullrow_tie]
  cases hnn : nullRow row
  · have ht : firstNonzero row < n := firstNonzero_lt_of_solvable n row hrow hnn ((solvable_iff s).mp hs row hmem)
    have hsum := sum_loop row vals n hrow hv (n - firstNonzero row - 1) (firstNonzero row + 1) (by omega)
    rw [Nat.cast_succ] at hsum
    have e1 : pyIdx row ((firstNonzero row : Nat) : Int) = .ok (row.getD (firstNonzero row) 0) :=
      pyIdx_getD _ rfl (by omega)
    have hnz : row.getD (firstNonzero row) 0 ≠ 0 := firstNonzero_getD row (by omega)
    simp only [Bool.false_eq_true, if_false, first_nonzero_tie, ok_bind, pyIdx_neg_one hne, e1, pyDiv, hnz,
      pure_eq_ok, pySetIdx_nat (l := vals) (firstNonzero row) _ rfl (by omega)]
    generalize pyComp (sumElt row vals) (pyRange (((firstNonzero row : Nat) : Int) + 1) (pyLen row - 1)) = C at hsum ⊢
    generalize sumNeg (row.drop (firstNonzero row + 1)).dropLast (vals.drop (firstNonzero row + 1)) = S at hsum ⊢
    cases S <;> cases C <;> simp at hsum <;> simp [hsum]
  · simp

theorem pass3_loop (n : Nat) (s : Mat) (hu : Uniform (n + 1) s) (hs : solvable s = true) :
    ∀ (k : Nat) (vals : List (Option Rat)), k ≤ s.length → vals.length = n →
    forIn (pyReversed (pyRange (0 : Int) ((k : Nat) : Int))) vals (pass3Body s) = liftE (pass3 (s.take k) vals) := by
  intro k
  induction k with
  | zero => intro vals _ _; rw [pyReversed_range_zero]; simp [pass3]
  | succ k ih =>
    intro vals hk hv
    rw [pyReversed_range_succ, List.forIn_cons, pass3_step n s hu hs k (by omega) vals hv]
    have htake : s.take (k + 1) = s.take k ++ [s.getD k []] := by
      rw [List.take_add_one, getD_eq_getElem _ _ (show k < s.length by omega), List.getElem?_eq_getElem]; rfl
    have h1 : pass3 [s.getD k []] vals = pass3Step (s.getD k []) vals := by
      rw [pass3_cons]; rfl
    rw [htake, pass3_append, h1]
    cases hstep : pass3Step (s.getD k []) vals with
    | error e => rfl
    | ok b =>
      have hb := pass3Step_length _ _ _ hstep
      simp only [liftE_ok, map_ok, ok_bind]
      exact ih b (by omega) (by omega)


theorem pyRepeat_none (n : Nat) : pyRepeat [(none : Option Rat)] (n : Int) = List.replicate n none := by
  unfold pyRepeat
  simp only [Int.toNat_natCast]
  induction n with
  | zero => rfl
  | succ n ih => simp [List.replicate_succ, ih]

theorem pivots_tie (s : Mat) :
    pyCompIf (fun row => do return !((← s_nullrow row))) (fun row => do return (← s_first_nonzero row)) s
      = .ok ((pivotCols s).map (fun (c : Nat) => (c : Int))) := by
  rw [pyCompIf_pure _ _ (fun r => !nullRow r) (fun r => ((firstNonzero r : Nat) : Int)) s
    (fun row _ => by simp [nullrow_tie]) (fun row _ => by simp [first_nonzero_tie])]
  simp [pivotCols, nonNullRows]

theorem bool_tie (sol : Solution) : s_bool sol = .ok sol._solvable := rfl
theorem nonzero_tie (sol : Solution) : s_nonzero sol = .ok sol._solvable := rfl

/-- **`Solution.__call__` = the model's `call`**, including which exception is raised when. -/
theorem call_tie (n : Nat) (s : Mat) (v : List Rat) (hu : Uniform (n + 1) s) (hne : s ≠ [])
    (hrank : solvable s = true → (nonNullRows s).length ≤ n) :
    s_call (solutionOf s) v = liftE (call n s v) := by
  rw [call_unfold]
  have hl := headD_length hu hne
  simp only [solutionOf, hl]
  cases hs : solvable s
  · simp [call, hs, embedErr]
  · have hr := hrank hs
    have hva : (((n + 1 : Nat) : Int) - 1 - ((nonNullRows s).length : Int)) = ((varargs n s : Nat) : Int) := by
      unfold varargs; omega
    have hvc : (((n + 1 : Nat) : Int) - 1) = (n : Int) := by omega
    rw [hva, hvc]
    simp only [Bool.not_true, Bool.false_eq_true, if_false]
    by_cases hlen : v.length = varargs n s
    · have hne' : (pyLen v != ((varargs n s : Nat) : Int)) = false := by
        unfold pyLen; rw [hlen]; simp
      simp only [hne', Bool.false_eq_true, if_false]
      rw [pyEnumerate_eq, pyRepeat_none, pass1_loop n s 0 _ hu (by simp)]
      simp only [ok_bind, pivots_tie, pySetOf, pyList]
      have hlen1 : pyLen (pass1 s (List.replicate n none)) = (n : Int) := by
        unfold pyLen; rw [pass1_length]; simp
      rw [hlen1]
      obtain ⟨st, hfor, h2⟩ := eq_ok_of_map
        (pass2_loop (pivotCols s) n v (pass1 s (List.replicate n none)) (by rw [pass1_length]; simp))
      rw [hfor]
      simp only [ok_bind, h2]
      have h3 := pass3_loop n s hu hs s.length (pass2 (pivotCols s) n v (pass1 s (List.replicate n none)))
        (Nat.le_refl _) (by rw [pass2_length, pass1_length]; simp)
      rw [List.take_length] at h3
      rw [show pyLen s = ((s.length : Nat) : Int) from rfl, h3]
      have hcall : call n s v = pass3 s (pass2 (pivotCols s) n v (pass1 s (List.replicate n none))) := by
        simp [call, hs, hlen]
      rw [hcall]
      cases pass3 s (pass2 (pivotCols s) n v (pass1 s (List.replicate n none))) <;> rfl
    · have hne' : (pyLen v != ((varargs n s : Nat) : Int)) = true := by
        unfold pyLen; simp; exact_mod_cast hlen
      simp [hne', call, hs, hlen, embedErr]


theorem gaussRec_length (nc f j : Nat) (rows : List Row) : (gaussRec f nc j rows).length = rows.length := by
  fun_induction gaussRec f nc j rows with
  | case1 | case2 | case3 => rfl
  | case4 f nc j _ r0 rs hp ih => exact ih
  | case5 f nc j _ r0 rs k hp pr ih =>
    rw [List.length_cons, ih, List.length_map, ← (takePivot_spec hp).1.length_eq, List.length_cons]

theorem gauss_length (m : Mat) : (gauss m).length = m.length := gaussRec_length _ _ _ _

theorem gauss_uniform (n : Nat) (m : Mat) (hu : Uniform (n + 1) m) (hne : m ≠ []) : Uniform (n + 1) (gauss m) :=
  fun r hr => ((gauss_echelon n m hu hne).rows r hr).1

theorem gauss_ne_nil (m : Mat) (hne : m ≠ []) : gauss m ≠ [] := by
  intro h; have := gauss_length m; rw [h] at this
  exact hne (List.length_eq_zero_iff.mp this.symm)

/-- in a solvable echelon form there are at most as many non-null rows as unknowns (so Python's `varargs`, an int that
    may be negative, is the model's truncated natural-number `varargs`) -/
theorem rank_le (n : Nat) (m : Mat) (hu : Uniform (n + 1) m) (hne : m ≠ []) (hs : solvable (gauss m) = true) :
    (nonNullRows (gauss m)).length ≤ n := by
  have hech := gauss_echelon n m hu hne
  have := freeCols_length n (pivotCols (gauss m)) (pivotCols_nodup hech hs)
    (fun k hk => (pivotCols_ge hech hs k hk).2)
  rw [← pivotCols_length]; omega

/-- **`solve` = `Solution(gauss m)`** -/
theorem solve_tie (n : Nat) (m : Mat) (hu : Uniform (n + 1) m) (hne : m ≠ []) :
    s_solve m = .ok (solutionOf (solve m)) := by
  unfold s_solve
  have hl := headD_length hu hne
  rw [gaussian_elimination_tie m (by rw [hl]; exact hu)]
  simp only [ok_bind, pure_eq_ok]
  rw [init_tie]
  · rfl
  · intro row hrow h
    have := gauss_uniform n m hu hne row hrow
    rw [h] at this; simp at this

/-- the fields of `solve(m)` in terms of the model -/
theorem solution_fields (n : Nat) (m : Mat) (hu : Uniform (n + 1) m) (hne : m ≠ []) :
    (solutionOf (solve m))._s = solve m ∧
    (solutionOf (solve m)).varcount = (n : Int) ∧
    (solutionOf (solve m))._solvable = solvable (solve m) ∧
    (solvable (solve m) = true → (solutionOf (solve m)).varargs = ((varargs n (solve m) : Nat) : Int)) ∧
    (solvable (solve m) = true → (solutionOf (solve m)).exact = decide (varargs n (solve m) = 0)) := by
  have hl : ((solve m).headD []).length = n + 1 := headD_length (gauss_uniform n m hu hne) (gauss_ne_nil m hne)
  have hva : solvable (solve m) = true →
      (((n + 1 : Nat) : Int) - 1 - ((nonNullRows (solve m)).length : Int)) = ((varargs n (solve m) : Nat) : Int) := by
    intro hs; have := rank_le n m hu hne hs; unfold varargs solve; omega
  simp only [solutionOf, hl, true_and]
  refine ⟨by omega, hva, fun hs => ?_⟩
  rw [hva hs]
  by_cases h : varargs n (solve m) = 0 <;> simp [h]

/-- **end to end**: `solve(m)(*v)` = the model's `call n (solve m) v`, errors included -/
theorem solve_call_tie (n : Nat) (m : Mat) (v : List Rat) (hu : Uniform (n + 1) m) (hne : m ≠ []) :
    (s_solve m >>= fun sol => s_call sol v) = liftE (call n (solve m) v) := by
  rw [solve_tie n m hu hne]
  simp only [ok_bind]
  exact call_tie n (solve m) v (gauss_uniform n m hu hne) (gauss_ne_nil m hne) (rank_le n m hu hne)

/-- `bool(solve(m))` = the model's `solvable` -/
theorem solve_bool_tie (n : Nat) (m : Mat) (hu : Uniform (n + 1) m) (hne : m ≠ []) :
    (s_solve m >>= s_bool) = .ok (solvable (solve m)) := by
  rw [solve_tie n m hu hne]; rfl


/-! ### where the hand model deviates from the literal translation (all outside the hypotheses of the ties) -/

/-- D1: the empty matrix.  Python: `varcount = shape([])[1] - 1 = -1`, so every call raises "Expected -1 values";
    the model (whose `n` is a natural number) returns the empty tuple. -/
theorem deviation_empty :
    s_call (solutionOf []) [] = .error (.valueError "Expected {} values, got {}") ∧ call 0 [] [] = .ok [] := by
  constructor <;> rfl

/-- D2: a `Solution` built directly from a NON-echelon matrix with more non-null rows than unknowns.  Python's
    `varargs` is negative, so every call raises; the model's truncated `varargs` is 0 and `call` proceeds.
    (Unreachable through `solve`: `rank_le`.) -/
theorem deviation_rank :
    s_call (solutionOf [[1, 1], [1, 1]]) [] = .error (.valueError "Expected {} values, got {}") ∧
    call 1 [[1, 1], [1, 1]] [] = .ok [some 1] := by
  constructor
  · decide
  · simp [call, solvable, varargs, nonNullRows, nullRow, pass1, pass2, pass3, firstNonzero, sumNeg]

/-- D3: ragged input.  The code raises IndexError where the model (total `getD`) goes on. -/
theorem deviation_ragged :
    s_find_pivot_row [[]] = .error .indexError ∧ pivotIdx [[]] 0 = none ∧
    (∃ e, s_init [[]] = .error e) ∧ solvable [[]] = true := by
  refine ⟨rfl, rfl, ⟨.indexError, rfl⟩, rfl⟩

/-! ### axiom audit -/
#print axioms null_shape_tie
#print axioms null_tie
#print axioms shape_tie
#print axioms nullrow_tie
#print axioms find_pivot_row_tie
#print axioms gaussian_elimination_tie
#print axioms count_tie
#print axioms index_tie
#print axioms first_nonzero_tie
#print axioms init_tie
#print axioms bool_tie
#print axioms nonzero_tie
#print axioms call_tie
#print axioms solve_tie
#print axioms solution_fields
#print axioms solve_call_tie
#print axioms solve_bool_tie
#print axioms deviation_empty
#print axioms deviation_rank
#print axioms deviation_ragged
end G3D.SolverTie
