import G3D.Proofs.SortValid

/-! Closure of K6: the vertex cycle of a `Valid` polygon is duplicate-free and in strictly convex position, so
    re-running the constructor on it (`move`, `-polygon`, `copy`) succeeds and returns a `Valid` polygon with
    the SAME cycle (`reverse = False`) resp. the reversed cycle (`reverse = True`). -/
namespace G3D
open V3

theorem triplesPos_rotate1 (n a : V3) (l : List V3) (h : triplesPos n (a :: l)) : triplesPos n (l ++ [a]) := by
  rw [triplesPos_iff_sublist] at h ⊢
  intro x y z hs
  obtain ⟨w1, w2, hw, h1, h2⟩ := List.sublist_append_iff.mp hs
  rcases List.sublist_cons_iff.mp h2 with h2 | ⟨r, hr, h2⟩
  · have : w2 = [] := List.eq_nil_of_sublist_nil h2
    rw [this, List.append_nil] at hw
    rw [← hw] at h1
    exact h x y z (List.Sublist.cons a h1)
  · have : r = [] := List.eq_nil_of_sublist_nil h2
    rw [hr, this] at hw
    obtain ⟨e1, e2⟩ := List.append_inj' (show [x, y] ++ [z] = w1 ++ [a] from hw) rfl
    rw [← e1] at h1
    rw [List.singleton_inj.mp e2, ← orient_cyc]
    exact h a x y (List.Sublist.cons_cons a h1)

theorem triplesPos_rotate (n : V3) : ∀ (l1 m : List V3), triplesPos n (l1 ++ m) → triplesPos n (m ++ l1) := by
  intro l1
  induction l1 with
  | nil => intro m h; simpa using h
  | cons a t ih =>
    intro m h
    have h1 := triplesPos_rotate1 n a (t ++ m) h
    rw [List.append_assoc] at h1
    have := ih (m ++ [a]) h1
    simpa using this

theorem orient_swap23 (n a b c : V3) : orient n a c b = - orient n a b c := by
  rw [orient_cyc, orient_rev, ← orient_cyc]

/-! ### the head of a positively oriented cycle is strictly exposed -/
theorem head_exposed (n p : V3) (l2 : List V3) (hlen : 2 ≤ l2.length) (h : triplesPos n (p :: l2)) :
    ∃ d : V3, ∀ q ∈ l2, dot d q < dot d p := by
  rw [triplesPos_iff_sublist] at h
  -- l2 = y :: mid ++ [x]
  obtain ⟨y, mid, x, rfl⟩ : ∃ y mid x, l2 = y :: (mid ++ [x]) := by
    match l2, hlen with
    | y :: t, hl =>
      rcases List.eq_nil_or_concat t with ht | ⟨mid, x, ht⟩
      · rw [ht] at hl; simp at hl
      · exact ⟨y, mid, x, by rw [ht, List.concat_eq_append]⟩
  refine ⟨cross n (sub x y), ?_⟩
  have hg : ∀ q, dot (cross n (sub x y)) q - dot (cross n (sub x y)) y = orient n y x q := fun q => by
    rw [← dot_sub_right, orient]
    generalize sub x y = a; generalize sub q y = b
    simp only [dot, cross]; ring
  have hp : 0 < orient n y x p := by
    have : List.Sublist [p, y, x] (p :: y :: (mid ++ [x])) :=
      List.Sublist.cons_cons p (List.Sublist.cons_cons y (List.sublist_append_right mid [x]))
    have := h p y x this
    rw [orient_cyc] at this
    exact this
  intro q hq
  have hq0 : orient n y x q ≤ 0 := by
    rcases List.mem_cons.mp hq with rfl | hq
    · rw [orient_self_left]
    · rcases List.mem_append.mp hq with hq | hq
      · have hs : List.Sublist [q, x] (mid ++ [x]) :=
          List.Sublist.append (List.singleton_sublist.mpr hq) (List.Sublist.refl [x])
        have := h y q x (List.Sublist.cons p (List.Sublist.cons_cons y hs))
        rw [orient_swap23]; linarith
      · rw [List.mem_singleton] at hq
        rw [hq, orient_self_right]
  have e1 := hg q
  have e2 := hg p
  linarith

theorem nodup_of_decomp : ∀ L : List V3, (∀ l1 p l2, L = l1 ++ p :: l2 → p ∉ l2) → L.Nodup := by
  intro L
  induction L with
  | nil => intro _; exact List.nodup_nil
  | cons a t ih =>
    intro h
    rw [List.nodup_cons]
    refine ⟨h [] a t rfl, ih (fun l1 p l2 e => h (a :: l1) p l2 (by rw [e]; rfl))⟩

/-- a positively oriented cycle with at least three vertices: no repeated vertex, every vertex strictly exposed -/
theorem triplesPos_nodup_exposed (n : V3) (L : List V3) (hlen : 3 ≤ L.length) (h : triplesPos n L) :
    L.Nodup ∧ StrictConvexPos L := by
  -- every vertex heads a rotation of the cycle
  have key : ∀ l1 p l2, L = l1 ++ p :: l2 → ∃ d : V3, ∀ q ∈ l2 ++ l1, dot d q < dot d p := by
    intro l1 p l2 e
    refine head_exposed n p _ ?_ (by simpa using triplesPos_rotate n l1 (p :: l2) (e ▸ h))
    have := congrArg List.length e
    simp only [List.length_append, List.length_cons] at this ⊢
    omega
  constructor
  · apply nodup_of_decomp
    intro l1 p l2 e hp
    obtain ⟨d, hd⟩ := key l1 p l2 e
    exact lt_irrefl _ (hd p (List.mem_append_left _ hp))
  · intro p hp
    obtain ⟨l1, l2, e⟩ := List.append_of_mem hp
    obtain ⟨d, hd⟩ := key l1 p l2 e
    refine ⟨d, fun q hq hne => hd q ?_⟩
    rw [e] at hq
    rcases List.mem_append.mp hq with hq | hq
    · exact List.mem_append_right _ hq
    · exact List.mem_append_left _ ((List.mem_cons.mp hq).resolve_left hne)

theorem Polygon.Valid.nodup {P : Polygon} (hv : P.Valid) : P.pts.Nodup := by
  obtain ⟨p0, p1, p2, rest, hp, _, htp⟩ := hv
  exact (triplesPos_nodup_exposed P.plane.n P.pts (by rw [hp]; simp) htp).1

theorem Polygon.Valid.strictConvexPos {P : Polygon} (hv : P.Valid) : StrictConvexPos P.pts := by
  obtain ⟨p0, p1, p2, rest, hp, _, htp⟩ := hv
  exact (triplesPos_nodup_exposed P.plane.n P.pts (by rw [hp]; simp) htp).2

#print axioms triplesPos_nodup_exposed

/-! ### uniqueness of a strictly ordered arrangement -/
theorem orient_neg (n a b c : V3) : orient (neg n) a b c = - orient n a b c := by
  unfold orient
  generalize cross (sub b a) (sub c a) = m
  simp only [dot, neg]; ring

theorem triplesPos_smul_pos (k : Rat) (hk : 0 < k) (n : V3) (l : List V3) :
    triplesPos (smul k n) l ↔ triplesPos n l := by
  simp only [triplesPos_iff_sublist, orient_smul, mul_pos_iff_of_pos_left hk]

theorem triplesPos.pairwise {n a : V3} {t : List V3} (h : triplesPos n (a :: t)) :
    t.Pairwise fun x y => 0 < orient n a x y :=
  List.pairwise_of_forall_sublist fun hs => h.1 _ _ hs

/-- the vertices after the head `a` of a counter-clockwise cycle are strictly ordered by `orient n a`: two such
    arrangements of the same vertices coincide -/
theorem orient_order_unique (n a : V3) {t t' : List V3} (hp : List.Perm t' t)
    (h' : t'.Pairwise fun x y => 0 < orient n a x y) (h : t.Pairwise fun x y => 0 < orient n a x y) : t' = t :=
  hp.eq_of_pairwise (fun x y _ _ h1 h2 => by rw [orient_swap23] at h2; linarith) h' h

/-! ### the constructor on a positively oriented cycle -/
/-- **Re-construction.**  Let `q0 :: q1 :: q2 :: r` be a positively oriented (about `n`) strictly convex cycle in
    a plane with normal `n`.  Then `ConvexPolygon(cycle, reverse)` succeeds and returns a `Valid` polygon whose
    plane point is `q0`, whose normal is a positive multiple of `n` (resp. `-n` for `reverse = True`), and whose
    stored cycle is the SAME list (resp. `q0` followed by the reversed rest for `reverse = True`). -/
theorem Polygon.mk?_of_cycle (n a q0 q1 q2 : V3) (r : List V3)
    (hin : ∀ p ∈ q0 :: q1 :: q2 :: r, dot n (sub p a) = 0)
    (htp : triplesPos n (q0 :: q1 :: q2 :: r)) (rev : Bool) :
    ∃ Q, Polygon.mk? (q0 :: q1 :: q2 :: r) rev = .ok Q ∧ Q.Valid ∧
      Q.plane.p = q0 ∧ Q.center = meanV (q0 :: q1 :: q2 :: r) ∧
      (∃ t : Rat, 0 < t ∧ t = orient n q0 q1 q2 / normSq n ∧
        Q.plane.n = smul t (if rev = true then neg n else n)) ∧
      Q.pts = (if rev = true then q0 :: (q1 :: q2 :: r).reverse else q0 :: q1 :: q2 :: r) ∧
      Q.plane.n = (if rev = true then neg (cross (sub q1 q0) (sub q2 q0)) else cross (sub q1 q0) (sub q2 q0)) := by
  obtain ⟨hnd, hx⟩ := triplesPos_nodup_exposed n (q0 :: q1 :: q2 :: r) (by simp) htp
  have hdd : dedupV (q0 :: q1 :: q2 :: r) = q0 :: q1 :: q2 :: r := dedupV_of_nodup _ hnd
  have hpos : 0 < orient n q0 q1 q2 := htp.1 q1 q2 (by simp)
  have hn : n ≠ zero := by
    intro h; rw [h] at hpos; simp [orient, dot, zero] at hpos
  have hrel : ∀ p ∈ q0 :: q1 :: q2 :: r, dot n (sub p q0) = 0 := by
    intro p hp
    have h1 := hin p hp
    have h0 := hin q0 List.mem_cons_self
    rw [dot_sub_right] at h1 h0 ⊢; linarith
  -- the normal computed from the first three points is a positive multiple of `n`
  obtain ⟨t, htdef, hmt⟩ : ∃ t : Rat, t = orient n q0 q1 q2 / normSq n ∧
      cross (sub q1 q0) (sub q2 q0) = smul t n :=
    ⟨_, rfl, cross_coplanar' n _ _ hn (hrel q1 (by simp)) (hrel q2 (by simp))⟩
  have htpos : 0 < t := by rw [htdef]; exact div_pos hpos (normSq_pos hn)
  have hnneq : (if rev = true then neg (cross (sub q1 q0) (sub q2 q0)) else cross (sub q1 q0) (sub q2 q0)) =
      smul t (if rev = true then neg n else n) := by
    rw [hmt]
    cases rev
    · simp
    · simp only [if_true]; apply V3.ext' <;> simp only [smul, neg] <;> ring
  -- the cycle is in strictly convex position in the plane of its first three points: the constructor succeeds
  have hx' : StrictConvexPos (dedupV (q0 :: q1 :: q2 :: r)) := hdd.symm ▸ hx
  obtain ⟨Q, hok, hvQ, hpermQ⟩ := Polygon.mk?_ok_of_strictConvex _ rev q0 q1 q2 r hdd hx' fun p hp => by
    have h1 := hrel p (hdd ▸ hp)
    rw [hmt]
    generalize sub p q0 = w at h1 ⊢
    simp only [dot, smul] at h1 ⊢
    linear_combination t * h1
  obtain ⟨_, _, hneQ⟩ := Polygon.mk?_valid_of_strictConvex _ rev Q hok hx'
  obtain ⟨hheadQ, _⟩ := Polygon.mk?_head _ rev Q hok hneQ
  obtain ⟨p0, p1, p2, rest, hd', _, hpl, hcen, _⟩ := Polygon.mk?_shape _ rev Q hok
  obtain ⟨rfl, rfl, rfl, rfl⟩ : q0 = p0 ∧ q1 = p1 ∧ q2 = p2 ∧ r = rest := by simpa [hdd] using hd'
  rw [hdd] at hpermQ hcen
  refine ⟨Q, hok, hvQ, by rw [hpl], hcen, ⟨t, htpos, htdef, by rw [hpl]; exact hnneq⟩, ?_, by rw [hpl]⟩
  -- the stored cycle: a permutation with the same head, ordered like the given one by `orient n q0`
  obtain ⟨_, _, _, _, _, _, htpQ⟩ := hvQ
  simp only [hpl, hnneq] at htpQ
  cases hpts : Q.pts with
  | nil => rw [hpts] at hheadQ; simp at hheadQ
  | cons h0 tQ =>
    rw [hpts] at hheadQ hpermQ htpQ
    rw [hpl] at hheadQ
    obtain rfl : h0 = q0 := Option.some.inj hheadQ
    have hpt : List.Perm tQ (q1 :: q2 :: r) := hpermQ.cons_inv
    have hRQ := ((triplesPos_smul_pos t htpos _ _).mp htpQ).pairwise
    cases rev
    · exact congrArg _ (orient_order_unique n h0 hpt hRQ htp.pairwise)
    · -- about `-n` the vertices after the head come in the opposite order
      simp only [if_true] at hRQ ⊢
      have hrev : tQ.reverse.Pairwise fun x y => 0 < orient n h0 x y :=
        List.pairwise_reverse.mpr (hRQ.imp fun {x y} h => by rwa [orient_neg, ← orient_swap23] at h)
      rw [← orient_order_unique n h0 ((List.reverse_perm _).trans hpt) hrev htp.pairwise, List.reverse_reverse]

#print axioms Polygon.mk?_of_cycle

/-- `ConvexPolygon(P.points, reverse)` for a `Valid` polygon `P` (this is what `move`, `-P` and `copy`-style
    re-construction run): succeeds, `Valid`, same cycle resp. reversed cycle, normal a positive multiple of
    `±P.plane.n`, plane point the first vertex, centre the vertex mean -/
theorem Polygon.mk?_pts_of_valid (P : Polygon) (hv : P.Valid) (rev : Bool) :
    ∃ Q q0 rest, P.pts = q0 :: rest ∧ Polygon.mk? P.pts rev = .ok Q ∧ Q.Valid ∧
      Q.plane.p = q0 ∧ Q.center = meanV P.pts ∧
      (∃ t : Rat, 0 < t ∧ Q.plane.n = smul t (if rev = true then neg P.plane.n else P.plane.n)) ∧
      Q.pts = if rev = true then q0 :: rest.reverse else P.pts := by
  obtain ⟨p0, p1, p2, rest, hp, hpl, htp⟩ := hv
  rw [hp] at hpl htp ⊢
  have hin : ∀ p ∈ p0 :: p1 :: p2 :: rest, dot P.plane.n (sub p P.plane.p) = 0 := by
    intro p hpm
    have := hpl p hpm
    simpa [G3D.inPlane] using this
  obtain ⟨Q, hQ, hvQ, h1, h2, ⟨t, ht, _, hn⟩, h3, _⟩ := Polygon.mk?_of_cycle P.plane.n P.plane.p p0 p1 p2 rest hin htp rev
  exact ⟨Q, p0, p1 :: p2 :: rest, rfl, hQ, hvQ, h1, h2, ⟨t, ht, hn⟩, h3⟩

/-- **`-polygon` on any `Valid` polygon**: succeeds, is `Valid`, keeps the first vertex and reverses the rest of
    the cycle, flips the normal (up to a positive factor) -/
theorem Polygon.neg?_of_valid (P : Polygon) (hv : P.Valid) :
    ∃ Q q0 rest, P.pts = q0 :: rest ∧ P.neg? = .ok Q ∧ Q.Valid ∧ Q.pts = q0 :: rest.reverse ∧
      Q.plane.p = q0 ∧ Q.center = meanV P.pts ∧
      (∃ t : Rat, 0 < t ∧ Q.plane.n = smul t (neg P.plane.n)) := by
  obtain ⟨Q, q0, rest, hp, hQ, hvQ, h1, h2, ⟨t, ht, hn⟩, h3⟩ := Polygon.mk?_pts_of_valid P hv true
  exact ⟨Q, q0, rest, hp, hQ, hvQ, by simpa using h3, h1, h2, ⟨t, ht, by simpa using hn⟩⟩

/-- `-polygon`: the new normal is only a POSITIVE multiple of the negated normal; the two are equal after the
    normalisation done by `Plane.__init__` -/
theorem Polygon.neg?_ok_of_valid (input : List V3) (rev : Bool) (P : Polygon) (h : Polygon.mk? input rev = .ok P)
    (hne : ∀ p ∈ dedupV input, ∀ q ∈ dedupV input, p ≠ q → angEq (P.key p) (P.key q) = false)
    (hv : P.Valid) :
    ∃ Q, P.neg? = .ok Q ∧ Q.plane.p = P.plane.p ∧ Q.center = P.center ∧
      (∃ t : Rat, 0 < t ∧ Q.plane.n = smul t (neg P.plane.n)) ∧
      List.Perm Q.pts P.pts ∧ (∀ p, p ∈ Q.pts ↔ p ∈ P.pts) ∧ Q.pts.head? = P.pts.head? := by
  obtain ⟨Q, q0, rest, hp, hQ, _, hpts, hpl, hc, ht⟩ := Polygon.neg?_of_valid P hv
  -- the constructor stored the first vertex as plane point and the vertex mean as centre
  obtain ⟨hhead, _⟩ := Polygon.mk?_head input rev P h hne
  obtain ⟨_, _, _, _, hcen⟩ := Polygon.mk?_ok input rev P h
  have hq0 : q0 = P.plane.p := by rw [hp] at hhead; exact Option.some.inj hhead
  have hperm : List.Perm Q.pts P.pts := by rw [hpts, hp]; exact (List.reverse_perm rest).cons q0
  exact ⟨Q, hQ, hpl.trans hq0, by rw [hc, hcen, meanV_perm (Polygon.mk?_perm input rev P h hne)], ht, hperm,
    fun p => hperm.mem_iff, by rw [hpts, hp]; rfl⟩

/-- `-(-P)` has the vertex cycle of `P` -/
theorem Polygon.neg?_neg?_pts (P : Polygon) (hv : P.Valid) :
    ∃ Q R, P.neg? = .ok Q ∧ Q.neg? = .ok R ∧ R.Valid ∧ R.pts = P.pts ∧
      (∃ t : Rat, 0 < t ∧ R.plane.n = smul t P.plane.n) := by
  obtain ⟨Q, q0, rest, hp, hQ, hvQ, hQp, _, _, ⟨t, ht, hn⟩⟩ := Polygon.neg?_of_valid P hv
  obtain ⟨R, q0', rest', hp', hR, hvR, hRp, _, _, ⟨t', ht', hn'⟩⟩ := Polygon.neg?_of_valid Q hvQ
  refine ⟨Q, R, hQ, hR, hvR, ?_, ⟨t' * t, mul_pos ht' ht, ?_⟩⟩
  · rw [hQp] at hp'
    simp only [List.cons.injEq] at hp'
    obtain ⟨e1, e2⟩ := hp'
    rw [hRp, ← e1, ← e2, List.reverse_reverse, hp]
  · rw [hn', hn]
    apply V3.ext' <;> simp only [smul, neg] <;> ring

/-- re-construction of a `Valid` polygon returns the same cycle (closes the gap of `move_returned_partial`) -/
theorem Polygon.mk?_pts_same (P : Polygon) (hv : P.Valid) :
    ∃ Q, Polygon.mk? P.pts = .ok Q ∧ Q.Valid ∧ Q.pts = P.pts := by
  obtain ⟨Q, q0, rest, _, hQ, hvQ, _, _, _, h3⟩ := Polygon.mk?_pts_of_valid P hv false
  exact ⟨Q, hQ, hvQ, by simpa using h3⟩

/-! ### triangles: the full statement -/
/-- `ConvexPolygon((a, b, c), reverse)` on three non-collinear points: succeeds, is `Valid`, stores the plane
    through `a` with normal `±(b-a)×(c-a)`, the centroid, and the cycle `a, b, c` (resp. `a, c, b`) -/
theorem Polygon.mk?_triangle (a b c : V3) (hnc : cross (sub b a) (sub c a) ≠ zero) (rev : Bool) :
    ∃ Q, Polygon.mk? [a, b, c] rev = .ok Q ∧ Q.Valid ∧
      Q.plane = ⟨a, if rev = true then neg (cross (sub b a) (sub c a)) else cross (sub b a) (sub c a)⟩ ∧
      Q.center = meanV [a, b, c] ∧
      Q.pts = if rev = true then [a, c, b] else [a, b, c] := by
  -- the three points form a positively oriented cycle about `(b-a)×(c-a)`, in the plane through `a`
  have hin : ∀ p ∈ [a, b, c], dot (cross (sub b a) (sub c a)) (sub p a) = 0 := by
    intro p hp
    simp only [List.mem_cons, List.not_mem_nil, or_false] at hp
    rcases hp with rfl | rfl | rfl
    · rw [dot_sub_right, sub_self]
    · generalize sub p a = u; simp only [dot, cross]; ring
    · generalize sub p a = u; simp only [dot, cross]; ring
  have htp : triplesPos (cross (sub b a) (sub c a)) [a, b, c] :=
    (triplesPos_iff_sublist _ _).mpr fun x y z hs => by
      obtain ⟨rfl, rfl, rfl⟩ : x = a ∧ y = b ∧ z = c := by simpa using hs.eq_of_length rfl
      exact normSq_pos hnc
  obtain ⟨Q, hQ, hvQ, h1, h2, _, h3, h4⟩ :=
    Polygon.mk?_of_cycle (cross (sub b a) (sub c a)) a a b c [] hin htp rev
  have hQpl : Q.plane = ⟨Q.plane.p, Q.plane.n⟩ := rfl
  exact ⟨Q, hQ, hvQ, by rw [hQpl, h1, h4], h2, by simpa using h3⟩

/-- **K6 for triangles**: a successfully constructed triangle on three non-collinear points is `Valid`
    (the angular sort about the centroid is counter-clockwise about the stored normal), for both values of
    `reverse`; its vertices are the three given points -/
theorem Polygon.mk?_valid_triangle (a b c : V3) (hnc : cross (sub b a) (sub c a) ≠ zero) (rev : Bool)
    (P : Polygon) (h : Polygon.mk? [a, b, c] rev = .ok P) :
    P.Valid ∧ List.Perm P.pts [a, b, c] := by
  obtain ⟨Q, hQ, hvQ, _, _, hpts⟩ := Polygon.mk?_triangle a b c hnc rev
  obtain rfl : Q = P := Except.ok.inj (hQ.symm.trans h)
  refine ⟨hvQ, ?_⟩
  rw [hpts]
  cases rev
  · exact List.Perm.refl _
  · exact (List.Perm.swap b c []).cons a

#print axioms Polygon.mk?_valid_triangle
#print axioms Polygon.mk?_pts_of_valid
#print axioms Polygon.neg?_of_valid
#print axioms Polygon.neg?_neg?_pts
#print axioms Polygon.neg?_ok_of_valid
#print axioms Polygon.mk?_triangle
end G3D
