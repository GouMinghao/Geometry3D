import G3D.Proofs.TolGeoLine

/-! C19 for Plane.  `Plane.__init__` stores `normale.normalized()` (plane.py:76), so the defining coordinates are the
    point `p` and the RAW normal `r`; the tolerance tests see the unit normal `r/|r|`. -/
namespace G3D.TolGeo
open R3

/-- the support point of a perturbed copy passes the point test of the other plane -/
theorem Plane.contains_support {eps δ : ℝ} {p p' n : R3} (hδ : 3 * δ < eps)
    (hp : closeBy δ p p') (hn : coordLe 1 n) : Plane.containsT eps ⟨p, n⟩ p' := by
  have e : dot p' n - dot p n = dot (sub p' p) n := by simp only [dot, sub]; ring
  unfold Plane.containsT
  rw [e]
  linarith [abs_dot_le_of_coord hp.sub_coord hn]

/-- (a) **Plane equality, general perturbations**: support within `δ`, raw normals within `γ`, the first of length
    `≥ ρ`: the unit normals are within `3γ/ρ` and compare equal by the early exit `self == other` of `parallel`. -/
theorem Plane.eqT_of_close_gen {eps δ γ ρ : ℝ} {p p' r r' : R3} (hp : closeBy δ p p') (hδ : 3 * δ < eps)
    (hr : closeBy γ r r') (hL : ρ ≤ len r) (hγ : 2 * γ < ρ) (hΔ : 3 * γ / ρ < eps) :
    Plane.eqT eps (Plane.ofPN p r) (Plane.ofPN p' r') ∧
    Plane.eqT eps (Plane.ofPN p' r') (Plane.ofPN p r) := by
  have hρ : 0 < ρ := by linarith [hr.sub_coord.nonneg]
  have hL' : 0 < len r' := (sub_pos.2 hγ).trans_le (len_ge_of_close hr (by linarith))
  have hc := vecEq_of_closeBy hΔ (normalized_closeBy hρ hL hL' hr)
  exact ⟨⟨Plane.contains_support hδ hp.symm (normalized_coord_le (len_pos.1 hL')), Or.inr (Or.inl hc.1)⟩,
    ⟨Plane.contains_support hδ hp (normalized_coord_le (len_pos.1 (hρ.trans_le hL))), Or.inr (Or.inl hc.2)⟩⟩

/-- (a) **Plane equality.**  Point and raw normal perturbed by ≤ eps/1000 per coordinate, `|r| ≥ 1/8`, `eps ≤ 1`. -/
theorem Plane.eqT_of_close {eps : ℝ} {p p' r r' : R3} (heps : 0 < eps) (heps1 : eps ≤ 1)
    (hp : closeBy (eps / 1000) p p') (hr : closeBy (eps / 1000) r r') (hrr : 1 / 64 ≤ dot r r) :
    Plane.eqT eps (Plane.ofPN p r) (Plane.ofPN p' r') ∧
    Plane.eqT eps (Plane.ofPN p' r') (Plane.ofPN p r) :=
  Plane.eqT_of_close_gen (ρ := 1 / 8) hp (by linarith) hr (le_len (by linarith)) (by linarith) (by linarith)

/-- (b) **point test of a perturbed plane, general form**: `x` lies exactly on the plane through `p` with raw normal
    `r`; support within `δ`, unit normals within `Δ`, coordinates of `x − p` within `R`, `3RΔ + 3δ < eps`
    (the test value moves by `(x − p)·Δn + (p − p')·n'`). -/
theorem Plane.containsT_of_close_gen {eps δ Δ R : ℝ} {p p' r r' x : R3}
    (hp : closeBy δ p p') (hc : closeBy Δ (normalized r) (normalized r')) (hr' : 0 < dot r' r')
    (hon : dot (sub x p) r = 0) (hx : coordLe R (sub x p)) (hnum : 3 * (R * Δ) + 3 * (δ * 1) < eps) :
    Plane.containsT eps (Plane.ofPN p' r') x := by
  have e : dot x (normalized r') - dot p' (normalized r')
      = dot (sub x p) (sub (normalized r') (normalized r)) + 1 / len r * dot (sub x p) r
        + dot (sub p p') (normalized r') := by
    simp only [dot, sub, normalized, smul]; ring
  unfold Plane.containsT Plane.ofPN
  rw [e, hon, mul_zero, add_zero]
  linarith [abs_dot_le_of_coord hx hc.sub_coord, abs_dot_le_of_coord hp.symm.sub_coord (normalized_coord_le hr'),
    abs_add_le (dot (sub x p) (sub (normalized r') (normalized r))) (dot (sub p p') (normalized r'))]

/-- (b) **Plane contains the other plane's points.**  `x` lies exactly on the plane through `p` with raw normal `r`
    (`(x − p)·r = 0`), `|r| ≥ 1`, every coordinate of `x − p` is at most `R ≤ 100`.  Then `x` passes the point test of
    the copy perturbed by ≤ eps/1000 per coordinate.  (The bound `R/|r| ≲ 100` is of the right order: the test
    value moves by about `|x − p|·|Δn|` with `|Δn| ≈ (eps/1000)/|r|`.) -/
theorem Plane.containsT_of_close {eps R : ℝ} {p p' r r' x : R3} (heps : 0 < eps) (heps1 : eps ≤ 1)
    (hp : closeBy (eps / 1000) p p') (hr : closeBy (eps / 1000) r r') (hrr : 1 ≤ dot r r)
    (hon : dot (sub x p) r = 0)
    (hx : |(sub x p).x| ≤ R ∧ |(sub x p).y| ≤ R ∧ |(sub x p).z| ≤ R) (hR : R ≤ 100) :
    Plane.containsT eps (Plane.ofPN p' r') x := by
  have hL : 1 ≤ len r := le_len (by linarith)
  have hL' : 0 < len r' := one_half_pos.trans_le (len_ge_of_close hr (by linarith))
  refine Plane.containsT_of_close_gen hp (normalized_closeBy one_pos hL hL' hr) (len_pos.1 hL') hon hx ?_
  linarith [mul_le_mul_of_nonneg_right hR heps.le]

/-- (c) **Rejection.**  A plane moved ALONG its unit normal by `s` with `|s| ≥ eps` (same raw normal) is not equal to
    the original, in either order. -/
theorem Plane.not_eqT_of_normal_shift {eps s : ℝ} {p r : R3} (hrr : 0 < dot r r) (hs : eps ≤ |s|) :
    ¬ Plane.eqT eps (Plane.ofPN p r) (Plane.ofPN (add p (smul s (normalized r))) r) ∧
    ¬ Plane.eqT eps (Plane.ofPN (add p (smul s (normalized r))) r) (Plane.ofPN p r) := by
  have e : dot (add p (smul s (normalized r))) (normalized r) - dot p (normalized r)
      = s * dot (normalized r) (normalized r) := by
    simp only [dot, add, smul]; ring
  rw [normalized_dot_self hrr, mul_one] at e
  constructor <;> rintro ⟨hc, _⟩ <;> unfold Plane.containsT Plane.ofPN at hc
  · rw [abs_sub_comm, e] at hc
    linarith
  · rw [e] at hc
    linarith

end G3D.TolGeo
