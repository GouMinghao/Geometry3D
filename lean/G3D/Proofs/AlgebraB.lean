import G3D.Proofs.Algebra
import G3D.Props.C01
import G3D.Props.C02

/-! # C12 for the table-driven dispatcher `inter` (what follows from the proved exactness theorems)

    `G3D/Proofs/Algebra.lean` states associativity / idempotence / symmetry for the flat dispatcher
    `interFlat`.  Here the same facts are stated about `inter`, the dispatcher generated from the
    current source, with `None` handled by the model's own `interOpt`; plus the "result lies in both
    operands" fact for flat × ConvexPolygon. -/
namespace G3D
open V3

theorem denOptB_map_flat (o : Option Geo) (x : V3) : denOptB (o.map Obj.flat) x ↔ denOpt o x := by
  cases o <;> rfl

/-! ## `None` absorbs -/

/-- `intersection(None, x) = intersection(x, None) = None` (re-export of `Props.C04.interOpt_none`) -/
theorem inter_none_absorbs (x : Option Obj) : interOpt none x = .ok none ∧ interOpt x none = .ok none :=
  Props.C04.interOpt_none x

theorem interOpt_some (a b : Obj) : interOpt (some a) (some b) = inter a b := rfl

/-! ## flat × polygon: the result lies in both operands -/

/-- symmetry, syntactic: both argument orders run the same handler on the same operands -/
theorem inter_flat_polygon_comm (f : Geo) (P : Polygon) : inter (.flat f) (.polygon P) = inter (.polygon P) (.flat f) :=
  Props.C04.inter_comm_of_ne _ _ (by cases f <;> simp [tyOf])

/-- exact form: the returned object denotes precisely `f ∩ hull P` -/
theorem inter_flat_polygon_den_iff (f : Geo) (hf : f.WF) (P : Polygon) (hv : P.Valid) (r : Obj)
    (h : inter (.flat f) (.polygon P) = .ok (some r)) : ∀ x, ObjDen r x ↔ f.den x ∧ InHull P.pts x := by
  obtain ⟨o, ho, hd⟩ := (Props.C02.inter_flat_polygon_exact f hf P hv).1
  rw [h] at ho; cases ho
  exact hd

/-- for a well-formed flat `f` and a Valid polygon `P`, every point of a returned object lies in `f` and in
    the convex hull of the vertices of `P` (and conversely: the returned object is all of `f ∩ hull P`) -/
theorem inter_flat_polygon_vertices_in_both (f : Geo) (hf : f.WF) (P : Polygon) (hv : P.Valid) (r : Obj)
    (h : inter (.flat f) (.polygon P) = .ok (some r)) : ∀ x, ObjDen r x → f.den x ∧ InHull P.pts x :=
  fun x => (inter_flat_polygon_den_iff f hf P hv r h x).mp

/-- the same with the operands in the other order -/
theorem inter_polygon_flat_vertices_in_both (f : Geo) (hf : f.WF) (P : Polygon) (hv : P.Valid) (r : Obj)
    (h : inter (.polygon P) (.flat f) = .ok (some r)) : ∀ x, ObjDen r x → f.den x ∧ InHull P.pts x :=
  inter_flat_polygon_vertices_in_both f hf P hv r ((inter_flat_polygon_comm f P).trans h)

/-- `None` is returned only when the two operands are disjoint, and the call never raises -/
theorem inter_flat_polygon_none_iff (f : Geo) (hf : f.WF) (P : Polygon) (hv : P.Valid) :
    (∃ o, inter (.flat f) (.polygon P) = .ok o) ∧
    (inter (.flat f) (.polygon P) = .ok none → ∀ x, ¬ (f.den x ∧ InHull P.pts x)) := by
  obtain ⟨o, ho, hd⟩ := (Props.C02.inter_flat_polygon_exact f hf P hv).1
  refine ⟨⟨o, ho⟩, fun h x hx => ?_⟩
  rw [h] at ho; cases ho
  exact (hd x).mpr hx

/-! ## associativity, idempotence, symmetry for flats, about `inter` / `interOpt`: the laws of `interFlat` carried
    through `Props.C01.inter_flat` -/

theorem liftFlat_ok_map (o : Option Geo) : liftFlat (.ok o) = .ok (o.map Obj.flat) := by cases o <;> rfl

theorem interOpt_flat_left (o : Option Geo) (c : Geo) :
    interOpt (o.map Obj.flat) (some (.flat c)) = liftFlat (interOptL o c) := by
  cases o with
  | none => exact (Props.C04.interOpt_none _).1
  | some g => exact Props.C01.inter_flat g c

theorem interOpt_flat_right (a : Geo) (o : Option Geo) :
    interOpt (some (.flat a)) (o.map Obj.flat) = liftFlat (interOptR a o) := by
  cases o with
  | none => exact (Props.C04.interOpt_none _).2
  | some g => exact Props.C01.inter_flat a g

/-- stronger form: both bracketings denote exactly `a ∩ b ∩ c`, and all results are flats -/
theorem interFlat_assoc_inter_den (a b c : Geo) (ha : a.WF) (hb : b.WF) (hc : c.WF) :
    ∃ ab bc l r : Option Geo,
      inter (.flat a) (.flat b) = .ok (ab.map Obj.flat) ∧ inter (.flat b) (.flat c) = .ok (bc.map Obj.flat) ∧
      interOpt (ab.map Obj.flat) (some (.flat c)) = .ok (l.map Obj.flat) ∧
      interOpt (some (.flat a)) (bc.map Obj.flat) = .ok (r.map Obj.flat) ∧
      (∀ x, denOpt l x ↔ (a.den x ∧ b.den x ∧ c.den x)) ∧ (∀ x, denOpt r x ↔ (a.den x ∧ b.den x ∧ c.den x)) := by
  obtain ⟨ab, bc, l, r, hab, hbc, hl, hr, dl, dr⟩ := interFlat_assoc_den a b c ha hb hc
  refine ⟨ab, bc, l, r, ?_, ?_, ?_, ?_, dl, dr⟩
  · rw [Props.C01.inter_flat, hab, liftFlat_ok_map]
  · rw [Props.C01.inter_flat, hbc, liftFlat_ok_map]
  · rw [interOpt_flat_left, hl, liftFlat_ok_map]
  · rw [interOpt_flat_right, hr, liftFlat_ok_map]

/-- **associativity on the denoted sets, all 125 type triples of flat primitives, for the generated
    dispatcher**: `intersection(intersection(a, b), c)` and `intersection(a, intersection(b, c))` both
    return without error and denote the same point set.  (`interFlat_assoc` of Proofs/Algebra.lean,
    restated for `inter` / `interOpt`.) -/
theorem interFlat_assoc_inter (a b c : Geo) (ha : a.WF) (hb : b.WF) (hc : c.WF) :
    ∃ ab bc l r, inter (.flat a) (.flat b) = .ok ab ∧ inter (.flat b) (.flat c) = .ok bc ∧
      interOpt ab (some (.flat c)) = .ok l ∧ interOpt (some (.flat a)) bc = .ok r ∧
      ∀ x, denOptB l x ↔ denOptB r x := by
  obtain ⟨ab, bc, l, r, hab, hbc, hl, hr, dl, dr⟩ := interFlat_assoc_inter_den a b c ha hb hc
  exact ⟨_, _, _, _, hab, hbc, hl, hr, fun x => by rw [denOptB_map_flat, denOptB_map_flat, dl x, dr x]⟩

/-- `intersection(a, a)` denotes `a` (for the generated dispatcher) -/
theorem inter_flat_self (a : Geo) (ha : a.WF) :
    ∃ g : Geo, inter (.flat a) (.flat a) = .ok (some (.flat g)) ∧ g.WF ∧ ∀ x, g.den x ↔ a.den x := by
  obtain ⟨g, hg, rest⟩ := interFlat_self a ha
  exact ⟨g, by rw [Props.C01.inter_flat, hg]; rfl, rest⟩

/-- symmetry on the denoted sets (for the generated dispatcher) -/
theorem inter_flat_symm (a b : Geo) (ha : a.WF) (hb : b.WF) :
    ∃ o1 o2, inter (.flat a) (.flat b) = .ok o1 ∧ inter (.flat b) (.flat a) = .ok o2 ∧
      ∀ x, denOptB o1 x ↔ denOptB o2 x := by
  obtain ⟨o1, o2, h1, h2, hd⟩ := interFlat_symm a b ha hb
  refine ⟨o1.map Obj.flat, o2.map Obj.flat, ?_, ?_, fun x => by rw [denOptB_map_flat, denOptB_map_flat]; exact hd x⟩
  · rw [Props.C01.inter_flat, h1, liftFlat_ok_map]
  · rw [Props.C01.inter_flat, h2, liftFlat_ok_map]

/-- if `a ⊆ b` (and `a` is non-empty, which every well-formed flat is) then `intersection(a, b)` denotes `a` -/
theorem inter_flat_of_subset (a b : Geo) (ha : a.WF) (hb : b.WF) (hsub : ∀ x, a.den x → b.den x)
    (hne : ∃ x, a.den x) :
    ∃ g : Geo, inter (.flat a) (.flat b) = .ok (some (.flat g)) ∧ ∀ x, g.den x ↔ a.den x := by
  obtain ⟨g, hg, rest⟩ := interFlat_of_subset a b ha hb hsub hne
  exact ⟨g, by rw [Props.C01.inter_flat, hg]; rfl, rest⟩

/-- mixed chain flat–flat–polygon, left bracketing: `intersection(intersection(a, b), P)` returns without
    error and denotes `a ∩ b ∩ hull P` -/
theorem inter_flat_flat_polygon_left (a b : Geo) (ha : a.WF) (hb : b.WF) (P : Polygon) (hv : P.Valid) :
    ∃ ab l, inter (.flat a) (.flat b) = .ok ab ∧ interOpt ab (some (.polygon P)) = .ok l ∧
      ∀ x, denOptB l x ↔ (a.den x ∧ b.den x ∧ InHull P.pts x) := by
  obtain ⟨ab, hab, wab, dab⟩ := Props.C01.inter_flat_exact a b ha hb
  cases ab with
  | none =>
    exact ⟨_, none, hab, (Props.C04.interOpt_none _).1, fun x => ⟨False.elim, fun h => (dab x).mpr ⟨h.1, h.2.1⟩⟩⟩
  | some g =>
    obtain ⟨l, hl, dl⟩ := (Props.C02.inter_flat_polygon_exact g (wab g rfl) P hv).1
    exact ⟨_, l, hab, hl, fun x => by rw [dl x, ← and_assoc]; exact and_congr_left' (dab x)⟩

#print axioms inter_none_absorbs
#print axioms inter_flat_polygon_vertices_in_both
#print axioms interFlat_assoc_inter
#print axioms interFlat_assoc_inter_den
#print axioms inter_flat_self
#print axioms inter_flat_symm
#print axioms inter_flat_flat_polygon_left
end G3D
