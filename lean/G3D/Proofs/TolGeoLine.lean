import G3D.Proofs.TolGeoBase
import Mathlib.Tactic.NormNum

/-! C19 for Vector / Point (base case) and for Line:
    copies perturbed by eps/1000 per defining coordinate compare equal and contain each other's points;
    the lower bound on the parameter `t` in the containment statement is NECESSARY (`Line.contains_gap`). -/
namespace G3D.TolGeo
open R3

/-! ## Vector / Point -/

theorem closeBy.vecEq {eps δ : ℝ} {a b : R3} (hδ : δ < eps) (h : closeBy δ a b) : vecEq eps b a :=
  ⟨h.1.trans_lt hδ, h.2.1.trans_lt hδ, h.2.2.trans_lt hδ⟩

theorem vecEq_of_closeBy {eps δ : ℝ} {a b : R3} (hδ : δ < eps) (h : closeBy δ a b) :
    vecEq eps a b ∧ vecEq eps b a :=
  ⟨h.symm.vecEq hδ, h.vecEq hδ⟩

/-- (a) Points/Vectors whose coordinates differ by ≤ eps/1000 compare equal, in both orders -/
theorem vecEq_of_close {eps : ℝ} {a b : R3} (heps : 0 < eps) (h : closeBy (eps / 1000) a b) :
    vecEq eps a b ∧ vecEq eps b a :=
  vecEq_of_closeBy (by linarith) h

/-- the same with the coarser perturbation eps/100 used by the campaign -/
theorem vecEq_of_close100 {eps : ℝ} {a b : R3} (heps : 0 < eps) (h : closeBy (eps / 100) a b) :
    vecEq eps a b ∧ vecEq eps b a :=
  vecEq_of_closeBy (by linarith) h

/-- Points/Vectors differing by more than 4·eps (indeed: by at least eps) in SOME coordinate compare unequal -/
theorem not_vecEq_of_far {eps : ℝ} {a b : R3} (heps : 0 < eps)
    (h : 4 * eps < |a.x - b.x| ∨ 4 * eps < |a.y - b.y| ∨ 4 * eps < |a.z - b.z|) :
    ¬ vecEq eps a b ∧ ¬ vecEq eps b a := by
  constructor
  · rintro ⟨h1, h2, h3⟩
    rcases h with h | h | h <;> linarith
  · rintro ⟨h1, h2, h3⟩
    rw [abs_sub_comm] at h1 h2 h3
    rcases h with h | h | h <;> linarith

/-- `== Vector.zero()` is three coordinate tests against 0 -/
theorem isZero_iff {eps : ℝ} {a : R3} : isZero eps a ↔ |a.x| < eps ∧ |a.y| < eps ∧ |a.z| < eps := by
  simp only [isZero, vecEq, R3.zero, sub_zero]

theorem closeBy.isZero {eps δ : ℝ} {a b : R3} (hδ : δ < eps) (h : closeBy δ a b) : isZero eps (R3.sub b a) :=
  isZero_iff.2 (h.vecEq hδ)

/-! ## the parallel test on perturbed data -/

/-- **Core.**  `a = t·d + e` (a point of the line through the unperturbed support, seen from the perturbed
    support) and `b = d + f` (perturbed direction), `|e_i| ≤ eps/1000`, `|f_i| ≤ 2·eps/1000`, `|d| ≥ 1/10`,
    `|t| ≥ √eps`  ⇒  the last comparison of `Vector.parallel` succeeds. -/
theorem parallelT_perturbed {eps t : ℝ} {d e f : R3} (heps : 0 < eps) (heps1 : eps ≤ 1)
    (he : coordLe (eps / 1000) e) (hf : coordLe (2 * (eps / 1000)) f)
    (hd : 1 / 100 ≤ dot d d) (ht : eps ≤ t ^ 2) :
    parallelT eps (add (smul t d) e) (add d f) := by
  have hee := dot_self_le_of_coord he
  have hff := dot_self_le_of_coord hf
  have hA0 := dot_add_self_ge (smul t d) e
  rw [dot_smul_self] at hA0
  have hB0 := dot_add_self_ge d f
  have hc := cross_perturbed_le t d e f
  have hdd0 := dot_self_nonneg d
  -- the products that make the rest linear: `A ≥ eps·|d|²/4`, `B ≥ 1/256`, and
  -- `|a × b|² ≤ 2|e|²|d|² + 2A|f|² ≤ (48/10⁶)·eps·A < eps·A/16`
  have htd : eps * dot d d ≤ t ^ 2 * dot d d := mul_le_mul_of_nonneg_right ht hdd0
  have hed : eps * (1 / 100) ≤ eps * dot d d := mul_le_mul_of_nonneg_left hd heps.le
  have hee2 : eps * eps ≤ eps := mul_le_of_le_one_left heps.le heps1
  set A := dot (add (smul t d) e) (add (smul t d) e)
  have hA : eps * dot d d / 4 ≤ A := by linarith only [hA0, htd, hee, hee2, hed, heps]
  have hApos : 0 < A := by linarith only [hA, hed, heps]
  have hlb : 1 / 16 ≤ len (add d f) := le_len (by linarith only [hB0, hff, hd, hee2, heps1])
  have s1 := mul_le_mul_of_nonneg_right hee hdd0
  have s2 := mul_le_mul_of_nonneg_left hff hApos.le
  have s3 := mul_le_mul_of_nonneg_left hA heps.le
  have s4 := mul_le_mul_of_nonneg_right hee2 hApos.le
  have s5 := mul_pos heps hApos
  have s6 := mul_le_mul_of_nonneg_left hlb s5.le
  exact Or.inr (Or.inr (parallel_core hApos (len_pos.1 (by linarith only [hlb]))
    (by linarith only [hc, s1, s2, s3, s4, s5, s6])))

/-! ## Line -/

/-- (a) **Line equality** for any per-coordinate perturbations `δ₁, δ₂ < eps` of support and direction — no bound on
    the data is needed: `Point(l'.sv) in l` is decided by the early exit `v == zero`, `l'.dv.parallel(l.dv)` by the
    early exit `self == other` (utils/vector.py:141-144).  (Covers eps/100, and the lines of Segments, whose direction
    `end − start` moves by up to 2·eps/1000.) -/
theorem Line.eqT_of_close_gen {eps δ₁ δ₂ : ℝ} {l l' : Line} (h1 : δ₁ < eps) (h2 : δ₂ < eps)
    (hsv : closeBy δ₁ l.sv l'.sv) (hdv : closeBy δ₂ l.dv l'.dv) :
    Line.eqT eps l l' ∧ Line.eqT eps l' l :=
  ⟨⟨Or.inl (Or.inl (hsv.isZero h1)), Or.inr (Or.inl (hdv.vecEq h2))⟩,
    ⟨Or.inl (Or.inl (hsv.symm.isZero h1)), Or.inr (Or.inl (hdv.symm.vecEq h2))⟩⟩

/-- (a) support point and direction perturbed by ≤ eps/1000 per coordinate -/
theorem Line.eqT_of_close {eps : ℝ} {l l' : Line} (heps : 0 < eps)
    (hsv : closeBy (eps / 1000) l.sv l'.sv) (hdv : closeBy (eps / 1000) l.dv l'.dv) :
    Line.eqT eps l l' ∧ Line.eqT eps l' l :=
  Line.eqT_of_close_gen (by linarith) (by linarith) hsv hdv

/-- a point within eps (coordinate-wise) of the support point is contained: early exit `v == zero` -/
theorem Line.containsT_near {eps : ℝ} (l : Line) {x : R3} (h : vecEq eps x l.sv) :
    Line.containsT eps l x :=
  Or.inl (Or.inl (isZero_iff.2 h))

/-- (b) for a segment-style direction (difference of two perturbed points: 2·eps/1000 per coordinate) -/
theorem Line.containsT_of_close2 {eps t : ℝ} {l l' : Line} (heps : 0 < eps) (heps1 : eps ≤ 1)
    (hsv : closeBy (eps / 1000) l.sv l'.sv) (hdv : closeBy (2 * (eps / 1000)) l.dv l'.dv)
    (hd : 1 / 100 ≤ dot l.dv l.dv) (ht : t = 0 ∨ eps ≤ t ^ 2) :
    Line.containsT eps l' (add l.sv (smul t l.dv)) := by
  rcases ht with rfl | ht
  · rw [add_smul_zero]
    exact Line.containsT_near l' (hsv.symm.vecEq (by linarith))
  · have ea : sub (add l.sv (smul t l.dv)) l'.sv = add (smul t l.dv) (sub l.sv l'.sv) := by
      ext <;> simp only [add, sub, smul] <;> ring
    have eb : l'.dv = add l.dv (sub l'.dv l.dv) := by
      ext <;> simp only [add, sub] <;> ring
    unfold Line.containsT
    rw [ea, eb]
    exact parallelT_perturbed heps heps1 hsv.symm.sub_coord hdv.sub_coord hd ht

/-- (b) **Line contains the other line's points.**  `x = l.sv + t·l.dv` lies exactly on `l`; `l'` is a copy perturbed
    by ≤ eps/1000 per coordinate, `|l.dv| ≥ 1/10`.  Then `x in l'` for `t = 0` and for every `t` with `t² ≥ eps`
    (no upper bound on `t`, no upper bound on the coordinates). -/
theorem Line.containsT_of_close {eps t : ℝ} {l l' : Line} (heps : 0 < eps) (heps1 : eps ≤ 1)
    (hsv : closeBy (eps / 1000) l.sv l'.sv) (hdv : closeBy (eps / 1000) l.dv l'.dv)
    (hd : 1 / 100 ≤ dot l.dv l.dv) (ht : t = 0 ∨ eps ≤ t ^ 2) :
    Line.containsT eps l' (add l.sv (smul t l.dv)) :=
  Line.containsT_of_close2 heps heps1 hsv (hdv.mono (by linarith)) hd ht

/-- (c) **Rejection.**  A support point displaced ORTHOGONALLY to the direction by a vector with some coordinate
    ≥ eps is not on the line, hence the displaced line (with any direction) is not equal to the original. -/
theorem Line.not_eqT_of_orth_shift {eps : ℝ} {l : Line} {w dv' : R3} (heps : 0 < eps) (heps1 : eps ≤ 1 / 16)
    (hd : 1 / 64 ≤ dot l.dv l.dv) (horth : dot w l.dv = 0)
    (hbig : eps ≤ |w.x| ∨ eps ≤ |w.y| ∨ eps ≤ |w.z|) :
    ¬ Line.containsT eps l (add l.sv w) ∧ ¬ Line.eqT eps l ⟨add l.sv w, dv'⟩ := by
  have key : ¬ Line.containsT eps l (add l.sv w) := by
    have ea : sub (add l.sv w) l.sv = w := by
      ext <;> simp only [add, sub, add_sub_cancel_left]
    unfold Line.containsT
    rw [ea]
    have heps2 : eps * eps ≤ 1 / 16 * (1 / 16) := mul_self_le_mul_self heps.le heps1
    have hdv : 1 / 8 ≤ len l.dv := le_len (by linarith)
    obtain ⟨w1, w2, w3⟩ := coordLe_len w
    rintro ((hz | hz) | hv | hlast)
    · obtain ⟨h1, h2, h3⟩ := isZero_iff.1 hz
      rcases hbig with h | h | h
      exacts [h.not_gt h1, h.not_gt h2, h.not_gt h3]
    · obtain ⟨h1, h2, h3⟩ := isZero_iff.1 hz
      linarith [dot_self_le_of_coord ⟨h1.le, h2.le, h3.le⟩]
    · -- |w - dv|² = |w|² + |dv|² ≥ 1/64 but ≤ 3 eps²
      have h := dot_self_le_of_coord (a := sub w l.dv) ⟨hv.1.le, hv.2.1.le, hv.2.2.le⟩
      rw [dot_sub_self, horth] at h
      linarith [dot_self_nonneg w]
    · -- |w|·|dv| < eps·|w| with |dv| ≥ 1/8 > eps and |w| > 0
      rw [horth, abs_zero, zero_sub, abs_neg,
        abs_of_nonneg (mul_nonneg (len_nonneg _) (len_nonneg _))] at hlast
      have hw : 0 < len w := heps.trans_le
        (hbig.elim (·.trans w1) (·.elim (·.trans w2) (·.trans w3)))
      exact absurd (lt_of_mul_lt_mul_left (mul_comm eps (len w) ▸ hlast) hw.le) (by linarith)
  exact ⟨key, fun h => key h.1⟩

/-- **The lower bound on `t` cannot be dropped.**  For every `0 < eps ≤ 1e-7` the x-axis `l` and its copy `l'`
    whose support point is moved by eps/1000 in y compare equal, but the point `x = l.sv + 2·eps·l.dv`, which lies
    exactly on `l`, FAILS `x in l'`: it is too far from the support for the early exit and too close for the
    angular test `| |a·b| − |a||b| | < eps·|a|`. -/
theorem Line.contains_gap {eps : ℝ} (heps : 0 < eps) (h7 : eps ≤ 1 / 10000000) :
    Line.eqT eps ⟨⟨0, 0, 0⟩, ⟨1, 0, 0⟩⟩ ⟨⟨0, eps / 1000, 0⟩, ⟨1, 0, 0⟩⟩ ∧
    ¬ Line.containsT eps ⟨⟨0, eps / 1000, 0⟩, ⟨1, 0, 0⟩⟩
        (add (⟨0, 0, 0⟩ : R3) (smul (2 * eps) ⟨1, 0, 0⟩)) := by
  have hδ : 0 ≤ eps / 1000 := by positivity
  constructor
  · refine (Line.eqT_of_close heps ?_ ?_).1
    · simp [closeBy, abs_of_nonneg, hδ]
    · simp [closeBy, hδ]
  · have ea : sub (add (⟨0, 0, 0⟩ : R3) (smul (2 * eps) ⟨1, 0, 0⟩)) ⟨0, eps / 1000, 0⟩
        = ⟨2 * eps, -(eps / 1000), 0⟩ := by
      simp [add, sub, smul]
    unfold Line.containsT
    rw [ea]
    rintro ((hz | hz) | hv | hlast)
    · have := (isZero_iff.1 hz).1
      rw [abs_of_pos (by positivity)] at this; linarith
    · have := (isZero_iff.1 hz).1
      rw [abs_one] at this; linarith
    · have := hv.1
      rw [abs_sub_comm, abs_of_pos (by linarith)] at this; linarith
    · -- `|a × b|² = (eps/1000)²` is not below `2·eps·|a|²·|b| ≈ 8·eps³`
      have h := cross_lt_of_parallel (by simp only [dot, neg_mul_neg, mul_zero, add_zero]; positivity)
        (by simp [dot]) hlast
      have hb : len (⟨1, 0, 0⟩ : R3) = 1 := by simp [len, dot]
      rw [hb] at h
      simp only [dot, cross] at h
      linarith [mul_le_mul_of_nonneg_left h7 (mul_self_nonneg eps), mul_pos heps heps]

end G3D.TolGeo
