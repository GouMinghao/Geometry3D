import G3D.Extracted.Mpolyhedron
import G3D.Proofs.MethodsTiePolyhedronShared
/-! # Tie, group `mpolyhedron`, role MEMBERSHIP (C05): `__contains__` (Point / Segment / ConvexPolygon / other).  Conventions, trusted readings and the deviations found: `G3D.Proofs.MethodsTie`, header of `G3D.Model.PyRtM`. -/
set_option linter.style.nameCheck false
namespace G3D.Tie
open V3 PyRt Extracted

theorem m_ConvexPolyhedron___contains___eq_point (B : Polyhedron) (x : V3) :
    m_ConvexPolyhedron___contains__ (Self.ofPolyhedron B) (.obj (ptObj x)) = .ok (.bool (B.contains x)) := by
  unfold m_ConvexPolyhedron___contains__
  simp only [Self.ofPolyhedron, pyrt, List.map_map, decide_true, if_true]
  rw [forIn_repr (Val.obj ∘ Obj.polygon) (fun s : Option Val × Unit => s) B.faces _
    (fun f _ => if dot (sub x f.center) f.plane.n ≤ 0 then .ok (.yield (none, ())) else .ok (.done (some (Val.bool false), ())))]
  · rw [forIn_return B.faces (fun f => dot (sub x f.center) f.plane.n ≤ 0)]
    unfold Polyhedron.contains
    cases B.faces.all (fun f => decide (dot (sub x f.center) f.plane.n ≤ 0)) <;> rfl
  · intro f _ s
    simp [pyrt, ForInStep.map', ← not_lt]

theorem m_ConvexPolyhedron___contains___eq_seg (B : Polyhedron) (s : Seg) :
    m_ConvexPolyhedron___contains__ (Self.ofPolyhedron B) (.obj (sgObj s)) = .ok (.bool (B.containsSeg s)) := by
  unfold m_ConvexPolyhedron___contains__
  simp [pyPack_ConvexPolyhedron_of, pyrt, Polyhedron.containsSeg]

theorem m_ConvexPolyhedron___contains___eq_polygon (B : Polyhedron) (P : Polygon) :
    m_ConvexPolyhedron___contains__ (Self.ofPolyhedron B) (.obj (.polygon P)) = .ok (.bool (B.containsPolygon P)) := by
  unfold m_ConvexPolyhedron___contains__
  simp only [pyPack_ConvexPolyhedron_of, pyrt, List.map_map, decide_false, decide_true, if_true, if_false, Bool.false_eq_true, reduceCtorEq]
  rw [forIn_repr (Val.obj ∘ ptObj) (fun s : Option Val × Unit => s) P.pts _
    (fun p _ => if B.contains p = true then .ok (.yield (none, ())) else .ok (.done (some (Val.bool false), ())))]
  · rw [forIn_return P.pts (fun p => B.contains p = true)]
    simp only [Bool.decide_eq_true, Polyhedron.containsPolygon]
    cases P.pts.all B.contains <;> rfl
  · intro p _ s
    cases hb : B.contains p <;> simp [pyrt, hb, ForInStep.map']

theorem m_ConvexPolyhedron___contains___eq_other (B : Polyhedron) (l : Line) :
    m_ConvexPolyhedron___contains__ (Self.ofPolyhedron B) (.obj (lnObj l)) = .error .notImpl := rfl

end G3D.Tie
