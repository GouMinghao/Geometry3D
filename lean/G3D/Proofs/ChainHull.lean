import G3D.Proofs.FlatPolygon

/-! `ConvexPolygon.__contains__` ⊆ hull of the vertices, WITHOUT any assumption on their order: for every polygon object
    with coplanar vertices, three of them non-collinear (`chain_hull` of Proofs/Polygon.lean on the closed chain of the
    vertices).  The converse direction does need `Polygon.Valid`. -/
namespace G3D
open V3

/-- **`__contains__` ⊆ hull for every polygon object with coplanar, not all collinear vertices** — no
    hypothesis on the order of the vertices -/
theorem Polygon.contains_sub_hull (P : Polygon) (hpl : ∀ p ∈ P.pts, P.plane.contains p = true)
    (hnd : ∃ a ∈ P.pts, ∃ b ∈ P.pts, ∃ c ∈ P.pts, orient P.plane.n a b c ≠ 0)
    (x : V3) (hx : P.contains x = true) : InHull P.pts x := by
  rw [Polygon.contains_eq] at hx
  unfold polyContains at hx
  rw [Bool.and_eq_true, List.all_eq_true] at hx
  refine chain_hull P.plane.n P.plane.p x hx.1 P.pts ?_ hnd ?_
  · intro p hp; rw [← Plane.contains_eq_inPlane]; exact hpl p hp
  · intro e he
    have := hx.2 e he
    simpa using this
#print axioms Polygon.contains_sub_hull

theorem Polygon.Valid.pts_in_plane {P : Polygon} (hv : P.Valid) : ∀ p ∈ P.pts, P.plane.contains p = true :=
  fun p hp => by rw [Plane.contains_eq_inPlane]; exact hv.pts_inPlane p hp

end G3D
