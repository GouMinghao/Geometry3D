import G3D.Proofs.K4k
import G3D.Proofs.ExactAll

/-! # Kernel K4, part l: the returned polyhedron is a valid operand again

    * `K4.FacetBody.closedSurface`, `K4.FacetBody.faceLocal`, `K4.FacetBody.valid`, `K4.FacetBody.proper`
    * `K4.result_exactHyp` : every body returned by `ConvexPolyhedron(collected polygons)` is `Valid`, satisfies
      `ExactHyp`, and its membership test / hull is exactly `A ∩ B`
    * `interPolyhedronPolyhedron_result_exactHyp`, `interPolyhedronPolyhedron_ok_opOK`,
      `interPolyhedronPolyhedron_exactOK_of_euler` -/
namespace G3D
open V3

namespace K4.FacetBody
variable {A B R : Polyhedron}

theorem dirEdges_eq (R : Polyhedron) :
    dirEdges (R.faces.map (·.pts)) = R.faces.flatMap (fun h => closedPairs h.pts) := by
  unfold dirEdges
  rw [List.flatMap_map]

theorem dirEdges_nodup_of (R : Polyhedron) (hnd : ∀ h ∈ R.faces, h.pts.Nodup)
    (hdist : R.faces.Pairwise (fun h1 h2 => ¬ ∀ x, InHull h1.pts x ↔ InHull h2.pts x))
    (huniq : ∀ h1 ∈ R.faces, ∀ h2 ∈ R.faces, ∀ e ∈ closedPairs h1.pts, e ∈ closedPairs h2.pts →
      ∀ x, InHull h1.pts x ↔ InHull h2.pts x) : (dirEdges (R.faces.map (·.pts))).Nodup := by
  rw [dirEdges_eq, List.nodup_flatMap]
  refine ⟨fun h hh => K4.closedPairs_nodup h.pts (hnd h hh), ?_⟩
  refine List.Pairwise.imp_of_mem ?_ hdist
  intro h1 h2 hh1 hh2 hne
  simp only [Function.onFun]
  intro e he1 he2
  exact hne (huniq h1 hh1 h2 hh2 e he1 he2)

theorem dirEdges_nodup (hb : K4.FacetBody A B R) : (dirEdges (R.faces.map (·.pts))).Nodup :=
  dirEdges_nodup_of R (fun h hh => (hb.face h hh).valid.nodup) hb.distinct
    (fun h1 hh1 h2 hh2 e => hb.edge_unique h1 h2 hh1 hh2 e)

theorem dirEdges_swap (hb : K4.FacetBody A B R) (e : V3 × V3) (he : e ∈ dirEdges (R.faces.map (·.pts))) :
    e.swap ∈ dirEdges (R.faces.map (·.pts)) := by
  obtain ⟨h1, hh1, he1⟩ := (mem_dirEdges R.faces e).mp he
  obtain ⟨a, b⟩ := e
  obtain ⟨h2, hh2, he2, _⟩ := hb.edge_partner h1 hh1 a b he1
  exact (mem_dirEdges R.faces _).mpr ⟨h2, hh2, he2⟩

/-- **the faces form a closed surface**: every directed edge occurs exactly once, and so does its reverse -/
theorem closedSurface (hb : K4.FacetBody A B R) : ClosedSurface (R.faces.map (·.pts)) := by
  unfold ClosedSurface
  set L := dirEdges (R.faces.map (·.pts)) with hL
  have hnd : L.Nodup := hb.dirEdges_nodup
  have hnd' : (L.map Prod.swap).Nodup := hnd.map Prod.swap_injective
  have hsub : L.map Prod.swap ⊆ L := by
    intro e he
    obtain ⟨e', he', rfl⟩ := List.mem_map.mp he
    exact hb.dirEdges_swap e' he'
  have hsp := List.subperm_of_subset hnd' hsub
  exact (hsp.perm_of_length_le (by rw [List.length_map])).symm

theorem faceLocal (hb : K4.FacetBody A B R) : R.FaceLocal := by
  intro f hf e he
  obtain ⟨a, b⟩ := e
  obtain ⟨g, hg, _, ga, gb, v, hv, hlt⟩ := hb.edge_partner f hf a b he
  exact ⟨g, hg, ga, gb, v, hv, hlt⟩

theorem validCore (hb : K4.FacetBody A B R) : R.ValidCore :=
  ⟨hb.nonempty, fun f hf => (hb.face f hf).valid, fun f hf => (hb.face f hf).center, hb.pts_sub, hb.vertsInside,
    hb.closedSurface⟩

theorem valid (hb : K4.FacetBody A B R) : R.Valid := by
  obtain ⟨c, hc⟩ := hb.interior
  exact ⟨hb.nonempty, fun f hf => (hb.face f hf).valid, fun f hf => (hb.face f hf).center, hb.pts_sub,
    hb.vertsInside, hb.closedSurface, ⟨c, hb.side_strict hc⟩⟩

theorem proper (hb : K4.FacetBody A B R) : R.Proper := ⟨hb.validCore, hb.faceLocal⟩

end K4.FacetBody
#print axioms K4.FacetBody.closedSurface

/-- **the stored result is a valid operand**: every body returned by `ConvexPolyhedron(collected polygons)` is `Valid`
    (closed surface, vertices inside, interior point) and `FaceLocal`, its edge list is exact — so it satisfies
    `ExactHyp` — and its membership test and the hull of its vertices are exactly `A ∩ B` -/
theorem K4.result_exactHyp {A B : Polyhedron} (hA : A.ExactHyp) (hB : B.ExactHyp) {p : Parts}
    (hp : K4.Parts2 A B p) (h2 : 2 ≤ p.gons.length) (R : Polyhedron) (hR : Polyhedron.mk? p.gons = .ok R) :
    R.Valid ∧ R.ExactHyp ∧
      (∀ x, R.contains x = true ↔ (InHull A.verts x ∧ InHull B.verts x)) ∧
      (∀ x, InHull R.verts x ↔ (InHull A.verts x ∧ InHull B.verts x)) := by
  have hb := K4.facetBody_of_mk hA hB hp h2 R hR
  obtain ⟨e1, e2, e3⟩ := Polyhedron.mk?_edges_exact p.gons (fun g hg => (hp.gon_spec hA hB g hg).1) R hR
  exact ⟨hb.valid, ⟨hb.proper, e1, e2, e3⟩, hb.contains_iff_hull hA hB, K4.exact_of_mk hA hB hp h2 R hR⟩
#print axioms K4.result_exactHyp

/-- a polyhedron returned by `intersection(A, B)` is `Valid`, satisfies `ExactHyp` and is exactly `A ∩ B` -/
theorem interPolyhedronPolyhedron_result_exactHyp (A B : Polyhedron) (hA : A.ExactHyp) (hB : B.ExactHyp)
    (R : Polyhedron) (h : interPolyhedronPolyhedron A B = .ok (some (.polyhedron R))) :
    R.Valid ∧ R.ExactHyp ∧
      (∀ x, R.contains x = true ↔ (InHull A.verts x ∧ InHull B.verts x)) ∧
      (∀ x, InHull R.verts x ↔ (InHull A.verts x ∧ InHull B.verts x)) := by
  obtain ⟨p, hp, hcases⟩ := interPolyhedronPolyhedron_total A B hA hB
  rcases hcases with ⟨_, o, ho, hsh, _⟩ | ⟨h2, _, heq, _⟩
  · rw [ho] at h; cases h; cases hsh
  · rw [heq] at h
    obtain ⟨R', hm, hR⟩ := K4.mk_bind_ok h
    cases hR
    exact K4.result_exactHyp hA hB hp h2 R hm

/-- **whatever `intersection(A, B)` returns is an admissible operand denoting exactly `A ∩ B`**: a well-formed flat,
    a Valid polygon, or a polyhedron satisfying `ExactHyp` -/
theorem interPolyhedronPolyhedron_ok_opOK (A B : Polyhedron) (hA : A.ExactHyp) (hB : B.ExactHyp)
    (o : Option Obj) (h : interPolyhedronPolyhedron A B = .ok o) :
    (∀ ob, o = some ob → OpOK ob) ∧ ∀ x, denOptB o x ↔ (InHull A.verts x ∧ InHull B.verts x) := by
  obtain ⟨hw, hd⟩ := (interPolyhedronPolyhedron_exact_of_ok A B hA hB).1 o h
  refine ⟨?_, hd⟩
  rintro ob rfl
  obtain ⟨p, hp, hcases⟩ := interPolyhedronPolyhedron_total A B hA hB
  rcases hcases with ⟨_, o', ho', hsh, _⟩ | ⟨h2, _, heq, _⟩
  · rw [ho'] at h; cases h
    cases hsh with
    | point q => trivial
    | seg s hs => exact hs
    | gon Q hv => exact hv
  · rw [heq] at h
    obtain ⟨R, hm, hR⟩ := K4.mk_bind_ok h
    cases hR
    exact (K4.result_exactHyp hA hB hp h2 R hm).2.1
#print axioms interPolyhedronPolyhedron_ok_opOK

/-- **K4 under the Euler hypothesis**: if the collected complex has Euler number 2 whenever two or more polygons are
    collected, `intersection(A, B)` returns — without error — None, a well-formed flat, a Valid polygon or a
    polyhedron satisfying `ExactHyp`, denoting exactly `A ∩ B` -/
theorem interPolyhedronPolyhedron_exactOK_of_euler (A B : Polyhedron) (hA : A.ExactHyp) (hB : B.ExactHyp)
    (heul : ∀ p, K4.Parts2 A B p → 2 ≤ p.gons.length → K4.eulerOf p.gons = 2) :
    ∃ o, interPolyhedronPolyhedron A B = .ok o ∧ (∀ ob, o = some ob → OpOK ob) ∧
      ∀ x, denOptB o x ↔ (InHull A.verts x ∧ InHull B.verts x) := by
  obtain ⟨p, hp, hcases⟩ := interPolyhedronPolyhedron_ok_or_euler A B hA hB
  have key : ∀ o, interPolyhedronPolyhedron A B = .ok o → ∃ o, interPolyhedronPolyhedron A B = .ok o ∧
      (∀ ob, o = some ob → OpOK ob) ∧ ∀ x, denOptB o x ↔ (InHull A.verts x ∧ InHull B.verts x) :=
    fun o ho => ⟨o, ho, interPolyhedronPolyhedron_ok_opOK A B hA hB o ho⟩
  rcases hcases with ⟨_, o, ho, _⟩ | ⟨_, _, R, _, ho, _⟩ | ⟨h2, hne, _⟩
  · exact key o ho
  · exact key _ ho
  · exact absurd (heul p hp h2) hne
#print axioms interPolyhedronPolyhedron_exactOK_of_euler

end G3D
