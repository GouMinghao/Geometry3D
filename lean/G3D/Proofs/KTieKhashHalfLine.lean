import G3D.Extracted.Khash
import G3D.Proofs.KhashLemmas
import G3D.Proofs.KTieKhashPoint
/-! # khash, `HalfLine.__hash__`  (C08)
    `G3D.Extracted.impl_hash_*` are regenerated on every run (tools/extract_khash.py, engine tools/khash_engine.py on tools/kernels_engine.py):
    the REAL `__hash__` bodies are run on symbolic numbers with `hash` / `round` / `get_sig_figures` / `get_eps` shimmed; `H` is the
    uninterpreted hash of a tuple, `rnd` / `rndI` the uninterpreted `round(., get_sig_figures())` on numbers / integers, `sig` / `neg`
    the uninterpreted answers to `abs(c) > get_eps()` / `c < 0`.  Every statement holds FOR ALL H, rnd, rndI.  Each kernel has its own
    `section`: when the walk of ONE kernel fails the generated file holds only the marker `impl_<kernel>_EXTRACTION_FAILED` for it
    and exactly the theorems of that section stop compiling.  The reference functions (`…Ref`, `…OfKey`) and their reading through
    the hash keys of `Model/HashKey.lean` are hand-written in `Proofs/KhashLemmas.lean`.
    `HalfLine.__hash__` delegates to `Point.__hash__` and `Vector.__hash__` (of `self.vector.normalized()`). -/
namespace G3D.KTie.Khash
open G3D G3D.Extracted G3D.KTie

section hash_HalfLine
theorem hash_HalfLine_sqrt (p v : RVec) : impl_hash_HalfLine_sqrt0 p v = √(RVec.normSq v) := by
  simp only [impl_hash_HalfLine_sqrt0, sum0]

/-- the extracted tuple: tag, `hash(point) + hash(unit vector)`, `hash(point) * hash(unit vector)` with the EXTRACTED point and
    vector hashes; the vector hashed is `vector.normalized()` -/
theorem hash_HalfLine_shape (H : HFun) (rnd : ℝ → ℝ) (p v : RVec) :
    impl_hash_HalfLine H rnd p v
      = H [.tag "HalfLine", .int (impl_hash_Point H rnd p + impl_hash_Vector H rnd (unitR v)),
           .int (impl_hash_Point H rnd p * impl_hash_Vector H rnd (unitR v))] := by
  simp only [impl_hash_HalfLine, hash_HalfLine_sqrt, unitR]

theorem hash_HalfLine_tie (H : HFun) (rnd : ℝ → ℝ) (p v : RVec) : impl_hash_HalfLine H rnd p v = halfLineHashRef H rnd p v := by
  simp only [hash_HalfLine_shape, hash_Point_tie, hash_Vector_tie, halfLineHashRef]

/-- **the extracted hash depends only on the model's `HalfLine.hashKey`** (start point, unit direction) -/
theorem hash_HalfLine_key (H : HFun) (rnd : ℝ → ℝ) (h : HalfLine) (hw : h.WF) :
    impl_hash_HalfLine H rnd h.p.toR h.v.toR = halfLineHashOfKey H rnd (HalfLine.hashKey h) := by
  rw [hash_HalfLine_tie, halfLineHashRef_key H rnd h hw]

/-- **EQUAL HALF-LINES HAVE EQUAL EXTRACTED HASHES**, for every H and every rounding (direction rescaled by any k > 0) -/
theorem hash_HalfLine_eq_of_eqv (H : HFun) (rnd : ℝ → ℝ) (a b : HalfLine) (ha : a.WF) (hb : b.WF) (h : a.eqv b = true) :
    impl_hash_HalfLine H rnd a.p.toR a.v.toR = impl_hash_HalfLine H rnd b.p.toR b.v.toR := by
  rw [hash_HalfLine_tie, hash_HalfLine_tie, halfLineHashRef_eq_of_eqv H rnd a b ha hb h]

theorem hash_HalfLine_paths : impl_hash_HalfLine_oracles = [] ∧ impl_hash_HalfLine_paths = [[]] := ⟨rfl, rfl⟩

/-- (C19) the body rounds nothing itself (the roundings are those of `Point.__hash__` / `Vector.__hash__`) -/
theorem hash_HalfLine_roundings : impl_hash_HalfLine_roundings = [] := rfl
end hash_HalfLine

#print axioms hash_HalfLine_key
#print axioms hash_HalfLine_eq_of_eqv
end G3D.KTie.Khash
