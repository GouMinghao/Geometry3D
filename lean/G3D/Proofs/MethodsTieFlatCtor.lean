import G3D.Extracted.Mflat
import G3D.Proofs.MethodsTieBase
/-! # Tie, group `mflat`, role CONSTRUCTION (C09; the error branches serve C15): `Line.__init__`, `Plane._init_pn`, `Plane.__neg__`, `Segment.__init__`, `HalfLine.__init__` = `Line.mk?` / `ofPoints?`, `Plane.ofPN`, `Plane.neg`, `Seg.mk?` / `ofVec?`, `HalfLine.mk?` / `ofVec?`.
    Conventions, trusted readings and the deviations found: `G3D.Proofs.MethodsTie`, header of `G3D.Model.PyRtM`. -/
set_option linter.style.nameCheck false
namespace G3D.Tie
open V3 PyRt Extracted

theorem new_Line_pp (a b : V3) :
    new_Line (.obj (ptObj a)) (.obj (ptObj b)) = ofCtor lnObj (Line.ofPoints? a b) := by
  unfold new_Line m_Line___init__
  simp [pyrt, Line.ofPoints?, Line.mk?]
  by_cases h : sub b a = zero <;> simp [pyrt, h]

theorem new_Line_pv (a d : V3) :
    new_Line (.obj (ptObj a)) (.vec d) = ofCtor lnObj (Line.mk? a d) := by
  unfold new_Line m_Line___init__
  simp [pyrt, Line.mk?]
  by_cases h : d = zero <;> simp [pyrt, h]

theorem new_Line_vv (a d : V3) :
    new_Line (.vec a) (.vec d) = ofCtor lnObj (Line.mk? a d) := by
  unfold new_Line m_Line___init__
  simp [pyrt, Line.mk?]
  by_cases h : d = zero <;> simp [pyrt, h]

theorem m_Plane__init_pn_eq (p n : V3) :
    (do let r ← m_Plane__init_pn Self.empty (.obj (ptObj p)) (.vec n); pyPack_Plane r.1) = ofCtor plObj (Plane.ofPN p n) := by
  unfold m_Plane__init_pn
  simp [pyrt, Plane.ofPN]
  by_cases h : n = zero <;> simp [pyrt, h]

theorem m_Plane___neg___raw (a : Plane) :
    m_Plane___neg__ (Self.ofPlane a) = if a.n = zero then .error (.ctor .zeroDiv) else .ok (.obj (plObj a.neg)) := by
  unfold m_Plane___neg__
  simp [pyrt, Plane.ofPN, Plane.neg, neg_eq_zero_iff]

theorem new_Segment_pp (a b : V3) :
    new_Segment (.obj (ptObj a)) (.obj (ptObj b)) = ofCtor sgObj (Seg.mk? a b) := by
  unfold new_Segment m_Segment___init__
  simp [pyrt, Seg.mk?, Seg.mk', Line.ofPoints?, Line.mk?]
  by_cases h : a = b
  · simp [h]
  · have h' : ¬ sub b a = zero := fun e => h (sub_eq_zero_iff.mp e).symm
    simp [pyrt, h, h']

theorem new_Segment_pv (a v : V3) :
    new_Segment (.obj (ptObj a)) (.vec v) = ofCtor sgObj (Seg.ofVec? a v) := by
  unfold new_Segment m_Segment___init__
  simp [pyrt, Seg.ofVec?, Seg.mk', Line.mk?, normSq_le_zero_iff, normSq_eq_zero, sub_add_cancel_left']
  by_cases h : v = zero <;> simp [pyrt, h]

theorem new_HalfLine_pp (a b : V3) :
    new_HalfLine (.obj (ptObj a)) (.obj (ptObj b)) = ofCtor (fun h => .flat (.halfline h)) (HalfLine.mk? a b) := by
  unfold new_HalfLine m_HalfLine___init__
  simp [pyrt, HalfLine.mk?, HalfLine.mk', Line.ofPoints?, Line.mk?]
  by_cases h : a = b
  · simp [h]
  · have h' : ¬ sub b a = zero := fun e => h (sub_eq_zero_iff.mp e).symm
    simp [pyrt, h, h']

theorem new_HalfLine_pv (a v : V3) :
    new_HalfLine (.obj (ptObj a)) (.vec v) = ofCtor (fun h => .flat (.halfline h)) (HalfLine.ofVec? a v) := by
  unfold new_HalfLine m_HalfLine___init__
  simp [pyrt, HalfLine.ofVec?, HalfLine.mk', Line.mk?, normSq_le_zero_iff, normSq_eq_zero]
  by_cases h : v = zero <;> simp [pyrt, h]

theorem m_Plane___neg___eq (a : Plane) (h : a.WF) : m_Plane___neg__ (Self.ofPlane a) = .ok (.obj (plObj a.neg)) := by
  rw [m_Plane___neg___raw, if_neg h]

end G3D.Tie
