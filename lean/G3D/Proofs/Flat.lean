import G3D.Model.Flat
import G3D.Proofs.Vec
import Mathlib.Tactic.Ring
import Mathlib.Tactic.Linarith
import Mathlib.Tactic.LinearCombination
import Mathlib.Tactic.FieldSimp
import Mathlib.Tactic.Positivity
import Mathlib.Algebra.Order.Field.Rat

namespace G3D
open V3

/-! ### denotations -/
def Line.den (l : Line) (x : V3) : Prop := ∃ t : Rat, x = add l.sv (smul t l.dv)
def Plane.den (pl : Plane) (x : V3) : Prop := dot pl.n (sub x pl.p) = 0
def Seg.den (s : Seg) (x : V3) : Prop := ∃ t : Rat, 0 ≤ t ∧ t ≤ 1 ∧ x = add s.a (smul t (sub s.b s.a))
def HalfLine.den (h : HalfLine) (x : V3) : Prop := ∃ t : Rat, 0 ≤ t ∧ x = add h.p (smul t h.v)

theorem Plane.contains_iff (pl : Plane) (x : V3) : pl.contains x = true ↔ pl.den x := by
  have e : dot x pl.n - dot pl.p pl.n = dot pl.n (sub x pl.p) := by simp only [dot, sub]; ring
  rw [Plane.contains, Plane.den, beq_iff_eq, e]

theorem dot_param {p v x : V3} {t : Rat} (h : x = add p (smul t v)) : dot (sub x p) v = t * normSq v := by
  rw [h]; simp only [dot, sub, add, smul, normSq]; ring

theorem Seg.contains_iff (s : Seg) (hw : s.WF) (x : V3) : s.contains x = true ↔ s.den x := by
  obtain ⟨hab, hline⟩ := hw
  have hd : sub s.b s.a ≠ zero := fun h => hab (sub_eq_zero_iff.mp h).symm
  have hN := normSq_pos hd
  unfold Seg.contains Seg.den
  simp only
  by_cases h0 : normSq (sub x s.a) = 0
  · have hx : x = s.a := sub_eq_zero_iff.mp (normSq_eq_zero.mp h0)
    simp only [h0, beq_self_eq_true, if_true, true_iff]
    exact ⟨0, le_refl _, zero_le_one, by rw [hx]; apply V3.ext' <;> simp only [add, smul] <;> ring⟩
  · have hb : (normSq (sub x s.a) == 0) = false := by simpa using h0
    simp only [hb, Bool.false_eq_true, if_false, Bool.and_eq_true, decide_eq_true_eq]
    rw [hline, Line.contains_iff ⟨s.a, sub s.b s.a⟩ hd x]
    have hrel : ∀ t, x = add s.a (smul t (sub s.b s.a)) →
        dot (sub x s.a) (sub s.b s.a) / normSq (sub s.b s.a) = t :=
      fun t ht => by rw [dot_param ht, mul_div_cancel_right₀ _ (ne_of_gt hN)]
    constructor
    · rintro ⟨⟨⟨t, ht⟩, h1⟩, h2⟩
      rw [hrel t ht] at h1 h2
      exact ⟨t, h1, h2, ht⟩
    · rintro ⟨t, h1, h2, ht⟩
      rw [hrel t ht]
      exact ⟨⟨⟨t, ht⟩, h1⟩, h2⟩

theorem HalfLine.contains_iff (h : HalfLine) (hw : h.WF) (x : V3) : h.contains x = true ↔ h.den x := by
  obtain ⟨hv, hline⟩ := hw
  have hN := normSq_pos hv
  unfold HalfLine.contains HalfLine.den
  rw [hline]
  by_cases hc : (⟨h.p, h.v⟩ : Line).contains x = true
  · simp only [hc, if_true, decide_eq_true_eq]
    obtain ⟨t, ht⟩ := (Line.contains_iff ⟨h.p, h.v⟩ hv x).mp hc
    rw [dot_param ht]
    constructor
    · intro h0
      exact ⟨t, le_of_mul_le_mul_right (by rwa [zero_mul]) hN, ht⟩
    · rintro ⟨t', ht', hx'⟩
      have := (dot_param ht).symm.trans (dot_param hx')
      rw [mul_right_cancel₀ (ne_of_gt hN) this]
      exact mul_nonneg ht' (le_of_lt hN)
  · simp only [hc, Bool.false_eq_true, if_false, false_iff]
    rintro ⟨t, _, ht⟩
    exact hc ((Line.contains_iff ⟨h.p, h.v⟩ hv x).mpr ⟨t, ht⟩)

#print axioms Seg.contains_iff
#print axioms HalfLine.contains_iff
end G3D
