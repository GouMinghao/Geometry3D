import G3D.Extracted.Mpolygon
import G3D.Proofs.MethodsTiePolygonShared
/-! # Tie, group `mpolygon`, role EQUALITY (C08): `__eq__` = `Polygon.same` (the body compares vertex lists and planes; translated loop by loop).  Conventions, trusted readings and the deviations found: `G3D.Proofs.MethodsTie`, header of `G3D.Model.PyRtM`. -/
set_option linter.style.nameCheck false
namespace G3D.Tie
open V3 PyRt Extracted

/-- `ConvexPolygon.__eq__` (the vertex lists contain each other and the carrier planes are equal) IS the model's
    `Polygon.same`; no idealisation of hashes is involved any more (repair D12: `==` used to compare hashes) -/
theorem m_ConvexPolygon___eq___eq (P Q : Polygon) :
    m_ConvexPolygon___eq__ (Self.ofPolygon P) (.obj (.polygon Q)) = .ok (.bool (P.same Q)) := by
  unfold m_ConvexPolygon___eq__
  simp [pyrt, Self.ofPolygon, Val.ptSeq, List.forIn_map, pyInM_pt_seq, forIn_return, Polygon.same, -List.all_eq_true]
  cases P.pts.all (fun x => decide (x ∈ Q.pts)) <;> cases Q.pts.all (fun x => decide (x ∈ P.pts)) <;> rfl

theorem m_ConvexPolygon___eq___other (P : Polygon) (l : Line) :
    m_ConvexPolygon___eq__ (Self.ofPolygon P) (.obj (lnObj l)) = .ok (.bool false) := rfl

end G3D.Tie
