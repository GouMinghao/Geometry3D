import G3D.Proofs.Xf2
import G3D.Proofs.MeasPolygon
import G3D.Proofs.SameSet
import Mathlib.Tactic.Ring
import Mathlib.Tactic.Linarith
import Mathlib.Tactic.LinearCombination
import Mathlib.Tactic.Positivity

/-! # C13, constructors: `ConvexPolygon(points, reverse)` commutes with every `T : Xf` (signed axis permutation `σ`,
    scaling `k > 0`, translation)

    `XC.mk?_xf` — UNCONDITIONALLY (no convexity hypothesis, every input list, both values of `reverse`):

      `Polygon.mk? (T.pts i) rev = (Polygon.mk? i rev).map (XC.img T)`

    i.e. the constructor raises the same exception on the transformed input, and on success it stores exactly the image
    `XC.img T P` of what it stores for the original input: the SAME vertex order (`T.pts P.pts`, no rotation of the
    cycle), plane point `T.pt P.plane.p`, centre `T.pt P.center`, and normal `det σ · k² · σ n`
    (`= k² · T.pnrm n`, a positive multiple of the pseudo-vector image of the normal).
    The reason: in the constructor's frame the two components of the sort key are multiplied by `k²` and `k⁴`, which
    changes neither the angle class nor the sign of any cross product of two keys.

    Consequences (`XC.img_*`, `XC.mk?_xf_ok`): validity, vertex set, centre, `==` with `T.polygon P`, membership
    (Bool level and hull level), squared area `× k⁴`, squared edge lengths `× k²`; `StrictConvexPos` is preserved
    (`XC.strictConvexPos_pts_iff`). -/
namespace G3D
open V3
open XfAux

/-! ### the image of a stored polygon -/
/-- the normal the constructor computes from transformed points: `det σ · k² · σ n` -/
def XC.cnrm (T : Xf) (n : V3) : V3 := smul (T.s.det * T.k^2) (T.s.apply n)

/-- what the constructor stores for the transformed input -/
def XC.img (T : Xf) (P : Polygon) : Polygon :=
  ⟨T.pts P.pts, ⟨T.pt P.plane.p, XC.cnrm T P.plane.n⟩, T.pt P.center⟩

theorem XC.cnrm_eq (T : Xf) (n : V3) : XC.cnrm T n = smul (T.k^2) (T.pnrm n) := by
  simp only [XC.cnrm, Xf.pnrm, Xf.nrm, smul_smul']
  congr 1; ring

theorem XC.cross_dir (T : Xf) (u v : V3) : cross (T.dir u) (T.dir v) = XC.cnrm T (cross u v) := T.cross_dir u v

theorem XC.cnrm_neg (T : Xf) (n : V3) : XC.cnrm T (neg n) = neg (XC.cnrm T n) := by
  simp only [XC.cnrm, SP.apply_neg]
  apply V3.ext' <;> simp only [smul, neg] <;> ring

theorem XC.cnrm_eq_zero (T : Xf) (hk : 0 < T.k) (n : V3) : XC.cnrm T n = zero ↔ n = zero :=
  ⟨fun h => (T.s.apply_eq_zero n).mp (smul_eq_zero_of_ne (mul_ne_zero T.s.det_ne_zero (pow_pos hk 2).ne') h),
   fun h => by rw [h, XC.cnrm, SP.apply_zero, smul_zero']⟩

theorem XC.inPlane_cnrm (T : Xf) (hk : 0 < T.k) (n p x : V3) :
    inPlane (XC.cnrm T n) (T.pt p) (T.pt x) = inPlane n p x := by
  rw [XC.cnrm_eq, inPlane_smul (pow_pos hk 2).ne', T.inPlane_pnrm hk]

theorem XC.plane_contains (T : Xf) (hk : 0 < T.k) (p0 n x : V3) :
    (⟨T.pt p0, XC.cnrm T n⟩ : Plane).contains (T.pt x) = (⟨p0, n⟩ : Plane).contains x := by
  rw [Plane.contains_eq_inPlane, Plane.contains_eq_inPlane]
  exact XC.inPlane_cnrm T hk n p0 x

/-! ### the sort key: components multiplied by `k²` and `k⁴` -/
/-- componentwise positive rescaling of an angle key -/
def XC.sc (a b : Rat) (k : Rat × Rat) : Rat × Rat := (a * k.1, b * k.2)

theorem XC.angCls_scale {a b : Rat} (ha : 0 < a) (hb : 0 < b) (y z : Rat) : angCls (a * y) (b * z) = angCls y z := by
  unfold angCls
  simp only [mul_eq_zero_iff_left hb.ne', mul_nonneg_iff_of_pos_left ha, mul_pos_iff_of_pos_left hb]

theorem XC.kcross_scale (a b : Rat) (k1 k2 : Rat × Rat) :
    (XC.sc a b k1).1 * (XC.sc a b k2).2 - (XC.sc a b k1).2 * (XC.sc a b k2).1 =
      (a * b) * (k1.1 * k2.2 - k1.2 * k2.1) := by
  simp only [XC.sc]; ring

theorem XC.angLt_scale {a b : Rat} (ha : 0 < a) (hb : 0 < b) (k1 k2 : Rat × Rat) :
    angLt (XC.sc a b k1) (XC.sc a b k2) = angLt k1 k2 := by
  unfold angLt
  simp only [XC.kcross_scale]
  simp only [XC.sc, XC.angCls_scale ha hb, decide_pos_mul (mul_pos ha hb)]

theorem XC.angEq_scale {a b : Rat} (ha : 0 < a) (hb : 0 < b) (k1 k2 : Rat × Rat) :
    angEq (XC.sc a b k1) (XC.sc a b k2) = angEq k1 k2 := by
  unfold angEq
  simp only [XC.kcross_scale]
  simp only [XC.sc, XC.angCls_scale ha hb, beq_mul_zero (ne_of_gt (mul_pos ha hb))]

/-- the key of the image point in the image frame -/
theorem XC.key_img (T : Xf) (pv v0 n : V3) :
    (dot (T.dir pv) (T.dir v0), dot (T.dir pv) (cross (XC.cnrm T n) (T.dir v0))) =
      XC.sc (T.k^2) (T.k^4) (dot pv v0, dot pv (cross n v0)) := by
  simp only [XC.sc]
  congr 1
  · exact T.dot_dir pv v0
  · simp only [XC.cnrm, Xf.dir, cross_smul_smul, SP.cross_apply, smul_smul', dot_smul_left, dot_smul_right,
      SP.dot_apply]
    linear_combination (T.k^4 * dot pv (cross n v0)) * SP.det_mul_self T.s

/-! ### the constructor -/
/-- **C13, `ConvexPolygon(points, reverse)` commutes with `T`** — unconditionally: same exceptions, and on success
    the stored record is the image record (same vertex ORDER, image plane point and centre, normal `det σ·k²·σ n`):
    differences are mapped by `T.dir`, normals by `XC.cnrm T`, and the two components of the sort key are multiplied by
    `k²` and `k⁴`, which changes neither the angle class nor the sign of a cross product of two keys. -/
theorem XC.mk?_xf (T : Xf) (hk : 0 < T.k) (i : List V3) (rev : Bool) :
    Polygon.mk? (T.pts i) rev = (Polygon.mk? i rev).map (XC.img T) :=
  Polygon.mk?_map (κ := XC.sc (T.k^2) (T.k^4)) (fun _ => rfl) T.pt_sub (T.dir_eq_zero hk)
    T.meanV_pts (XC.cross_dir T) (XC.cnrm_neg T) (XC.cnrm_eq_zero T hk) (XC.plane_contains T hk)
    (XC.angLt_scale (by positivity) (by positivity)) (XC.angEq_scale (by positivity) (by positivity))
    (XC.key_img T) i rev
#print axioms XC.mk?_xf

/-- success on the original input gives success on the transformed input, with the image record -/
theorem XC.mk?_xf_ok (T : Xf) (hk : 0 < T.k) (i : List V3) (rev : Bool) (P : Polygon)
    (h : Polygon.mk? i rev = .ok P) : Polygon.mk? (T.pts i) rev = .ok (XC.img T P) := by
  rw [XC.mk?_xf T hk, h]; rfl

/-- the same exception is raised -/
theorem XC.mk?_xf_error (T : Xf) (hk : 0 < T.k) (i : List V3) (rev : Bool) (e : CErr) :
    Polygon.mk? (T.pts i) rev = .error e ↔ Polygon.mk? i rev = .error e := by
  rw [XC.mk?_xf T hk]
  cases Polygon.mk? i rev <;> simp [Except.map]

/-- success is equivalent -/
theorem XC.mk?_xf_isOk (T : Xf) (hk : 0 < T.k) (i : List V3) (rev : Bool) :
    (∃ P', Polygon.mk? (T.pts i) rev = .ok P') ↔ (∃ P, Polygon.mk? i rev = .ok P) := by
  rw [XC.mk?_xf T hk]
  cases Polygon.mk? i rev <;> simp [Except.map]

/-! ### strictly convex position is preserved (`d ↦ σ d`) -/
theorem XC.dot_nrm_pt (T : Xf) (d q : V3) : dot (T.nrm d) (T.pt q) = T.k * dot d q + dot (T.nrm d) T.t := by
  have h := SP.dot_apply T.s d q
  simp only [Xf.nrm, Xf.pt]
  simp only [dot, add, smul] at h ⊢
  linear_combination T.k * h

theorem XC.strictConvexPos_pts_iff (T : Xf) (hk : 0 < T.k) (l : List V3) :
    StrictConvexPos (T.pts l) ↔ StrictConvexPos l := by
  -- a supporting direction `d` at `p` corresponds to the supporting direction `σ d` at `T.pt p`
  have key : ∀ d p q, dot (T.nrm d) (T.pt q) < dot (T.nrm d) (T.pt p) ↔ dot d q < dot d p := fun d p q => by
    rw [XC.dot_nrm_pt, XC.dot_nrm_pt, add_lt_add_iff_right, mul_lt_mul_iff_right₀ hk]
  constructor
  · intro h p hp
    obtain ⟨d', hd'⟩ := h (T.pt p) (List.mem_map.mpr ⟨p, hp, rfl⟩)
    obtain ⟨d, rfl⟩ := SP.apply_surjective T.s d'
    exact ⟨d, fun q hq hne => (key d p q).mp
      (hd' (T.pt q) (List.mem_map.mpr ⟨q, hq, rfl⟩) (fun e => hne (T.pt_injective hk e)))⟩
  · intro h p' hp'
    obtain ⟨p, hp, rfl⟩ := List.mem_map.mp hp'
    obtain ⟨d, hd⟩ := h p hp
    refine ⟨T.nrm d, fun q' hq' hne => ?_⟩
    obtain ⟨q, hq, rfl⟩ := List.mem_map.mp hq'
    exact (key d p q).mpr (hd q hq (fun e => hne (by rw [e])))

theorem XC.strictConvexPos_dedupV_pts (T : Xf) (hk : 0 < T.k) (i : List V3) (h : StrictConvexPos (dedupV i)) :
    StrictConvexPos (dedupV (T.pts i)) := by
  rw [Xf.pts, dedupV_map (T.pt_inj hk)]; exact (XC.strictConvexPos_pts_iff T hk _).mpr h

/-! ### properties of the image record (its normal is `k²` times that of `T.polygon P`) -/
theorem XC.img_pts (T : Xf) (P : Polygon) : (XC.img T P).pts = T.pts P.pts := rfl
theorem XC.img_center (T : Xf) (P : Polygon) : (XC.img T P).center = T.pt P.center := rfl
theorem XC.img_plane_p (T : Xf) (P : Polygon) : (XC.img T P).plane.p = T.pt P.plane.p := rfl
/-- the stored normal is a POSITIVE multiple (`k²`) of the pseudo-vector image of the normal -/
theorem XC.img_plane_n (T : Xf) (P : Polygon) : (XC.img T P).plane.n = smul (T.k^2) (T.pnrm P.plane.n) :=
  XC.cnrm_eq T _

theorem XC.orient_cnrm (T : Xf) (n a b c : V3) :
    orient (XC.cnrm T n) (T.pt a) (T.pt b) (T.pt c) = T.k^4 * orient n a b c := by
  rw [XC.cnrm_eq, orient_smul, T.orient_pnrm]; ring

theorem XC.img_valid (T : Xf) (hk : 0 < T.k) (P : Polygon) (hv : P.Valid) : (XC.img T P).Valid :=
  hv.map T.pt _ (fun p hp => (XC.inPlane_cnrm T hk _ _ p).trans hp)
    (fun a b c h => by rw [XC.orient_cnrm]; positivity)

/-- C13 (membership, constructed polygon), Bool level, no validity needed -/
theorem XC.img_contains (T : Xf) (hk : 0 < T.k) (P : Polygon) (x : V3) :
    (XC.img T P).contains (T.pt x) = P.contains x :=
  P.contains_map T.pt _ x (XC.inPlane_cnrm T hk _ _ x)
    fun a b => by rw [XC.orient_cnrm]; exact decide_nonneg_mul (pow_pos hk 4) _

theorem Polygon.CentreInside.map {P : Polygon} (hc : P.CentreInside) (f : V3 → V3) {q n : V3}
    (hor : ∀ a b c, 0 ≤ orient P.plane.n a b c → 0 ≤ orient n (f a) (f b) (f c)) :
    (⟨P.pts.map f, ⟨q, n⟩, f P.center⟩ : Polygon).CentreInside := by
  intro e he
  obtain ⟨e0, he0, rfl⟩ := List.mem_map.mp (closedPairs_map f P.pts ▸ he)
  exact hor _ _ _ (hc e0 he0)

theorem XC.img_centreInside (T : Xf) (hk : 0 < T.k) (P : Polygon) (hc : P.CentreInside) :
    (XC.img T P).CentreInside :=
  hc.map T.pt fun a b c h => by rw [XC.orient_cnrm]; exact mul_nonneg (pow_pos hk 4).le h

theorem XC.center_inPlane (T : Xf) (hk : 0 < T.k) (P : Polygon)
    (hc : G3D.inPlane P.plane.n P.plane.p P.center = true) :
    G3D.inPlane (XC.img T P).plane.n (XC.img T P).plane.p (XC.img T P).center = true :=
  (XC.inPlane_cnrm T hk _ _ _).trans hc

/-- C13 (equality): the constructed polygon is `==` to the transformed polygon (same vertex set, same carrier plane) -/
theorem XC.img_same (T : Xf) (hk : 0 < T.k) (P : Polygon) (hv : P.Valid) : (XC.img T P).same (T.polygon P) = true :=
  (Polygon.same_iff_same_verts _ _ (XC.img_valid T hk P hv) (T.polygon_valid hk P hv)).mpr (fun _ => Iff.rfl)

/-- area numerator `× k⁴`, `n·n × k⁴`: the area (`areaNum / (2|n|)`) is multiplied by `k²` -/
theorem XC.img_areaNum (T : Xf) (hk : 0 < T.k) (P : Polygon) :
    (XC.img T P).areaNum = T.k^4 * P.areaNum ∧ normSq (XC.img T P).plane.n = T.k^4 * normSq P.plane.n := by
  constructor
  · unfold Polygon.areaNum
    simp only [XC.img, T.closedPairs_pts]
    refine sum_map_map_mul _ _ _ _ (fun e => ?_) _
    rw [triNum_eq_orient, triNum_eq_orient, XC.orient_cnrm, absQ_pos_mul (pow_pos hk 4).le]
  · show normSq (XC.cnrm T P.plane.n) = _
    rw [XC.cnrm_eq, normSq_smul, T.normSq_pnrm]; ring

/-- C13 (area, constructed polygon): squared area `× k⁴` -/
theorem XC.img_areaSq (T : Xf) (hk : 0 < T.k) (P : Polygon) : (XC.img T P).areaSq = T.k^4 * P.areaSq := by
  unfold Polygon.areaSq
  rw [(XC.img_areaNum T hk P).1, (XC.img_areaNum T hk P).2]
  have hk4 : T.k^4 ≠ 0 := (pow_pos hk 4).ne'
  rw [show (T.k^4 * P.areaNum)^2 = T.k^4 * (T.k^4 * P.areaNum^2) by ring,
    show 4 * (T.k^4 * normSq P.plane.n) = T.k^4 * (4 * normSq P.plane.n) by ring,
    mul_div_mul_left _ _ hk4, mul_div_assoc]

/-- C13 (length, constructed polygon): squared edge lengths `× k²`, in the same order -/
theorem XC.img_edgeLenSqs (T : Xf) (P : Polygon) : (XC.img T P).edgeLenSqs = P.edgeLenSqs.map (T.k^2 * ·) :=
  T.edgeLenSqs_pts P.pts

/-- **C13, ConvexPolygon constructor from ANY listing of the transformed point set** (other order, repetitions, other
    value of `reverse`; points in strictly convex position): the result `P'` is valid, has the transformed vertex set and centre, is `==` to the transformed polygon, membership is
    transported, area² × k⁴, squared edge lengths × k² as a multiset; and when its normal points the way of the
    pseudo-vector image its cycle is a rotation of the transformed cycle -/
theorem XC.polygon_ctor_xf_sameSet (T : Xf) (hk : 0 < T.k) (i i' : List V3) (rev rev' : Bool) (P P' : Polygon)
    (hx : StrictConvexPos (dedupV i)) (hset : ∀ p, p ∈ i' ↔ p ∈ T.pts i)
    (h : Polygon.mk? i rev = .ok P) (h' : Polygon.mk? i' rev' = .ok P') :
    P'.Valid ∧ (∀ p, p ∈ P'.pts ↔ p ∈ T.pts P.pts) ∧ P'.center = T.pt P.center ∧
      P'.same (T.polygon P) = true ∧
      (∀ x, InHull P'.pts (T.pt x) ↔ InHull P.pts x) ∧
      (∀ x, P'.contains (T.pt x) = P.contains x) ∧
      P'.areaSq = T.k^4 * P.areaSq ∧ List.Perm P'.edgeLenSqs (P.edgeLenSqs.map (T.k^2 * ·)) ∧
      ((∃ c : Rat, 0 < c ∧ P'.plane.n = smul c (T.pnrm P.plane.n)) →
        ∃ l1 l2, T.pts P.pts = l1 ++ l2 ∧ P'.pts = l2 ++ l1) := by
  obtain ⟨hv, _, _⟩ := Polygon.mk?_valid_of_strictConvex i rev P h hx
  have hQ := XC.mk?_xf_ok T hk i rev P h
  have hxT := XC.strictConvexPos_dedupV_pts T hk i hx
  have hx' : StrictConvexPos (dedupV i') :=
    hxT.perm (Meas.dedupV_perm_of_same_set i' (T.pts i) hset)
  obtain ⟨hv', _, _⟩ := Polygon.mk?_valid_of_strictConvex i' rev' P' h' hx'
  obtain ⟨ha, he, hc, hm⟩ := Polygon.mk?_measures_input_order i' (T.pts i) rev' rev P' (XC.img T P) hset hx' h' hQ
  have hvQ := XC.img_valid T hk P hv
  have hsame : P'.same (XC.img T P) = true := (Polygon.same_iff_same_verts _ _ hv' hvQ).mpr hm
  have hcont : ∀ y, P'.contains y = (XC.img T P).contains y :=
    (Polygon.same_iff_same_contains _ _ hv' hvQ).mp hsame
  refine ⟨hv', hm, hc, ?_, ?_, ?_, ?_, ?_, ?_⟩
  · exact (Polygon.same_iff_same_verts _ _ hv' (T.polygon_valid hk P hv)).mpr hm
  · intro x
    rw [← T.InHull_pts hk P.pts x]
    exact SameSet.hull_congr (fun p hp => (hm p).mp hp) (fun p hp => (hm p).mpr hp) (T.pt x)
  · intro x; rw [hcont, XC.img_contains T hk]
  · rw [ha, XC.img_areaSq T hk]
  · rw [← XC.img_edgeLenSqs]; exact he
  · rintro ⟨c, hc0, hn⟩
    obtain ⟨_, _, _, _, hpT, _, htpT⟩ := T.polygon_valid hk P hv
    obtain ⟨q0, q1, q2, qr, hq, _, htq⟩ := hv'
    rw [hn, triplesPos_smul_pos c hc0] at htq
    exact cycle_unique (T.pnrm P.plane.n) (T.pts P.pts) P'.pts (by rw [show T.pts P.pts = _ from hpT]; simp)
      (by rw [hq]; simp) htpT htq hm
#print axioms XC.polygon_ctor_xf_sameSet

end G3D
