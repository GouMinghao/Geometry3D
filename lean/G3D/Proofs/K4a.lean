import G3D.Proofs.K3
import G3D.Proofs.K2

/-! # ConvexPolygon × ConvexPolyhedron is EXACT

The handler cuts the body with the carrier plane of the polygon (kernel K3: exact, and a returned polygon is Valid) and
intersects the section — a Point, a proper Segment or a Valid polygon — with the polygon (K0/K1 for Point and Segment,
K2 for the coplanar polygon).  Composition of the three exactness theorems. -/
namespace G3D
open V3

/-- the plane handler returns None, a Point, a Segment or a polygon -/
theorem interPlanePolyhedron_shape (a : Plane) (B : Polyhedron) (o : Obj) (h : interPlanePolyhedron a B = .ok (some o)) :
    (∃ q, o = .flat (.point q)) ∨ (∃ s, o = .flat (.seg s)) ∨ (∃ Q, o = .polygon Q) := by
  unfold interPlanePolyhedron at h
  split at h
  · cases h; exact .inr (.inr ⟨_, rfl⟩)
  · split at h
    · cases h
    · cases h
    · simp only [pt?] at h; cases h; exact .inl ⟨_, rfl⟩
    · rename_i p q _
      by_cases hpq : p = q
      · simp [hpq, liftC, bind, Except.bind] at h
      · simp [hpq, liftC, bind, Except.bind, seg?] at h; cases h; exact .inr (.inl ⟨_, rfl⟩)
    · rename_i ps _ _ _ _
      cases hm : Polygon.mk? ps with
      | error e => simp [hm, liftC, bind, Except.bind] at h
      | ok P => simp [hm, liftC, bind, Except.bind, pure, Except.pure] at h; cases h; exact .inr (.inr ⟨_, rfl⟩)

theorem interPolygonPolyhedron_exact (B : Polyhedron) (hH : B.ExactHyp) (P : Polygon) (hv : P.Valid) :
    ExactW (interPolygonPolyhedron B P) (InHull P.pts) (InHull B.verts) := by
  have hpW := Polygon.plane_WF P hv
  have hsub : ∀ x, InHull P.pts x → P.plane.den x := Polygon.hull_in_plane P hv
  obtain ⟨o, ho, hw, hd⟩ := interPlanePolyhedron_exact_hull P.plane hpW B hH
  -- the result is the section intersected with the polygon
  have key : ∀ r : ResB, (∃ A : V3 → Prop, (∀ x, A x ↔ (P.plane.den x ∧ InHull B.verts x)) ∧ ExactW r A (InHull P.pts)) →
      ExactW r (InHull P.pts) (InHull B.verts) := by
    rintro r ⟨A, hA, o', ho', hw', hd'⟩
    refine ⟨o', ho', hw', fun x => ?_⟩
    rw [hd' x, hA x]
    exact ⟨fun ⟨⟨_, hb⟩, hp⟩ => ⟨hp, hb⟩, fun ⟨hp, hb⟩ => ⟨⟨hsub x hp, hb⟩, hp⟩⟩
  unfold interPolygonPolyhedron
  rw [ho]
  cases o with
  | none =>
    refine ⟨none, rfl, trivial, fun x => ?_⟩
    simp only [denOptB, false_iff]
    rintro ⟨hp, hb⟩
    exact (hd x).mpr ⟨hsub x hp, hb⟩
  | some ob =>
    apply key
    obtain ⟨q, rfl⟩ | ⟨s, rfl⟩ | ⟨Q, rfl⟩ := interPlanePolyhedron_shape _ _ _ ho
    · refine ⟨(· = q), fun x => ?_, ?_⟩
      · have := hd x; simp only [denOptB, ObjDen, Geo.den] at this; exact this
      · obtain ⟨o', h1, h2, h3⟩ := interPointPolygon_exact q P hv
        refine ⟨o', h1, ?_, h3⟩
        cases o' with
        | none => trivial
        | some ob =>
          cases ob with
          | flat g => cases g <;> trivial
          | polygon _ => trivial
          | polyhedron _ => trivial
    · refine ⟨s.den, fun x => ?_, interSegPolygon_exactW s hw P hv⟩
      have := hd x; simp only [denOptB, ObjDen, Geo.den] at this; exact this
    · have hQ := interPlanePolyhedron_polygon_valid P.plane hpW B hH Q ho
      refine ⟨InHull Q.pts, fun x => ?_, interPolygonPolygon_exact Q P hQ hv⟩
      have := hd x; simp only [denOptB, ObjDen] at this; exact this

end G3D
