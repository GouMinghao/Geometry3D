import Mathlib.Algebra.Order.Field.Rat
import Mathlib.Algebra.Order.Field.Power
import Mathlib.Tactic.Linarith
import Mathlib.Tactic.Ring
import Mathlib.Tactic.Positivity

/-! Model of Python's `round(x, k)` as round-half-even of `x·10^k` over `Rat`, and the stability lemma
    behind "hash equal under eps/1000 perturbations when every hashed quantity is at least 7% of a
    step away from a rounding boundary" (`Point.__hash__` / `Vector.__hash__` round to SIG digits). -/
namespace G3D.Round

/-- round-half-even of a rational to an integer -/
def rhe (t : Rat) : Int :=
  let f := t.floor
  let r := t - (f : Rat)
  if r < 1/2 then f
  else if 1/2 < r then f + 1
  else if f % 2 = 0 then f else f + 1

/-- `round(x, k)` in units of `10^(-k)`: round-half-even of `x·10^k` -/
def roundDec (k : Nat) (x : Rat) : Int := rhe (x * (10 : Rat)^k)

theorem lt_floor_add_one' (t : Rat) : t < (t.floor : Rat) + 1 := by
  have := Rat.lt_floor_add_one t
  push_cast at this
  exact this

theorem rhe_cases (t : Rat) :
    (rhe t = t.floor ∧ t - (t.floor : Rat) ≤ 1/2) ∨ (rhe t = t.floor + 1 ∧ 1/2 ≤ t - (t.floor : Rat)) := by
  unfold rhe
  simp only
  split_ifs with h1 h2 h3
  exacts [Or.inl ⟨rfl, h1.le⟩, Or.inr ⟨rfl, h2.le⟩, Or.inl ⟨rfl, not_lt.1 h2⟩, Or.inr ⟨rfl, not_lt.1 h1⟩]

/-- rounding error is at most half a unit -/
theorem rhe_err (t : Rat) : |(rhe t : Rat) - t| ≤ 1/2 := by
  have h1 := Rat.floor_le t
  have h2 := lt_floor_add_one' t
  rcases rhe_cases t with ⟨h, hr⟩ | ⟨h, hr⟩ <;> rw [h, abs_le] <;> push_cast <;> constructor <;> linarith

/-- any `u` strictly within half a unit of the integer `n` rounds to `n`: by `rhe_err` the two integers differ by
    less than 1 -/
theorem rhe_of_near (u : Rat) (n : Int) (h1 : (n : Rat) - 1/2 < u) (h2 : u < (n : Rat) + 1/2) :
    rhe u = n := by
  have h := abs_le.1 (rhe_err u)
  have a : ((rhe u : Int) : Rat) < ((n + 1 : Int) : Rat) := by push_cast; linarith
  have b : ((n - 1 : Int) : Rat) < ((rhe u : Int) : Rat) := by push_cast; linarith
  have := Int.cast_lt.1 a
  have := Int.cast_lt.1 b
  omega

/-- an integer rounds to itself -/
theorem rhe_int (n : Int) : rhe (n : Rat) = n :=
  rhe_of_near _ n (by linarith) (by linarith)

/-- core stability: if `t` is at distance ≥ m (in the fractional part) from the rounding boundary and
    `|u - t| < m`, both round to the same integer -/
theorem rhe_stable (t u m : Rat) (hm : m ≤ |t - (t.floor : Rat) - 1/2|) (hut : |u - t| < m) :
    rhe u = rhe t := by
  have h1 := Rat.floor_le t
  have h2 := lt_floor_add_one' t
  have hu := abs_lt.1 hut
  -- `t` is within `1/2 − m` of the integer it rounds to, so `u` is within `1/2` of it
  rcases rhe_cases t with ⟨h, hr⟩ | ⟨h, hr⟩ <;> rw [h]
  · rw [abs_of_nonpos (by linarith)] at hm
    exact rhe_of_near u _ (by linarith) (by linarith)
  · rw [abs_of_nonneg (by linarith)] at hm
    exact rhe_of_near u _ (by push_cast; linarith) (by push_cast; linarith)

/-- **round_stable**: a perturbation smaller than the margin to the rounding boundary does not change
    the rounded value -/
theorem round_stable (k : Nat) (x y m : Rat)
    (hm : m ≤ |x * (10:Rat)^k - ((x * (10:Rat)^k).floor : Rat) - 1/2|)
    (hxy : |y - x| * (10:Rat)^k < m) : roundDec k y = roundDec k x := by
  unfold roundDec
  apply rhe_stable _ _ m hm
  have hp : (0:Rat) < (10:Rat)^k := by positivity
  rwa [← sub_mul, abs_mul, abs_of_pos hp]

/-- the form used for hashing: `eps = 10^(-k)`, perturbation at most `eps/1000`, margin 7% of a step -/
theorem round_stable_eps1000 (k : Nat) (x y : Rat)
    (hm : 7/100 ≤ |x * (10:Rat)^k - ((x * (10:Rat)^k).floor : Rat) - 1/2|)
    (hxy : |y - x| ≤ (1 / (10:Rat)^k) / 1000) : roundDec k y = roundDec k x := by
  apply round_stable k x y (7/100) hm
  have hp : (0:Rat) < (10:Rat)^k := by positivity
  calc |y - x| * (10:Rat)^k ≤ (1 / (10:Rat)^k) / 1000 * (10:Rat)^k := mul_le_mul_of_nonneg_right hxy hp.le
    _ = 1/1000 := by rw [div_mul_eq_mul_div, one_div, inv_mul_cancel₀ hp.ne']
    _ < 7/100 := by norm_num

/-- **roundDec_exact**: a value that is a multiple of `10^(-k)` is not changed by rounding -/
theorem roundDec_exact (k : Nat) (x : Rat) (n : Int) (h : x * (10:Rat)^k = (n : Rat)) :
    roundDec k x = n := by
  unfold roundDec; rw [h]; exact rhe_int n

theorem roundDec_exact' (k : Nat) (x : Rat) (n : Int) (h : x * (10:Rat)^k = (n : Rat)) :
    ((roundDec k x : Int) : Rat) = x * (10:Rat)^k := by
  rw [roundDec_exact k x n h, h]

/-- `|round(x,k) - x| ≤ 10^(-k)/2` (in units of `10^(-k)`) -/
theorem roundDec_err (k : Nat) (x : Rat) : |(roundDec k x : Rat) - x * (10:Rat)^k| ≤ 1/2 :=
  rhe_err _

/-- the stability hypothesis cannot be weakened to margin 0: half-way cases do move.
    `round(0.5) = 0`, `round(0.5 + δ) = 1` for every small `δ > 0`. -/
theorem rhe_tie_unstable (d : Rat) (hd : 0 < d) (hd1 : d < 1/2) : rhe (1/2) = 0 ∧ rhe (1/2 + d) = 1 :=
  ⟨by decide +kernel, rhe_of_near _ 1 (by push_cast; linarith) (by push_cast; linarith)⟩

#print axioms round_stable
#print axioms round_stable_eps1000
#print axioms roundDec_exact
#print axioms roundDec_err
#print axioms rhe_tie_unstable
end G3D.Round
