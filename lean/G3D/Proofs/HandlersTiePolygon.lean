import G3D.Extracted.Hpolygon
import G3D.Proofs.HandlersTieShared
/-! # Tie, group `hpolygon` (property C02): flat × ConvexPolygon — extracted body (`G3D.Extracted.Hpolygon`,
    tools/extract_hpolygon.py) = hand model.  See `G3D.Proofs.HandlersTie` for the conventions. -/
set_option linter.unusedSimpArgs false
namespace G3D.Tie
open V3 PyRt Extracted

/-! ### `inter_line_convexpolygon` -/

def lineEdgeStep (l : Line) (s : Seg) (st : Option Obj × List V3) : PyM (ForInStep (Option Obj × List V3)) :=
  match interLineSeg l s with
  | .ok none => .ok (.yield (none, st.2))
  | .ok (some (.point q)) => .ok (.yield (none, addNew st.2 q))
  | .ok (some (.seg r)) => .ok (.done (some (.flat (.seg r)), st.2))
  | .ok _ => .error .bug
  | .error _ => .error .bug

theorem lineEdgesLoop_eq (l : Line) (ss : List Seg) (acc : List V3) :
    lineEdgesLoop l ss acc =
      (do let st ← forIn ss ((none : Option Obj), acc) (lineEdgeStep l)
          match st.1 with
          | some o => .ok (some o)
          | none => ofPoints st.2) := by
  induction ss generalizing acc with
  | nil => simp [lineEdgesLoop]
  | cons s ss ih =>
    simp only [List.forIn_cons, lineEdgesLoop, lineEdgeStep]
    split <;> simp only [*, ih, pyrt]
    rfl

theorem h_inter_line_convexpolygon_eq (l : Line) (P : Polygon) :
    h_inter_line_convexpolygon (.obj (.flat (.line l))) (.obj (.polygon P)) =
      Val.ofRes (interLinePolygon l P) := by
  unfold h_inter_line_convexpolygon interLinePolygon
  simp only [pyrt]
  rcases hlp : interLinePlane l P.plane with e | _ | g
  · exact absurd hlp (interLinePlane_ne_error _ _ e)
  · rfl
  cases g with
  | line L =>
    simp only [pyrt, decide_true, if_true, pyMeth_segments]
    rcases liftC P.segments? with e | ss
    · rfl
    simp only [pyrt, List.map_map]
    rw [show ((none : Option Val), Val.set []) = reprRP (none, []) from rfl,
      forIn_repr (Val.obj ∘ sgObj) reprRP ss _ (lineEdgeStep l), lineEdgesLoop_eq]
    · rcases forIn ss ((none : Option Obj), ([] : List V3)) (lineEdgeStep l) with e | ⟨_ | o, acc⟩
      · rfl
      · simp only [pyrt, reprRP, Option.map_none, Val.ptSet]
        exact (pointTail_eq _ _).trans (ofPoints_cases _).symm
      · rfl
    · intro s _ st
      simp only [Function.comp, sgObj, pyrt, lineEdgeStep, reprRP]
      rcases hls : interLineSeg l s with e | _ | g
      · cases interLineSeg_onlyBug l s e hls; rfl
      · rfl
      · cases g with
        | point q => simp only [pyrt, Val.ptSet]; rfl
        | _ => rfl
  | _ => rfl

/-! ### `inter_plane_convexpolygon` -/
theorem h_inter_plane_convexpolygon_eq (a : Plane) (P : Polygon) :
    h_inter_plane_convexpolygon (.obj (.flat (.plane a))) (.obj (.polygon P)) =
      Val.ofRes (interPlanePolygon a P) := by
  unfold h_inter_plane_convexpolygon interPlanePolygon
  simp only [pyrt]
  rcases hpp : interPlanePlane a P.plane with e | _ | g
  · cases interPlanePlane_onlyBug _ _ e hpp; rfl
  · rfl
  · cases g <;> rfl

/-! ### `inter_segment_convexpolygon`, `inter_convexpolygon_halfline` -/
theorem h_inter_segment_convexpolygon_eq (s : Seg) (P : Polygon) :
    h_inter_segment_convexpolygon (.obj (.flat (.seg s))) (.obj (.polygon P)) =
      Val.ofRes (interSegPolygon s P) := by
  unfold h_inter_segment_convexpolygon interSegPolygon interCarrierPolygon
  simp only [pyrt]
  rcases hlp : interLinePlane s.line P.plane with e | _ | g
  · exact absurd hlp (interLinePlane_ne_error _ _ e)
  · rfl
  cases g with
  | point q => cases hs : s.contains q <;> cases hP : P.contains q <;> simp only [pyrt, hs, hP] <;> rfl
  | line L =>
    simp only [pyrt, decide_true, if_true, reduceCtorEq, decide_false, Bool.false_eq_true, if_false]
    rcases interLinePolygon s.line P with e | _ | ⟨g | Q | B'⟩
    · rfl
    · rfl
    · cases g <;> rfl
    · rfl
    · rfl
  | _ => rfl

theorem h_inter_convexpolygon_halfline_eq (P : Polygon) (h : HalfLine) :
    h_inter_convexpolygon_halfline (.obj (.polygon P)) (.obj (.flat (.halfline h))) =
      Val.ofRes (interPolygonHalfLine P h) := by
  unfold h_inter_convexpolygon_halfline interPolygonHalfLine interCarrierPolygon
  simp only [pyrt]
  rcases hlp : interLinePlane h.line P.plane with e | _ | g
  · exact absurd hlp (interLinePlane_ne_error _ _ e)
  · rfl
  cases g with
  | point q => cases hh : h.contains q <;> cases hP : P.contains q <;> simp only [pyrt, hh, hP] <;> rfl
  | line L =>
    simp only [pyrt, decide_true, if_true, reduceCtorEq, decide_false, Bool.false_eq_true, if_false]
    rcases interLinePolygon h.line P with e | _ | ⟨g | Q | B'⟩
    · rfl
    · rfl
    · cases g <;> rfl
    · rfl
    · rfl
  | _ => rfl

/-! ### `inter_point_convexpolygon` -/
theorem h_inter_point_convexpolygon_eq (p : V3) (P : Polygon) :
    h_inter_point_convexpolygon (.obj (.flat (.point p))) (.obj (.polygon P)) = Val.ofRes (interPointPolygon p P) := by
  unfold h_inter_point_convexpolygon interPointPolygon
  simp only [pyrt]
  cases P.contains p <;> rfl

/-! ## axiom audit -/
#print axioms h_inter_line_convexpolygon_eq
#print axioms h_inter_plane_convexpolygon_eq
#print axioms h_inter_segment_convexpolygon_eq
#print axioms h_inter_convexpolygon_halfline_eq
#print axioms h_inter_point_convexpolygon_eq

end G3D.Tie
