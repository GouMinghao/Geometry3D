import G3D.Proofs.CtorLists

/-! C09, polyhedron constructor: the result does not depend on the orientation of the input polygons nor on their
    order.

    `B0` is a `Polyhedron.Valid` body (faces outward).  The input is obtained from `B0.faces` by reordering and by
    replacing each face `f` by ANY valid polygon `g` on the same vertex set (`Reoriented f g`; this covers a rotated
    cycle, the polygon `-f`, and any rotation of it).  Then `ConvexPolyhedron(input)` succeeds (Euler's formula being
    assumed for `B0` in the constructor's own counting), every stored face is the outward copy of the corresponding
    face of `B0` (`OutwardCopy`: same supporting plane and outward direction, vertex cycle a rotation), the vertex list
    is a permutation of that of `B0`, the edge list represents exactly the undirected edges of `B0`, and the
    result is `Polyhedron.Valid`. -/
namespace G3D
open V3

theorem Forall₂.exists_right {α β : Type} {R : α → β → Prop} {l1 : List α} {l2 : List β}
    (h : List.Forall₂ R l1 l2) : ∀ a ∈ l1, ∃ b ∈ l2, R a b := by
  intro a ha
  obtain ⟨i, hi, rfl⟩ := List.getElem_of_mem ha
  have hi' : i < l2.length := h.length_eq ▸ hi
  exact ⟨l2[i], List.getElem_mem hi', h.get hi hi'⟩

theorem Forall₂.exists_left {α β : Type} {R : α → β → Prop} {l1 : List α} {l2 : List β}
    (h : List.Forall₂ R l1 l2) : ∀ b ∈ l2, ∃ a ∈ l1, R a b :=
  Forall₂.exists_right (R := fun b a => R a b) (List.Forall₂.flip h)

theorem Forall₂.imp_mem {α β : Type} {R S : α → β → Prop} {l1 : List α} {l2 : List β}
    (h : List.Forall₂ R l1 l2) (himp : ∀ a ∈ l1, ∀ b ∈ l2, R a b → S a b) : List.Forall₂ S l1 l2 :=
  List.forall₂_iff_zip.mpr ⟨h.length_eq, fun hz =>
    himp _ (List.of_mem_zip hz).1 _ (List.of_mem_zip hz).2 (List.forall₂_zip h hz)⟩

theorem Forall₂.map_self {α β : Type} {R : α → β → Prop} (g : α → β) (l : List α)
    (h : ∀ a ∈ l, R a (g a)) : List.Forall₂ R l (l.map g) :=
  List.forall₂_map_right_iff.mpr (List.forall₂_same.mpr h)

/-! ### a convex cycle is determined by its vertex set up to rotation -/
/-- **uniqueness of the counter-clockwise cycle**: two positively oriented (about the same normal) vertex cycles on
    the same vertex set are rotations of each other -/
theorem cycle_unique (n : V3) (l l' : List V3) (hl : 3 ≤ l.length) (hl' : 3 ≤ l'.length)
    (h : triplesPos n l) (h' : triplesPos n l') (hmem : ∀ p, p ∈ l' ↔ p ∈ l) :
    ∃ l1 l2, l = l1 ++ l2 ∧ l' = l2 ++ l1 := by
  have hnd := (triplesPos_nodup_exposed n l hl h).1
  have hnd' := (triplesPos_nodup_exposed n l' hl' h').1
  cases l with
  | nil => simp at hl
  | cons a t =>
    have ha : a ∈ l' := (hmem a).mpr (by simp)
    obtain ⟨s, u, rfl⟩ := List.append_of_mem ha
    have hrot : triplesPos n (a :: (u ++ s)) := triplesPos_rotate n s (a :: u) h'
    have hperm : List.Perm (a :: (u ++ s)) (a :: t) :=
      (List.perm_append_comm (l₁ := a :: u)).trans ((List.perm_ext_iff_of_nodup hnd' hnd).mpr hmem)
    exact ⟨a :: u, s, congrArg _ (orient_order_unique n a hperm.cons_inv hrot.pairwise h.pairwise).symm, rfl⟩
#print axioms cycle_unique

/-! ### two valid polygons on the same vertices: the planes coincide -/
theorem Polygon.side_eq_neg_planeTest (f : Polygon) (hc : G3D.inPlane f.plane.n f.plane.p f.center = true) (x : V3) :
    dot (sub f.plane.p x) f.plane.n = - f.side x := by
  simp only [G3D.inPlane, beq_iff_eq] at hc
  simp only [Polygon.side, dot, sub] at hc ⊢
  linear_combination (-1 : Rat) * hc

/-- a valid polygon `g` whose plane contains the vertices of the valid polygon `f` has a parallel normal -/
theorem normal_parallel (f g : Polygon) (hf : f.Valid) (hg : g.Valid) (hsub : ∀ p ∈ f.pts, p ∈ g.pts) :
    ∃ k : Rat, k ≠ 0 ∧ g.plane.n = smul k f.plane.n := by
  obtain ⟨p0, p1, p2, rest, hp, hN⟩ := hf.good
  -- both normals lie on the axis of `(p1 - p0) × (p2 - p0)`
  obtain ⟨kf, hkf, hc⟩ := hf.recomputed_normal hp
  have h0 := hg.pts_inPlane p0 (hsub _ (by rw [hp]; simp))
  obtain ⟨kg, hkg⟩ := parallel_of_perp _ _ g.plane.n hN
    (inPlane_diff h0 (hg.pts_inPlane p1 (hsub _ (by rw [hp]; simp))))
    (inPlane_diff h0 (hg.pts_inPlane p2 (hsub _ (by rw [hp]; simp))))
  have hkgne : kg ≠ 0 := smul_ne_zero_left (by rw [← hkg]; exact Polygon.plane_WF g hg)
  refine ⟨kg * kf, mul_ne_zero hkgne (ne_of_gt hkf), ?_⟩
  rw [hkg, hc]
  apply V3.ext' <;> simp only [smul] <;> ring

/-- with parallel normals and a common vertex the two face functionals and the two `_check_normal` values are
    proportional -/
theorem side_proportional (f g : Polygon) (k : Rat) (hn : g.plane.n = smul k f.plane.n)
    (hcf : G3D.inPlane f.plane.n f.plane.p f.center = true)
    (hcg : G3D.inPlane g.plane.n g.plane.p g.center = true)
    (p0 : V3) (hf0 : G3D.inPlane f.plane.n f.plane.p p0 = true) (hg0 : G3D.inPlane g.plane.n g.plane.p p0 = true) :
    (∀ x, g.side x = k * f.side x) ∧
    (∀ x, dot (sub g.plane.p x) g.plane.n = k * dot (sub f.plane.p x) f.plane.n) := by
  have hF0 : f.side p0 = 0 := (f.side_zero_inPlane hcf p0).mpr hf0
  have hG0 : g.side p0 = 0 := (g.side_zero_inPlane hcg p0).mpr hg0
  have hside : ∀ x, g.side x = k * f.side x := by
    intro x
    have e1 : g.side x = g.side x - g.side p0 := by rw [hG0]; ring
    have e2 : f.side x = f.side x - f.side p0 := by rw [hF0]; ring
    rw [e1, e2]
    simp only [Polygon.side, hn, dot, sub, smul]; ring
  refine ⟨hside, ?_⟩
  intro x
  rw [g.side_eq_neg_planeTest hcg, f.side_eq_neg_planeTest hcf, hside]; ring

/-! ### the relations between an input polygon, the face of `B0` it came from, and the stored face -/
/-- `g` is a valid polygon on the vertex set of `f` (any orientation, any starting vertex), stored centre in its
    plane -/
structure Reoriented (f g : Polygon) : Prop where
  valid : g.Valid
  center : G3D.inPlane g.plane.n g.plane.p g.center = true
  same_verts : ∀ p, p ∈ g.pts ↔ p ∈ f.pts

/-- `h` is `f` up to the starting vertex of the cycle and positive rescaling of the normal: valid, same supporting
    plane and same outward direction, vertex cycle a rotation of that of `f` -/
structure OutwardCopy (f h : Polygon) : Prop where
  valid : h.Valid
  center : G3D.inPlane h.plane.n h.plane.p h.center = true
  samePlane : SamePlane f h
  rot : ∃ l1 l2, f.pts = l1 ++ l2 ∧ h.pts = l2 ++ l1

theorem OutwardCopy.closedPairs_perm {f h : Polygon} (hc : OutwardCopy f h) :
    List.Perm (closedPairs h.pts) (closedPairs f.pts) := by
  obtain ⟨l1, l2, e1, e2⟩ := hc.rot
  rw [e1, e2]; exact closedPairs_rotate l2 l1

theorem OutwardCopy.mem_iff {f h : Polygon} (hc : OutwardCopy f h) (p : V3) : p ∈ h.pts ↔ p ∈ f.pts := by
  obtain ⟨l1, l2, e1, e2⟩ := hc.rot
  rw [e1, e2]; simp [or_comm]

theorem Reoriented.of_rotation (f g : Polygon) (hg : g.Valid)
    (hcg : G3D.inPlane g.plane.n g.plane.p g.center = true)
    (hrot : ∃ l1 l2, f.pts = l1 ++ l2 ∧ g.pts = l2 ++ l1) : Reoriented f g := by
  obtain ⟨l1, l2, e1, e2⟩ := hrot
  exact ⟨hg, hcg, fun p => by rw [e1, e2]; simp [or_comm]⟩

theorem Polygon.Valid.mean_inPlane {Q : Polygon} (hv : Q.Valid) (l : List V3) (hl : l ≠ [])
    (hsub : ∀ p ∈ l, p ∈ Q.pts) (hc : Q.center = meanV l) :
    G3D.inPlane Q.plane.n Q.plane.p Q.center = true := by
  have := meanV_inplane Q.plane.n Q.plane.p l hl
    (fun p hp => by simpa [G3D.inPlane] using hv.pts_inPlane p (hsub p hp))
  rw [hc]; simpa [G3D.inPlane] using this

theorem Reoriented.of_neg (f g : Polygon) (hf : f.Valid) (h : f.neg? = .ok g) : Reoriented f g := by
  obtain ⟨Q, q0, rest, hp, hQ, hvQ, hQp, _, hQc, _⟩ := Polygon.neg?_of_valid f hf
  rw [h] at hQ; cases hQ
  exact ⟨hvQ, hvQ.mean_inPlane f.pts (by rw [hp]; simp) (fun p hpm => by rw [hQp]; rw [hp] at hpm; simpa using hpm) hQc,
    fun p => by rw [hQp, hp]; simp⟩

theorem Polygon.neg?_closedPairs {g Q : Polygon} (hg : g.Valid) (hQ : g.neg? = .ok Q) :
    List.Perm (closedPairs Q.pts) ((closedPairs g.pts).map Prod.swap) := by
  obtain ⟨Q', q0, rest, hgp, hQ', _, hQp, _⟩ := Polygon.neg?_of_valid g hg
  rw [hQ] at hQ'; cases hQ'
  rw [hQp, hgp]; exact closedPairs_cons_reverse q0 rest

theorem SamePlane.side_neg_iff {f h : Polygon} (hs : SamePlane f h) (x : V3) : h.side x < 0 ↔ f.side x < 0 := by
  obtain ⟨k, hk, _, hside⟩ := hs
  rw [hside, Rat.mul_neg_iff_of_pos_left hk]

theorem SamePlane.side_nonpos_iff {f h : Polygon} (hs : SamePlane f h) (x : V3) : h.side x ≤ 0 ↔ f.side x ≤ 0 := by
  obtain ⟨k, hk, _, hside⟩ := hs
  rw [hside, ← not_lt, ← not_lt, mul_pos_iff_of_pos_left hk]

/-- an outward copy passes the constructor's `_check_normal` strictly at every point strictly inside the half-space
    of `f` -/
theorem OutwardCopy.test_pos {f h : Polygon} (hoc : OutwardCopy f h) {c : V3} (hc : f.side c < 0) :
    0 < dot (sub h.plane.p c) h.plane.n := by
  rw [h.side_eq_neg_planeTest hoc.center]
  exact neg_pos.mpr ((hoc.samePlane.side_neg_iff c).mpr hc)

theorem outwardCopy_of_pos (f g : Polygon) (hf : f.Valid) (hcf : G3D.inPlane f.plane.n f.plane.p f.center = true)
    (hr : Reoriented f g) (k : Rat) (hk : 0 < k) (hn : g.plane.n = smul k f.plane.n) : OutwardCopy f g := by
  obtain ⟨p0, p1, p2, rest, hp, hpl, htp⟩ := hf
  obtain ⟨q0, q1, q2, qrest, hq, hplg, htpg⟩ := hr.valid
  have hm0 : p0 ∈ f.pts := by rw [hp]; simp
  obtain ⟨hside, _⟩ := side_proportional f g k hn hcf hr.center p0 (hpl _ hm0)
    (hplg _ ((hr.same_verts p0).mpr hm0))
  refine ⟨hr.valid, hr.center, ⟨k, hk, hn, hside⟩, ?_⟩
  apply cycle_unique f.plane.n f.pts g.pts (by rw [hp]; simp) (by rw [hq]; simp) htp _ hr.same_verts
  rw [hn] at htpg
  exact (triplesPos_smul_pos k hk _ _).mp htpg

theorem Reoriented.outward_or_neg {f g : Polygon} (hf : f.Valid)
    (hcf : G3D.inPlane f.plane.n f.plane.p f.center = true) (hr : Reoriented f g) :
    ∃ k : Rat, g.plane.n = smul k f.plane.n ∧
      (∀ x, dot (sub g.plane.p x) g.plane.n = k * dot (sub f.plane.p x) f.plane.n) ∧
      ((0 < k ∧ OutwardCopy f g) ∨ (k < 0 ∧ ∃ Q, g.neg? = .ok Q ∧ OutwardCopy f Q)) := by
  obtain ⟨k, hk0, hn⟩ := normal_parallel f g hf hr.valid (fun p hp => (hr.same_verts p).mpr hp)
  obtain ⟨p0, hm0⟩ : ∃ p0, p0 ∈ f.pts := by
    obtain ⟨p0, _, _, _, hp, _⟩ := hf; exact ⟨p0, by rw [hp]; simp⟩
  obtain ⟨_, htest⟩ := side_proportional f g k hn hcf hr.center p0 (hf.pts_inPlane _ hm0)
    (hr.valid.pts_inPlane _ ((hr.same_verts p0).mpr hm0))
  refine ⟨k, hn, htest, ?_⟩
  rcases lt_or_gt_of_ne hk0 with hneg | hpos
  · obtain ⟨Q, _, _, _, hQ, _, _, _, _, t, ht, hQn⟩ := Polygon.neg?_of_valid g hr.valid
    have h1 := Reoriented.of_neg g Q hr.valid hQ
    exact Or.inr ⟨hneg, Q, hQ, outwardCopy_of_pos f Q hf hcf
      ⟨h1.valid, h1.center, fun p => (h1.same_verts p).trans (hr.same_verts p)⟩ (-(t * k))
      (neg_pos.mpr (mul_neg_of_pos_of_neg ht hneg))
      (by rw [hQn, hn]; apply V3.ext' <;> simp only [smul, neg] <;> ring)⟩
  · exact Or.inl ⟨hpos, outwardCopy_of_pos f g hf hcf hr k hpos hn⟩

theorem Plane.not_contains_of_test_ne (pl : Plane) (c : V3) (h : dot (sub pl.p c) pl.n ≠ 0) :
    ¬ pl.contains c = true := by
  intro hc
  simp only [Plane.contains, beq_iff_eq] at hc
  apply h
  simp only [dot, sub] at hc ⊢
  linear_combination (-1 : Rat) * hc

/-- `flipOf c g` is `g` or `-g`; for a `Valid` polygon `-g` is the reversed cycle, so both have the same undirected
    edges -/
theorem flipOf_edges (c : V3) (g : Polygon) (hg : g.Valid) :
    (∀ e, e ∈ closedPairs (flipOf c g).pts → e ∈ closedPairs g.pts ∨ (e.2, e.1) ∈ closedPairs g.pts) ∧
    (∀ e, e ∈ closedPairs g.pts → e ∈ closedPairs (flipOf c g).pts ∨ (e.2, e.1) ∈ closedPairs (flipOf c g).pts) := by
  unfold flipOf
  split
  · split
    · rename_i Q hQ
      have hperm := Polygon.neg?_closedPairs hg hQ
      constructor
      · intro e he
        obtain ⟨e', he', rfl⟩ := List.mem_map.mp (hperm.mem_iff.mp he)
        exact Or.inr he'
      · intro e he
        exact Or.inr (hperm.mem_iff.mpr (List.mem_map.mpr ⟨e, he, rfl⟩))
    · exact ⟨fun e he => Or.inl he, fun e he => Or.inl he⟩
  · exact ⟨fun e he => Or.inl he, fun e he => Or.inl he⟩

/-- **the flip test is correct.**  Let `f` be a valid face, `c` strictly on its inner side, `g` any valid polygon on
    the vertex set of `f`.  Then the constructor loop succeeds on `g`; it flips `g` exactly when the normal of `g`
    is a negative multiple of the outward normal of `f`; the stored face is an outward copy of `f` that passes
    `_check_normal` strictly; and `g` has the undirected edges of `f`. -/
theorem orientFace_reoriented (f g : Polygon) (hf : f.Valid)
    (hcf : G3D.inPlane f.plane.n f.plane.p f.center = true) (hr : Reoriented f g) (c : V3) (hc : f.side c < 0) :
    orientFace c g = .ok (flipOf c g, (g, c)) ∧ OutwardCopy f (flipOf c g) ∧
    0 < dot (sub (flipOf c g).plane.p c) (flipOf c g).plane.n ∧
    ((flipOf c g = g ∧ ∃ k : Rat, 0 < k ∧ g.plane.n = smul k f.plane.n) ∨
     (g.neg? = .ok (flipOf c g) ∧ ∃ k : Rat, k < 0 ∧ g.plane.n = smul k f.plane.n)) ∧
    (∀ e, e ∈ closedPairs g.pts → e ∈ closedPairs f.pts ∨ (e.2, e.1) ∈ closedPairs f.pts) ∧
    (∀ e, e ∈ closedPairs f.pts → e ∈ closedPairs g.pts ∨ (e.2, e.1) ∈ closedPairs g.pts) := by
  -- whichever way `g` looks, the stored face is an outward copy of `f`
  suffices key : OutwardCopy f (flipOf c g) ∧ ¬ g.plane.contains c = true ∧
      (dot (sub g.plane.p c) g.plane.n < 0 → ∃ q, g.neg? = .ok q) ∧
      ((flipOf c g = g ∧ ∃ k : Rat, 0 < k ∧ g.plane.n = smul k f.plane.n) ∨
       (g.neg? = .ok (flipOf c g) ∧ ∃ k : Rat, k < 0 ∧ g.plane.n = smul k f.plane.n)) by
    obtain ⟨hoc, hnc, hneg, hcase⟩ := key
    have hperm := hoc.closedPairs_perm
    have hed := flipOf_edges c g hr.valid
    exact ⟨orientFace_intro c g hnc hneg, hoc, hoc.test_pos hc, hcase,
      fun e he => (hed.2 e he).imp hperm.mem_iff.mp hperm.mem_iff.mp, fun e he => hed.1 e (hperm.mem_iff.mpr he)⟩
  obtain ⟨k, hn, htest, hcase⟩ := hr.outward_or_neg hf hcf
  have htv : dot (sub g.plane.p c) g.plane.n = k * (- f.side c) := by
    rw [htest, f.side_eq_neg_planeTest hcf]
  rcases hcase with ⟨hpos, hoc⟩ | ⟨hneg, Q, hQ, hoc⟩
  · -- correctly oriented: kept
    have hgt : 0 < dot (sub g.plane.p c) g.plane.n := by
      rw [htv]; exact mul_pos hpos (by linarith)
    have hflip : flipOf c g = g := by unfold flipOf; rw [if_neg (not_lt.mpr hgt.le)]
    rw [hflip]
    exact ⟨hoc, Plane.not_contains_of_test_ne _ _ (ne_of_gt hgt), fun h => absurd h (not_lt.mpr hgt.le),
      Or.inl ⟨rfl, k, hpos, hn⟩⟩
  · -- wrongly oriented: flipped
    have hlt : dot (sub g.plane.p c) g.plane.n < 0 := by
      rw [htv]; exact mul_neg_of_neg_of_pos hneg (by linarith)
    have hflip : flipOf c g = Q := by unfold flipOf; rw [if_pos hlt, hQ]
    rw [hflip]
    exact ⟨hoc, Plane.not_contains_of_test_ne _ _ (ne_of_lt hlt), fun _ => ⟨Q, hQ⟩, Or.inr ⟨hQ, k, hneg, hn⟩⟩
#print axioms orientFace_reoriented

/-! ### the vertex mean of a valid body is strictly inside -/
theorem zipWith_side_sum (f : Polygon) (ws : List Rat) (ps : List V3) (h : ws.length = ps.length) :
    f.side (comb ws ps) = (List.zipWith (fun w p => w * f.side p) ws ps).sum + (1 - ws.sum) * f.side zero := by
  simp only [Polygon.side]
  rw [← affine_comb f.plane.n f.center ws ps h]
  simp only [dot, sub, add, smul, zero]; ring

theorem Polyhedron.Valid.collectVerts_ne_nil {B0 : Polyhedron} (hV : B0.Valid) : collectVerts B0.faces ≠ [] := by
  obtain ⟨f0, hf0⟩ := List.exists_mem_of_ne_nil _ hV.nonempty
  obtain ⟨p0, _, _, _, hp, _⟩ := hV.faces_valid f0 hf0
  exact List.ne_nil_of_mem ((mem_collectVerts _ p0).mpr ⟨f0, hf0, by rw [hp]; simp⟩)

/-- some face vertex lies strictly inside the half-space of any given face, hence so does the mean of the
    (duplicate-free) list of face vertices: the centre the constructor computes is an interior point -/
theorem Polyhedron.Valid.mean_interior {B0 : Polyhedron} (hV : B0.Valid) :
    ∀ f ∈ B0.faces, f.side (meanV (collectVerts B0.faces)) < 0 := by
  intro f hf
  -- the same body with the vertex list replaced by the list of face vertices is valid
  set B1 : Polyhedron := ⟨B0.faces, collectVerts B0.faces, B0.edges, B0.pyramids, B0.center⟩ with hB1
  have hsubV : ∀ v ∈ collectVerts B0.faces, v ∈ B0.verts := by
    intro v hv
    obtain ⟨g, hg, hvg⟩ := (mem_collectVerts _ v).mp hv
    exact hV.pts_sub g hg v hvg
  have hV1 : B1.Valid :=
    ⟨hV.nonempty, hV.faces_valid, hV.center_in_plane,
      fun g hg p hp => (mem_collectVerts _ p).mpr ⟨g, hg, hp⟩,
      fun g hg v hv => hV.verts_inside g hg v (hsubV v hv), hV.closed, hV.interior⟩
  obtain ⟨o, ho⟩ := hV.interior
  have hco : B1.contains o = true := (B1.contains_iff_side o).mpr (fun g hg => le_of_lt (ho g hg))
  obtain ⟨ws, hlen, hnn, hsum, hcomb⟩ := B1.contains_subset_hull hV1 o hco
  have hle : ∀ v ∈ collectVerts B0.faces, f.side v ≤ 0 := fun v hv => hV.verts_inside f hf v (hsubV v hv)
  have hex : ∃ v ∈ collectVerts B0.faces, f.side v < 0 := by
    by_contra hcon
    have h1 := zipWith_side_sum f ws (collectVerts B0.faces) hlen
    rw [show comb ws (collectVerts B0.faces) = o from hcomb, hsum] at h1
    have h2 := sum_zipWith_nonneg ws (collectVerts B0.faces) (fun p => f.side p) hnn
      (fun v hv => not_lt.mp fun hlt => hcon ⟨v, hv, hlt⟩)
    have := ho f hf
    linarith
  have hs : ∀ x, f.side x = dot f.plane.n x - dot f.plane.n f.center := by
    intro x; simp only [Polygon.side, dot, sub]; ring
  rw [hs]
  refine sub_neg.mpr (dot_meanV_lt _ _ _ (fun q hq => ?_) ?_)
  · have := hle q hq; rw [hs] at this; exact sub_nonpos.mp this
  · obtain ⟨v, hv, hvl⟩ := hex; exact ⟨v, hv, by rw [hs] at hvl; exact sub_neg.mp hvl⟩
#print axioms Polyhedron.Valid.mean_interior

theorem collectEdges_of_valid (fs : List Polygon) (h : ∀ f ∈ fs, f.Valid) :
    collectEdges fs [] = .ok (edgesOf fs []) :=
  (collectEdges_ok_iff fs [] _).mpr ⟨rfl, fun f hf => (h f hf).edge_ne⟩

theorem dirEdges_perm_of_forall₂ : ∀ (F H : List Polygon),
    List.Forall₂ (fun f h => List.Perm (closedPairs h.pts) (closedPairs f.pts)) F H →
    List.Perm (dirEdges (H.map (·.pts))) (dirEdges (F.map (·.pts))) := by
  intro F H h
  induction h with
  | nil => exact List.Perm.refl _
  | cons hab _ ih =>
    simp only [dirEdges, List.map_cons, List.flatMap_cons] at ih ⊢
    exact List.Perm.append hab ih

theorem dirEdges_perm_of_perm {F G : List Polygon} (h : List.Perm F G) :
    List.Perm (dirEdges (F.map (·.pts))) (dirEdges (G.map (·.pts))) :=
  (h.map _).flatMap_right _

theorem closedSurface_of_perm {fs gs : List (List V3)} (h : List.Perm (dirEdges gs) (dirEdges fs))
    (hc : ClosedSurface fs) : ClosedSurface gs :=
  (h.trans hc).trans (h.map Prod.swap).symm

theorem reoriented_corr {faces F input : List Polygon} (hperm : List.Perm F faces)
    (hrel : List.Forall₂ Reoriented F input) :
    (∀ g ∈ input, ∃ f ∈ faces, Reoriented f g) ∧ (∀ f ∈ faces, ∃ g ∈ input, Reoriented f g) :=
  ⟨fun g hg => let ⟨f, hf, hr⟩ := Forall₂.exists_left hrel g hg; ⟨f, hperm.mem_iff.mp hf, hr⟩,
    fun f hf => Forall₂.exists_right hrel f (hperm.mem_iff.mpr hf)⟩

theorem reoriented_counts (B0 : Polyhedron) (hV : B0.Valid) (F input : List Polygon)
    (hperm : List.Perm F B0.faces) (hrel : List.Forall₂ Reoriented F input) :
    List.Perm (collectVerts input) (collectVerts B0.faces) ∧ SameUEdges input B0.faces ∧
    (edgesOf input []).length = (edgesOf B0.faces []).length ∧ input.length = B0.faces.length := by
  obtain ⟨hin_to_F, hF_to_in⟩ := reoriented_corr hperm hrel
  have hvperm : List.Perm (collectVerts input) (collectVerts B0.faces) := by
    apply collectVerts_perm
    intro v
    constructor
    · rintro ⟨g, hg, hv⟩
      obtain ⟨f, hf, hr⟩ := hin_to_F g hg
      exact ⟨f, hf, (hr.same_verts v).mp hv⟩
    · rintro ⟨f, hf, hv⟩
      obtain ⟨g, hg, hr⟩ := hF_to_in f hf
      exact ⟨g, hg, (hr.same_verts v).mpr hv⟩
  have hface : ∀ f ∈ B0.faces, ∀ g, Reoriented f g → _ := fun f hf g hr =>
    orientFace_reoriented f g (hV.faces_valid f hf) (hV.center_in_plane f hf) hr _ (hV.mean_interior f hf)
  have hue : SameUEdges input B0.faces := by
    constructor
    · intro g hg e he
      obtain ⟨f, hf, hr⟩ := hin_to_F g hg
      exact ⟨f, hf, (hface f hf g hr).2.2.2.2.1 e he⟩
    · intro f hf e he
      obtain ⟨g, hg, hr⟩ := hF_to_in f hf
      exact ⟨g, hg, (hface f hf g hr).2.2.2.2.2 e he⟩
  exact ⟨hvperm, hue, edgesOf_length_eq _ _ hue, by rw [← hrel.length_eq, hperm.length_eq]⟩

/-- **C09, orientation- and order-independence of `ConvexPolyhedron(...)`.**

    Hypotheses: `B0` is `Polyhedron.Valid` (faces outward); `F` is a reordering of `B0.faces`; `input[i]` is any valid
    polygon on the vertex set of `F[i]` with its centre in its plane (`Reoriented`); Euler's formula holds for
    `B0` in the constructor's counting (`hEuler`, an ASSUMPTION: number of distinct face vertices − number of
    undirected face edges + number of faces = 2; see `Polyhedron.mk?_reoriented_of_accepted` for the version where
    it is derived from "the constructor accepts `B0.faces`").

    Conclusion: the constructor succeeds; the result is `Valid` (in particular its directed edges form a closed
    surface); its centre is the mean of the face vertices of `B0` and lies strictly inside every face; face by face
    the stored face is the outward copy of `F[i]` and is `input[i]` or `-input[i]`; vertices and edges are those
    of `B0`. -/
theorem Polyhedron.mk?_reoriented (B0 : Polyhedron) (hV : B0.Valid) (F input : List Polygon)
    (hperm : List.Perm F B0.faces) (hrel : List.Forall₂ Reoriented F input)
    (hEuler : ((collectVerts B0.faces).length : Int) - (edgesOf B0.faces []).length + B0.faces.length = 2) :
    ∃ B, Polyhedron.mk? input = .ok B ∧ B.Valid ∧
      B.center = meanV (collectVerts B0.faces) ∧ B.center = meanV B.verts ∧
      List.Forall₂ OutwardCopy F B.faces ∧
      List.Forall₂ (fun g h => (h = g ∨ g.neg? = .ok h) ∧ (∀ p, p ∈ h.pts ↔ p ∈ g.pts) ∧
        0 < dot (sub h.plane.p B.center) h.plane.n) input B.faces ∧
      (∀ f ∈ B.faces, f.side B.center < 0) ∧
      List.Perm B.verts (collectVerts B0.faces) ∧ (∀ v, v ∈ B.verts ↔ ∃ f ∈ B0.faces, v ∈ f.pts) ∧
      (NoSame B.edges ∧ B.edges.length = (edgesOf B0.faces []).length ∧
        (∀ s ∈ B.edges, ∃ f ∈ B0.faces, ∃ e ∈ closedPairs f.pts, s = Seg.mk' e.1 e.2 ∨ s = Seg.mk' e.2 e.1) ∧
        (∀ f ∈ B0.faces, ∀ e ∈ closedPairs f.pts, ∃ s ∈ B.edges, s.same (Seg.mk' e.1 e.2) = true)) ∧
      ((B.verts.length : Int) - B.edges.length + B.faces.length = 2) ∧
      B.pyramids = input.map (fun g => (g, B.center)) := by
  obtain ⟨hin_to_F, hF_to_in⟩ := reoriented_corr hperm hrel
  obtain ⟨hvperm, hue, helen, hflen⟩ := reoriented_counts B0 hV F input hperm hrel
  have hFmem : ∀ f ∈ F, f ∈ B0.faces := fun f hf => hperm.mem_iff.mp hf
  have hc : meanV (collectVerts input) = meanV (collectVerts B0.faces) := meanV_perm hvperm
  set c := meanV (collectVerts input) with hcdef
  have hint : ∀ f ∈ B0.faces, f.side c < 0 := by
    intro f hf; rw [hc]; exact hV.mean_interior f hf
  have hface : ∀ f ∈ B0.faces, ∀ g, Reoriented f g → _ := fun f hf g hr =>
    orientFace_reoriented f g (hV.faces_valid f hf) (hV.center_in_plane f hf) hr c (hint f hf)
  have hne : collectVerts input ≠ [] := fun h0 => hV.collectVerts_ne_nil (h0 ▸ hvperm).symm.eq_nil
  have hmk := Polyhedron.mk?_intro input
    (fun g hg => by obtain ⟨f, _, hr⟩ := hin_to_F g hg; exact hr.valid.edge_ne) hne
    (fun g hg => by obtain ⟨f, hf, hr⟩ := hin_to_F g hg; exact (hface f hf g hr).1)
    (fun g hg => by obtain ⟨f, hf, hr⟩ := hin_to_F g hg; exact (hface f hf g hr).2.2.1.le)
    (by rw [hvperm.length_eq, helen, hflen]; exact hEuler)
  have hcopies : List.Forall₂ OutwardCopy F (input.map (flipOf c)) :=
    List.forall₂_map_right_iff.mpr (Forall₂.imp_mem hrel (fun f hf g _ hr => (hface f (hFmem f hf) g hr).2.1))
  have hcopy_of : ∀ h ∈ input.map (flipOf c), ∃ f ∈ B0.faces, OutwardCopy f h := by
    intro h hh
    obtain ⟨f, hf, hoc⟩ := Forall₂.exists_left hcopies h hh
    exact ⟨f, hFmem f hf, hoc⟩
  have hinner : ∀ h ∈ input.map (flipOf c), h.side c < 0 := by
    intro h hh
    obtain ⟨f, hf, hoc⟩ := hcopy_of h hh
    exact (hoc.samePlane.side_neg_iff c).mpr (hint f hf)
  refine ⟨_, hmk, ?_, hc, rfl, hcopies, ?_, hinner, hvperm, ?_, ⟨edgesOf_noSame _ _ List.Pairwise.nil, helen, ?_, ?_⟩,
    ?_, rfl⟩
  · refine ⟨?_, ?_, ?_, ?_, ?_, ?_, ⟨c, hinner⟩⟩
    · intro h0
      have h1 : (input.map (flipOf c)).length = 0 := congrArg List.length h0
      rw [List.length_map, hflen] at h1
      exact hV.nonempty (List.length_eq_zero_iff.mp h1)
    · intro h hh; obtain ⟨f, _, hoc⟩ := hcopy_of h hh; exact hoc.valid
    · intro h hh; obtain ⟨f, _, hoc⟩ := hcopy_of h hh; exact hoc.center
    · intro h hh p hp
      obtain ⟨f, hf, hoc⟩ := hcopy_of h hh
      show p ∈ collectVerts input
      exact hvperm.mem_iff.mpr ((mem_collectVerts _ p).mpr ⟨f, hf, (hoc.mem_iff p).mp hp⟩)
    · intro h hh v hv
      obtain ⟨f, hf, hoc⟩ := hcopy_of h hh
      obtain ⟨f', hf', hvf⟩ := (mem_collectVerts _ v).mp (hvperm.mem_iff.mp hv)
      exact (hoc.samePlane.side_nonpos_iff v).mpr (hV.verts_inside f hf v (hV.pts_sub f' hf' v hvf))
    · show ClosedSurface ((input.map (flipOf c)).map (·.pts))
      have h1 := dirEdges_perm_of_forall₂ F (input.map (flipOf c))
        (hcopies.imp (fun f h hoc => hoc.closedPairs_perm))
      exact closedSurface_of_perm (h1.trans (dirEdges_perm_of_perm hperm)) hV.closed
  · apply Forall₂.map_self
    intro g hg
    obtain ⟨f, hf, hr⟩ := hin_to_F g hg
    obtain ⟨_, hoc, hpos, hcase, _, _⟩ := hface f hf g hr
    exact ⟨hcase.imp (fun h => h.1) (fun h => h.1), fun p => (hoc.mem_iff p).trans (hr.same_verts p).symm, hpos⟩
  · intro v
    show v ∈ collectVerts input ↔ _
    rw [hvperm.mem_iff, mem_collectVerts]
  · intro s hs
    rcases edgesOf_mem input [] s hs with h' | ⟨g, hg, e, he, rfl⟩
    · cases h'
    · obtain ⟨f, hf, h1 | h1⟩ := hue.1 g hg e he
      · exact ⟨f, hf, e, h1, Or.inl rfl⟩
      · exact ⟨f, hf, (e.2, e.1), h1, Or.inr rfl⟩
  · intro f hf e he
    obtain ⟨g, hg, h1 | h1⟩ := hue.2 f hf e he
    · exact edgesOf_covers input [] g hg e h1
    · obtain ⟨x, hx, hxs⟩ := edgesOf_covers input [] g hg _ h1
      exact ⟨x, hx, Seg.same_trans hxs (Seg.same_mk'_swap e.2 e.1)⟩
  · show ((collectVerts input).length : Int) - (edgesOf input []).length + (input.map (flipOf c)).length = 2
    rw [List.length_map, hvperm.length_eq, helen, hflen]; exact hEuler
#print axioms Polyhedron.mk?_reoriented

/-- the same with Euler's formula DERIVED from the hypothesis that the constructor accepts the outward face list
    `B0.faces` itself (true e.g. for every body left behind by `move`, see `Polyhedron.move_ok_iff`) -/
theorem Polyhedron.mk?_reoriented_of_accepted (B0 B0' : Polyhedron) (hV : B0.Valid)
    (hacc : Polyhedron.mk? B0.faces = .ok B0') (F input : List Polygon)
    (hperm : List.Perm F B0.faces) (hrel : List.Forall₂ Reoriented F input) :
    ∃ B, Polyhedron.mk? input = .ok B ∧ B.Valid ∧ B.center = B0'.center ∧
      List.Forall₂ OutwardCopy F B.faces ∧ List.Perm B.verts B0'.verts ∧
      B.edges.length = B0'.edges.length ∧
      (∀ s ∈ B.edges, ∃ s' ∈ B0'.edges, s.same s' = true) ∧ (∀ s' ∈ B0'.edges, ∃ s ∈ B.edges, s.same s' = true) := by
  obtain ⟨hv0, he0, _, hc0, _, _, _, _, heul, _⟩ := Polyhedron.mk?_eq B0.faces B0' hacc
  obtain ⟨B, hB, hBV, hBc, _, hcop, _, _, hvp, _, ⟨_, hel, _, _⟩, _, _⟩ :=
    Polyhedron.mk?_reoriented B0 hV F input hperm hrel heul
  obtain ⟨_, he, _⟩ := Polyhedron.mk?_eq input B hB
  obtain ⟨_, hue, _, _⟩ := reoriented_counts B0 hV F input hperm hrel
  refine ⟨B, hB, hBV, by rw [hBc, hc0], hcop, by rw [hv0]; exact hvp, by rw [hel, he0], ?_⟩
  rw [he, he0]
  exact edgesOf_classes hue
#print axioms Polyhedron.mk?_reoriented_of_accepted

theorem sameUEdges_of_perm {i1 i2 : List Polygon} (h : List.Perm i1 i2) : SameUEdges i1 i2 :=
  ⟨fun f hf _ he => ⟨f, h.mem_iff.mp hf, Or.inl he⟩, fun g hg _ he => ⟨g, h.mem_iff.mpr hg, Or.inl he⟩⟩

/-- **C09, face-order independence.**  If the constructor accepts `input1` it accepts every permutation `input2`
    of it, and the two results have the same centre, the same faces, pyramids and vertices up to order, edge lists
    of the same length representing the same undirected segments, the same membership test and the same volume.
    No validity hypothesis. -/
theorem Polyhedron.mk?_perm (input1 input2 : List Polygon) (hp : List.Perm input1 input2) (B1 : Polyhedron)
    (h1 : Polyhedron.mk? input1 = .ok B1) :
    ∃ B2, Polyhedron.mk? input2 = .ok B2 ∧ B2.center = B1.center ∧
      List.Perm B1.faces B2.faces ∧ List.Perm B1.pyramids B2.pyramids ∧ List.Perm B1.verts B2.verts ∧
      B1.edges.length = B2.edges.length ∧
      (∀ s ∈ B1.edges, ∃ s' ∈ B2.edges, s.same s' = true) ∧ (∀ s' ∈ B2.edges, ∃ s ∈ B1.edges, s.same s' = true) ∧
      (∀ x, B1.contains x = B2.contains x) ∧ B1.volume = B2.volume := by
  obtain ⟨hv1, he1, hd1, hc1, hf1, hpy1, hor1, hn1, heul1, hne1⟩ := Polyhedron.mk?_eq input1 B1 h1
  have hvperm : List.Perm (collectVerts input1) (collectVerts input2) :=
    collectVerts_perm _ _ (fun v => ⟨fun ⟨f, hf, hv⟩ => ⟨f, hp.mem_iff.mp hf, hv⟩,
      fun ⟨f, hf, hv⟩ => ⟨f, hp.mem_iff.mpr hf, hv⟩⟩)
  have hc : meanV (collectVerts input2) = B1.center := by rw [hc1]; exact (meanV_perm hvperm).symm
  have hue := sameUEdges_of_perm hp
  have helen := edgesOf_length_eq _ _ hue
  have hne2 : collectVerts input2 ≠ [] := fun h0 => hne1 (h0 ▸ hvperm).eq_nil
  have hmk := Polyhedron.mk?_intro input2 (fun f hf => hd1 f (hp.mem_iff.mpr hf)) hne2
    (fun g hg => by rw [hc]; exact hor1 g (hp.mem_iff.mpr hg))
    (fun g hg => by rw [hc]; exact hn1 g (hp.mem_iff.mpr hg))
    (by rw [← hvperm.length_eq, ← helen, ← hp.length_eq]; exact heul1)
  rw [hc] at hmk
  have hfp : List.Perm B1.faces (input2.map (flipOf B1.center)) := by rw [hf1]; exact hp.map _
  have hpp : List.Perm B1.pyramids (input2.map (fun g => (g, B1.center))) := by rw [hpy1]; exact hp.map _
  refine ⟨_, hmk, rfl, hfp, hpp, by rw [hv1]; exact hvperm, by rw [he1]; exact helen,
    by rw [he1]; exact (edgesOf_classes hue).1, by rw [he1]; exact (edgesOf_classes hue).2, ?_, ?_⟩
  · intro x
    unfold Polyhedron.contains
    exact hfp.all_eq
  · unfold Polyhedron.volume
    exact ((hpp.map _).sum_eq)
#print axioms Polyhedron.mk?_perm

/-- symmetric form for two given successful results -/
theorem Polyhedron.mk?_perm_results (input1 input2 : List Polygon) (hp : List.Perm input1 input2)
    (B1 B2 : Polyhedron) (h1 : Polyhedron.mk? input1 = .ok B1) (h2 : Polyhedron.mk? input2 = .ok B2) :
    B2.center = B1.center ∧ List.Perm B1.faces B2.faces ∧ List.Perm B1.verts B2.verts ∧
    B1.edges.length = B2.edges.length ∧
    (∀ s ∈ B1.edges, ∃ s' ∈ B2.edges, s.same s' = true) ∧ (∀ s' ∈ B2.edges, ∃ s ∈ B1.edges, s.same s' = true) ∧
    (∀ x, B1.contains x = B2.contains x) ∧ B1.volume = B2.volume := by
  obtain ⟨B2', h2', hc, hf, _, hv, hel, hes1, hes2, hcon, hvol⟩ := Polyhedron.mk?_perm input1 input2 hp B1 h1
  rw [h2] at h2'; cases h2'
  exact ⟨hc, hf, hv, hel, hes1, hes2, hcon, hvol⟩
#print axioms Polyhedron.mk?_perm_results
end G3D
