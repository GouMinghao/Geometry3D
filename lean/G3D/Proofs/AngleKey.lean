import Mathlib.Analysis.SpecialFunctions.Complex.Arg
import Mathlib.Analysis.SpecialFunctions.Trigonometric.Arctan
import Mathlib.Tactic.Linarith
import Mathlib.Tactic.Positivity
import G3D.Model.Body
import G3D.Proofs.Sort

/-! # The exact angular comparator *is* `atan2` shifted into `[0, 2π)`

`ConvexPolygon._check_and_sort_points` sorts the vertices by

```python
vector_angle = math.atan2(z_coordinate, y_coordinate)
if vector_angle < 0:
    vector_angle += 2 * math.pi
```

`math.atan2(z, y)` is the principal argument of `y + z·i`, i.e. Mathlib's `Complex.arg ⟨y, z⟩`,
with values in `(-π, π]` and `atan2(0, 0) = 0 = Complex.arg 0`.

The model (`G3D/Model/Body.lean`) replaces the float key by the exact comparator `angLt` / `angEq`
on the rational pair `(y, z)`.  This file proves that the comparator decides exactly `<` / `=` on
the real key. -/

namespace G3D.AngleKey
open Real

/-- `math.atan2(z, y)` (note the argument order of `atan2`): the principal argument of `y + z i`,
    in `(-π, π]`, with `atan2 0 0 = 0`. -/
noncomputable def atan2 (z y : ℝ) : ℝ := Complex.arg ⟨y, z⟩

/-! ### `atan2` by the C-library case table agrees with `Complex.arg` -/

/-- `atan2(z, y)` as the C standard / Python `math.atan2` document it (real arguments, no signed zero) -/
noncomputable def atan2C (z y : ℝ) : ℝ :=
  if 0 < y then arctan (z / y)
  else if y < 0 then (if 0 ≤ z then arctan (z / y) + π else arctan (z / y) - π)
  else if 0 < z then π / 2 else if z < 0 then -(π / 2) else 0

theorem arg_eq_arctan_of_re_pos {y z : ℝ} (hy : 0 < y) : Complex.arg ⟨y, z⟩ = arctan (z / y) := by
  have h := Complex.abs_arg_lt_pi_div_two_iff.mpr (Or.inl (show 0 < (⟨y, z⟩ : ℂ).re from hy))
  rw [abs_lt] at h
  have ht := Complex.tan_arg ⟨y, z⟩
  simp only at ht
  rw [← ht, arctan_tan h.1 h.2]

theorem atan2C_eq_atan2 (z y : ℝ) : atan2C z y = atan2 z y := by
  unfold atan2C atan2
  by_cases hy : 0 < y
  · rw [if_pos hy, arg_eq_arctan_of_re_pos hy]
  · rw [if_neg hy]
    by_cases hy' : y < 0
    · rw [if_pos hy']
      have hneg : Complex.arg (-(⟨y, z⟩ : ℂ)) = arctan (z / y) := by
        have : (-(⟨y, z⟩ : ℂ)) = ⟨-y, -z⟩ := by apply Complex.ext <;> simp
        rw [this, arg_eq_arctan_of_re_pos (neg_pos.mpr hy'), neg_div_neg_eq]
      have hneg' : Complex.arg (-(⟨y, z⟩ : ℂ)) = arcsin ((-(⟨y, z⟩ : ℂ)).im / ‖(⟨y, z⟩ : ℂ)‖) := by
        rw [Complex.arg_of_re_nonneg (by simpa using hy'.le), norm_neg]
      by_cases hz : 0 ≤ z
      · rw [if_pos hz, Complex.arg_of_re_neg_of_im_nonneg (show (⟨y, z⟩ : ℂ).re < 0 from hy') hz,
          ← hneg', hneg]
      · rw [if_neg hz, Complex.arg_of_re_neg_of_im_neg (show (⟨y, z⟩ : ℂ).re < 0 from hy')
          (show (⟨y, z⟩ : ℂ).im < 0 from not_le.mp hz), ← hneg', hneg]
    · rw [if_neg hy']
      have hy0 : y = 0 := le_antisymm (not_lt.mp hy) (not_lt.mp hy')
      subst hy0
      by_cases hz : 0 < z
      · rw [if_pos hz]; exact (Complex.arg_eq_pi_div_two_iff.mpr ⟨rfl, hz⟩).symm
      · rw [if_neg hz]
        by_cases hz' : z < 0
        · rw [if_pos hz']; exact (Complex.arg_eq_neg_pi_div_two_iff.mpr ⟨rfl, hz'⟩).symm
        · rw [if_neg hz']
          have hz0 : z = 0 := le_antisymm (not_lt.mp hz) (not_lt.mp hz')
          subst hz0
          exact (Complex.arg_eq_zero_iff.mpr ⟨le_refl _, rfl⟩).symm

/-- the sort key exactly as the code computes it -/
noncomputable def key (y z : ℝ) : ℝ :=
  if atan2 z y < 0 then atan2 z y + 2 * π else atan2 z y

/-- the model's class function over `ℝ` -/
noncomputable def clsR (y z : ℝ) : ℕ :=
  if z = 0 then (if 0 ≤ y then 0 else 2) else if 0 < z then 1 else 3

theorem atan2_mem (z y : ℝ) : -π < atan2 z y ∧ atan2 z y ≤ π :=
  ⟨Complex.neg_pi_lt_arg _, Complex.arg_le_pi _⟩

/-- 1. the key lies in `[0, 2π)` -/
theorem key_range (y z : ℝ) : 0 ≤ key y z ∧ key y z < 2 * π := by
  obtain ⟨h1, h2⟩ := atan2_mem z y
  have := pi_pos
  unfold key
  split_ifs with h
  · constructor <;> linarith
  · constructor <;> linarith

/-- the key, class by class -/
theorem key_spec (y z : ℝ) :
    (clsR y z = 0 ∧ key y z = 0) ∨
    (clsR y z = 1 ∧ 0 < z ∧ key y z = atan2 z y ∧ 0 < atan2 z y ∧ atan2 z y < π) ∨
    (clsR y z = 2 ∧ key y z = π) ∨
    (clsR y z = 3 ∧ z < 0 ∧ key y z = atan2 z y + 2 * π ∧ -π < atan2 z y ∧ atan2 z y < 0) := by
  have hpi := pi_pos
  rcases lt_trichotomy z 0 with hz | hz | hz
  · -- class 3
    right; right; right
    have ha : atan2 z y < 0 := Complex.arg_neg_iff.mpr hz
    refine ⟨?_, hz, ?_, (atan2_mem z y).1, ha⟩
    · simp [clsR, hz.ne, not_lt.mpr hz.le]
    · simp [key, ha]
  · by_cases hy : 0 ≤ y
    · left
      have ha : atan2 z y = 0 := Complex.arg_eq_zero_iff.mpr ⟨hy, hz⟩
      exact ⟨by simp [clsR, hz, hy], by simp [key, ha]⟩
    · right; right; left
      have ha : atan2 z y = π := Complex.arg_eq_pi_iff.mpr ⟨not_le.mp hy, hz⟩
      exact ⟨by simp [clsR, hz, hy], by simp [key, ha, not_lt.mpr hpi.le]⟩
  · right; left
    have h0 : 0 ≤ atan2 z y := Complex.arg_nonneg_iff.mpr hz.le
    have h1 : atan2 z y ≠ 0 := fun h => hz.ne' (Complex.arg_eq_zero_iff.mp h).2
    have h2 : atan2 z y < π := Complex.arg_lt_pi_iff.mpr (Or.inr hz.ne')
    refine ⟨?_, hz, ?_, lt_of_le_of_ne h0 (Ne.symm h1), h2⟩
    · simp [clsR, hz.ne', hz]
    · simp [key, not_lt.mpr h0]

/-- `|v| |w| sin (arg w - arg v) = v × w` -/
theorem cross_eq_sin (y1 z1 y2 z2 : ℝ) :
    y1 * z2 - z1 * y2 =
      ‖(⟨y1, z1⟩ : ℂ)‖ * ‖(⟨y2, z2⟩ : ℂ)‖ * sin (atan2 z2 y2 - atan2 z1 y1) := by
  have c1 := Complex.norm_mul_cos_arg ⟨y1, z1⟩
  have s1 := Complex.norm_mul_sin_arg ⟨y1, z1⟩
  have c2 := Complex.norm_mul_cos_arg ⟨y2, z2⟩
  have s2 := Complex.norm_mul_sin_arg ⟨y2, z2⟩
  simp only at c1 s1 c2 s2
  unfold atan2
  rw [sin_sub]
  calc y1 * z2 - z1 * y2
      = (‖(⟨y1, z1⟩ : ℂ)‖ * cos (Complex.arg ⟨y1, z1⟩)) * (‖(⟨y2, z2⟩ : ℂ)‖ * sin (Complex.arg ⟨y2, z2⟩))
        - (‖(⟨y1, z1⟩ : ℂ)‖ * sin (Complex.arg ⟨y1, z1⟩)) * (‖(⟨y2, z2⟩ : ℂ)‖ * cos (Complex.arg ⟨y2, z2⟩)) := by
        rw [c1, s1, c2, s2]
    _ = _ := by ring

theorem norm_pos_of_im {y z : ℝ} (hz : z ≠ 0) : 0 < ‖(⟨y, z⟩ : ℂ)‖ := by
  rw [norm_pos_iff]
  intro h
  exact hz (by simpa using congrArg Complex.im h)

theorem sin_pos_iff_of_abs_lt_pi {d : ℝ} (h1 : -π < d) (h2 : d < π) : 0 < sin d ↔ 0 < d := by
  constructor
  · intro h
    by_contra hd
    have := sin_nonpos_of_nonpos_of_neg_pi_le (not_lt.mp hd) h1.le
    linarith
  · intro h; exact sin_pos_of_pos_of_lt_pi h h2

theorem atan2_cmp_cross {y1 z1 y2 z2 : ℝ} (hz1 : z1 ≠ 0) (hz2 : z2 ≠ 0)
    (h1 : -π < atan2 z2 y2 - atan2 z1 y1) (h2 : atan2 z2 y2 - atan2 z1 y1 < π) :
    (atan2 z1 y1 < atan2 z2 y2 ↔ 0 < y1 * z2 - z1 * y2) ∧ (atan2 z1 y1 = atan2 z2 y2 ↔ y1 * z2 - z1 * y2 = 0) := by
  have hN : 0 < ‖(⟨y1, z1⟩ : ℂ)‖ * ‖(⟨y2, z2⟩ : ℂ)‖ := mul_pos (norm_pos_of_im hz1) (norm_pos_of_im hz2)
  rw [cross_eq_sin, mul_pos_iff_of_pos_left hN, sin_pos_iff_of_abs_lt_pi h1 h2, mul_eq_zero, or_iff_right hN.ne',
    sin_eq_zero_iff_of_lt_of_lt h1 h2, sub_pos, sub_eq_zero, eq_comm]
  exact ⟨Iff.rfl, Iff.rfl⟩

theorem key_lt_of_cls_lt {y1 z1 y2 z2 : ℝ} (h : clsR y1 z1 < clsR y2 z2) : key y1 z1 < key y2 z2 := by
  have hpi := pi_pos
  -- classes out of order contradict `h`; the bands `{0}`, `(0,π)`, `{π}`, `(π,2π)` of `key_spec` are in order
  rcases key_spec y1 z1 with ⟨c1, k1⟩ | ⟨c1, _, k1, a1, b1⟩ | ⟨c1, k1⟩ | ⟨c1, _, k1, a1, b1⟩ <;>
  rcases key_spec y2 z2 with ⟨c2, k2⟩ | ⟨c2, _, k2, a2, b2⟩ | ⟨c2, k2⟩ | ⟨c2, _, k2, a2, b2⟩ <;>
  rw [c1, c2] at h <;> first | exact absurd h (by decide) | (rw [k1, k2]; linarith)

theorem key_same_cls {y1 z1 y2 z2 : ℝ} (h : clsR y1 z1 = clsR y2 z2) :
    ((clsR y1 z1 = 0 ∨ clsR y1 z1 = 2) ∧ key y1 z1 = key y2 z2) ∨
    ((clsR y1 z1 = 1 ∨ clsR y1 z1 = 3) ∧ (key y1 z1 < key y2 z2 ↔ 0 < y1 * z2 - z1 * y2) ∧
      (key y1 z1 = key y2 z2 ↔ y1 * z2 - z1 * y2 = 0)) := by
  have hpi := pi_pos
  rcases key_spec y1 z1 with ⟨c1, k1⟩ | ⟨c1, hz1, k1, a1, b1⟩ | ⟨c1, k1⟩ | ⟨c1, hz1, k1, a1, b1⟩ <;>
  rcases key_spec y2 z2 with ⟨c2, k2⟩ | ⟨c2, hz2, k2, a2, b2⟩ | ⟨c2, k2⟩ | ⟨c2, hz2, k2, a2, b2⟩ <;>
  rw [c1, c2] at h <;> try exact absurd h (by decide)
  · exact Or.inl ⟨Or.inl c1, k1.trans k2.symm⟩
  · rw [k1, k2]
    exact Or.inr ⟨Or.inl c1, atan2_cmp_cross hz1.ne' hz2.ne' (by linarith) (by linarith)⟩
  · exact Or.inl ⟨Or.inr c1, k1.trans k2.symm⟩
  · rw [k1, k2, add_lt_add_iff_right, add_left_inj]
    exact Or.inr ⟨Or.inr c1, atan2_cmp_cross hz1.ne hz2.ne (by linarith) (by linarith)⟩

/-- real form of 2.: `key` compares as the class / cross-product comparator -/
theorem key_lt_iff_real (y1 z1 y2 z2 : ℝ) :
    key y1 z1 < key y2 z2 ↔
      clsR y1 z1 < clsR y2 z2 ∨
      (clsR y1 z1 = clsR y2 z2 ∧ (clsR y1 z1 = 1 ∨ clsR y1 z1 = 3) ∧ 0 < y1 * z2 - z1 * y2) := by
  rcases lt_trichotomy (clsR y1 z1) (clsR y2 z2) with h | h | h
  · exact iff_of_true (key_lt_of_cls_lt h) (Or.inl h)
  · rcases key_same_cls h with ⟨c, e⟩ | ⟨c, e, _⟩
    · exact iff_of_false e.not_lt (by rintro (l | ⟨_, o, _⟩) <;> omega)
    · rw [e]
      exact ⟨fun x => Or.inr ⟨h, c, x⟩, fun x => x.elim (fun l => absurd l h.not_lt) (·.2.2)⟩
  · exact iff_of_false (lt_asymm (key_lt_of_cls_lt h)) (by rintro (l | ⟨e, _⟩) <;> omega)

/-- real form of 3. -/
theorem key_eq_iff_real (y1 z1 y2 z2 : ℝ) :
    key y1 z1 = key y2 z2 ↔
      clsR y1 z1 = clsR y2 z2 ∧
        ((clsR y1 z1 = 0 ∨ clsR y1 z1 = 2) ∨ y1 * z2 - z1 * y2 = 0) := by
  rcases lt_trichotomy (clsR y1 z1) (clsR y2 z2) with h | h | h
  · exact iff_of_false (key_lt_of_cls_lt h).ne (fun x => h.ne x.1)
  · rcases key_same_cls h with ⟨c, e⟩ | ⟨c, _, e⟩
    · exact iff_of_true e ⟨h, Or.inl c⟩
    · rw [e]
      exact ⟨fun x => ⟨h, Or.inr x⟩, fun x => x.2.elim (fun o => by omega) id⟩
  · exact iff_of_false (key_lt_of_cls_lt h).ne' (fun x => h.ne' x.1)

/-! ### the model's comparator on rational pairs -/

theorem clsR_cast (q : ℚ × ℚ) : clsR (q.1 : ℝ) (q.2 : ℝ) = kcls q := by
  simp only [clsR, kcls, angCls, Rat.cast_eq_zero, Rat.cast_nonneg, Rat.cast_pos]

theorem cross_cast (q1 q2 : ℚ × ℚ) :
    (q1.1 : ℝ) * (q2.2 : ℝ) - (q1.2 : ℝ) * (q2.1 : ℝ) = ((kcross q1 q2 : ℚ) : ℝ) := by
  unfold kcross; push_cast; ring

/-- 2. `angLt` decides `<` on the code's key.  No hypothesis is needed: the pair `(0,0)` has
    `atan2 0 0 = 0` (Python and `Complex.arg` agree) and the model puts it into class 0. -/
theorem key_lt_iff (q1 q2 : ℚ × ℚ) :
    key (q1.1 : ℝ) (q1.2 : ℝ) < key (q2.1 : ℝ) (q2.2 : ℝ) ↔ angLt q1 q2 = true := by
  rw [key_lt_iff_real, angLt_iff, clsR_cast, clsR_cast, cross_cast, Rat.cast_pos]

/-- 3. `angEq` decides `=` on the code's key (dict-key collision) -/
theorem key_eq_iff (q1 q2 : ℚ × ℚ) :
    key (q1.1 : ℝ) (q1.2 : ℝ) = key (q2.1 : ℝ) (q2.2 : ℝ) ↔ angEq q1 q2 = true := by
  rw [key_eq_iff_real, angEq_iff, clsR_cast, clsR_cast, cross_cast, Rat.cast_eq_zero]

/-- 4. isotropic scale invariance of the key itself -/
theorem key_scale {c : ℝ} (hc : 0 < c) (y z : ℝ) : key (c * y) (c * z) = key y z := by
  have h : atan2 (c * z) (c * y) = atan2 z y := by
    unfold atan2
    have := Complex.arg_real_mul ⟨y, z⟩ hc
    rw [← this]
    congr 1
    apply Complex.ext <;> simp
  unfold key
  rw [h]

theorem clsR_scale {a b : ℝ} (ha : 0 < a) (hb : 0 < b) (y z : ℝ) : clsR (a * y) (b * z) = clsR y z := by
  unfold clsR
  simp only [mul_eq_zero, hb.ne', false_or, mul_nonneg_iff_of_pos_left ha, mul_pos_iff_of_pos_left hb]

theorem cross_scale2 (a b y1 z1 y2 z2 : ℝ) :
    a * y1 * (b * z2) - b * z1 * (a * y2) = a * b * (y1 * z2 - z1 * y2) := by ring

/-- 4'. the model's frame `(v0, n × v0)` differs from the code's orthonormal frame
    `(v0/|v0|, (n/|n|) × (v0/|v0|))` by *different* positive factors `a = |v0|`, `b = |n||v0|` on the
    two axes; the key changes, the order of keys does not. -/
theorem key_lt_scale2 {a b : ℝ} (ha : 0 < a) (hb : 0 < b) (y1 z1 y2 z2 : ℝ) :
    key (a * y1) (b * z1) < key (a * y2) (b * z2) ↔ key y1 z1 < key y2 z2 := by
  rw [key_lt_iff_real, key_lt_iff_real, clsR_scale ha hb, clsR_scale ha hb, cross_scale2,
    mul_pos_iff_of_pos_left (mul_pos ha hb)]

theorem key_eq_scale2 {a b : ℝ} (ha : 0 < a) (hb : 0 < b) (y1 z1 y2 z2 : ℝ) :
    key (a * y1) (b * z1) = key (a * y2) (b * z2) ↔ key y1 z1 = key y2 z2 := by
  rw [key_eq_iff_real, key_eq_iff_real, clsR_scale ha hb, clsR_scale ha hb, cross_scale2, mul_eq_zero,
    or_iff_right (mul_pos ha hb).ne']

/-- 2'. the comparator on the model's rational pair `q = (a·y, b·z)` decides the order of the code's
    keys of the real (normalised-frame) coordinates `(y, z)` -/
theorem key_lt_iff_model {a b : ℝ} (ha : 0 < a) (hb : 0 < b) (q1 q2 : ℚ × ℚ) (y1 z1 y2 z2 : ℝ)
    (h1y : (q1.1 : ℝ) = a * y1) (h1z : (q1.2 : ℝ) = b * z1)
    (h2y : (q2.1 : ℝ) = a * y2) (h2z : (q2.2 : ℝ) = b * z2) :
    key y1 z1 < key y2 z2 ↔ angLt q1 q2 = true := by
  rw [← key_lt_iff, h1y, h1z, h2y, h2z, key_lt_scale2 ha hb]

theorem key_eq_iff_model {a b : ℝ} (ha : 0 < a) (hb : 0 < b) (q1 q2 : ℚ × ℚ) (y1 z1 y2 z2 : ℝ)
    (h1y : (q1.1 : ℝ) = a * y1) (h1z : (q1.2 : ℝ) = b * z1)
    (h2y : (q2.1 : ℝ) = a * y2) (h2z : (q2.2 : ℝ) = b * z2) :
    key y1 z1 = key y2 z2 ↔ angEq q1 q2 = true := by
  rw [← key_eq_iff, h1y, h1z, h2y, h2z, key_eq_scale2 ha hb]

/-- the key of a rational pair -/
noncomputable def keyQ (q : ℚ × ℚ) : ℝ := key (q.1 : ℝ) (q.2 : ℝ)

/-- 5. a list is `angLt`-sorted iff its keys are strictly increasing -/
theorem pairwise_angLt_iff (l : List (ℚ × ℚ)) :
    List.Pairwise (fun a b => angLt a b = true) l ↔ List.Pairwise (fun a b => keyQ a < keyQ b) l :=
  List.Pairwise.iff (fun a b => (key_lt_iff a b).symm)

/-- the same for the association list `angInsert` works on -/
theorem pairwise_angLt_iff' {α : Type} (l : List ((ℚ × ℚ) × α)) :
    List.Pairwise (fun a b => angLt a.1 b.1 = true) l ↔
      List.Pairwise (fun a b => keyQ a.1 < keyQ b.1) l :=
  List.Pairwise.iff (fun (a b : (ℚ × ℚ) × α) => (key_lt_iff a.1 b.1).symm)

/-! ### `dict[angle] = point` + `sorted(dict)` is the model's `angSort`

A *faithful key* is any real-valued function on the model's rational pairs whose `<` / `=` are
decided by `angLt` / `angEq`.  `keyQ` is one; so is the key in the code's normalised frame. -/

structure Faithful (K : ℚ × ℚ → ℝ) : Prop where
  lt_iff : ∀ q1 q2, K q1 < K q2 ↔ angLt q1 q2 = true
  eq_iff : ∀ q1 q2, K q1 = K q2 ↔ angEq q1 q2 = true

theorem faithful_keyQ : Faithful keyQ := ⟨key_lt_iff, key_eq_iff⟩

/-- the code's key in its orthonormal frame: the model's pair is `(a·y, b·z)` with `a = |v0|`,
    `b = |n||v0|` (real, in general irrational), so the code's coordinates are `(q.1 / a, q.2 / b)` -/
noncomputable def keyFrame (a b : ℝ) (q : ℚ × ℚ) : ℝ := key ((q.1 : ℝ) / a) ((q.2 : ℝ) / b)

theorem faithful_keyFrame {a b : ℝ} (ha : 0 < a) (hb : 0 < b) : Faithful (keyFrame a b) := by
  have e : ∀ q : ℚ × ℚ, keyFrame a b q = key (a⁻¹ * (q.1 : ℝ)) (b⁻¹ * (q.2 : ℝ)) := by
    intro q; unfold keyFrame; rw [div_eq_inv_mul, div_eq_inv_mul]
  constructor
  · intro q1 q2
    rw [e, e, key_lt_scale2 (inv_pos.mpr ha) (inv_pos.mpr hb), key_lt_iff]
  · intro q1 q2
    rw [e, e, key_eq_scale2 (inv_pos.mpr ha) (inv_pos.mpr hb), key_eq_iff]

/-- the Python loop `for p in pts: d[K p] = p` starting from the dict `d` -/
noncomputable def pyDictFrom (K : V3 → ℝ) (d : ℝ → Option V3) (pts : List V3) : ℝ → Option V3 :=
  pts.foldl (fun d p => Function.update d (K p) (some p)) d

/-- the dict after the loop of `_check_and_sort_points` -/
noncomputable def pyDict (K : V3 → ℝ) (pts : List V3) : ℝ → Option V3 :=
  pyDictFrom K (fun _ => none) pts

/-- `L` lists the items of the dict `d` by strictly increasing key: this is
    `[(a, d[a]) for a in sorted(d)]` -/
def IsSortedItems (d : ℝ → Option V3) (L : List (ℝ × V3)) : Prop :=
  L.Pairwise (fun x y => x.1 < y.1) ∧ ∀ a v, (a, v) ∈ L ↔ d a = some v

/-- `sorted(d)` is unique -/
theorem IsSortedItems.unique {d : ℝ → Option V3} {L L' : List (ℝ × V3)}
    (h : IsSortedItems d L) (h' : IsSortedItems d L') : L = L' := by
  have nd : ∀ {M : List (ℝ × V3)}, M.Pairwise (fun x y => x.1 < y.1) → M.Nodup := by
    intro M hM
    exact hM.imp (fun {x y} hxy he => by rw [he] at hxy; exact lt_irrefl _ hxy)
  have hp : L.Perm L' := by
    rw [List.perm_ext_iff_of_nodup (nd h.1) (nd h'.1)]
    rintro ⟨a, v⟩
    rw [h.2, h'.2]
  exact List.Perm.eq_of_pairwise (fun x y _ _ h1 h2 => absurd h2 (not_lt.mpr h1.le)) h.1 h'.1 hp

section
variable {K : ℚ × ℚ → ℝ} (hK : Faithful K)
include hK

/-- one dict assignment is one `angInsert` -/
theorem angInsert_items (k : ℚ × ℚ) (p : V3) (l : List ((ℚ × ℚ) × V3))
    (hs : l.Pairwise (fun x y => K x.1 < K y.1)) (a : ℝ) (v : V3) :
    (∃ e ∈ angInsert k p l, K e.1 = a ∧ e.2 = v) ↔
      (if a = K k then v = p else ∃ e ∈ l, K e.1 = a ∧ e.2 = v) := by
  have hE : ∀ e : (ℚ × ℚ) × V3, angEq k e.1 = true ↔ K e.1 = K k := fun e => by rw [← hK.eq_iff, eq_comm]
  by_cases hex : ∃ e ∈ l, angEq k e.1 = true
  · -- the angle is present: the point stored under it is replaced
    rw [angInsert_replace k p l (hs.imp fun h => (hK.lt_iff _ _).mp h) hex]
    obtain ⟨e0, h0, he0⟩ := hex
    simp only [List.mem_map, exists_exists_and_eq_and, hE, apply_ite Prod.fst, apply_ite Prod.snd, ite_self]
    split_ifs with ha
    · subst ha
      exact ⟨fun ⟨e, _, h1, h2⟩ => by rw [if_pos h1] at h2; exact h2.symm,
        fun h => ⟨e0, h0, (hE e0).mp he0, by rw [if_pos ((hE e0).mp he0), h]⟩⟩
    · refine exists_congr fun e => and_congr_right fun _ => and_congr_right fun h1 => ?_
      rw [if_neg (h1 ▸ ha)]
  · -- a new angle: plain insertion
    have hne : ∀ e ∈ l, angEq k e.1 = false := fun e he => Bool.eq_false_iff.mpr fun h => hex ⟨e, he, h⟩
    simp only [(angInsert_perm k p l hne).mem_iff, List.mem_cons, exists_eq_or_imp]
    split_ifs with ha
    · subst ha
      exact ⟨fun h => h.elim (fun h => h.2.symm) fun ⟨e, he, h1, _⟩ => absurd ((hE e).mpr h1) (Bool.eq_false_iff.mp (hne e he)),
        fun h => Or.inl ⟨rfl, h.symm⟩⟩
    · exact or_iff_right fun h => ha h.1.symm
/-- the loop invariant: the association list holds the items of the dict -/
theorem angSort_items (kf : V3 → ℚ × ℚ) (pts : List V3) : ∀ a v,
    (∃ e ∈ angSort kf pts, K e.1 = a ∧ e.2 = v) ↔ pyDict (fun p => K (kf p)) pts a = some v := by
  induction pts using List.reverseRecOn with
  | nil => intro a v; simp [angSort, pyDict, pyDictFrom]
  | append_singleton ps p ih =>
    intro a v
    have hs : (angSort kf ps).Pairwise (fun x y => K x.1 < K y.1) :=
      (angSort_sorted kf ps).imp fun h => (hK.lt_iff _ _).mpr h
    rw [angSort_concat, angInsert_items hK _ _ _ hs, pyDict, pyDictFrom, List.foldl_append]
    simp only [List.foldl_cons, List.foldl_nil]
    split_ifs with ha
    · rw [ha, Function.update_self, Option.some.injEq]; exact eq_comm
    · rw [Function.update_of_ne ha]; exact ih a v

/-- **the model's angular sort is the code's `dict` + `sorted`**, for every faithful key: the
    association list computed by the model, read through the key, is
    `[(a, d[a]) for a in sorted(d)]` where `d` is the dict built by the loop
    `for p in pts: d[key p] = p` (later points overwrite earlier ones on equal key). -/
theorem angSort_isSortedItems (kf : V3 → ℚ × ℚ) (pts : List V3) :
    IsSortedItems (pyDict (fun p => K (kf p)) pts)
      ((angSort kf pts).map (fun e => (K e.1, e.2))) := by
  refine ⟨?_, fun a v => ?_⟩
  · rw [List.pairwise_map]
    exact (angSort_sorted kf pts).imp fun h => (hK.lt_iff _ _).mpr h
  · rw [← angSort_items hK kf pts a v]
    simp only [List.mem_map, Prod.mk.injEq]

end

/-- the constructor's vertex tuple: the values of the sorted dict, for the code's own
    (normalised-frame) key, whatever the positive frame scales `a`, `b` are -/
theorem Polygon.mk?_pts_sorted_dict (input : List V3) (rev : Bool) (P : Polygon)
    (h : Polygon.mk? input rev = .ok P) {a b : ℝ} (ha : 0 < a) (hb : 0 < b) :
    ∃ L, IsSortedItems (pyDict (fun p => keyFrame a b (P.key p)) (dedupV input)) L ∧
      P.pts = L.map (·.2) := by
  obtain ⟨p0, p1, p2, rest, _, _, _, _, _, _, hpts⟩ := Polygon.mk?_shape input rev P h
  refine ⟨_, angSort_isSortedItems (faithful_keyFrame ha hb) P.key (dedupV input), ?_⟩
  rw [hpts, List.map_map]
  rfl

/-! ### concrete check: eight directions in increasing angle -/

example : angLt (1, 0) (1, 1) = true := by decide +kernel
example : angLt (1, 1) (0, 2) = true := by decide +kernel
example : angLt (0, 2) (-1, 3) = true := by decide +kernel
example : angLt (-1, 3) (-2, 0) = true := by decide +kernel
example : angLt (-2, 0) (-1, -1) = true := by decide +kernel
example : angLt (-1, -1) (0, -5) = true := by decide +kernel
example : angLt (0, -5) (3, -1) = true := by decide +kernel
example : angLt (3, -1) (1, 0) = false := by decide +kernel
example : angEq (1, 1) (2, 2) = true := by decide +kernel
example : angEq (1, 1) (-1, -1) = false := by decide +kernel

example : List.Pairwise (fun a b => angLt a b = true)
    [((1 : ℚ), (0 : ℚ)), (1, 1), (0, 2), (-1, 3), (-2, 0), (-1, -1), (0, -5), (3, -1)] := by
  decide +kernel

/-- hence the real keys `atan2`-shifted of these eight pairs are strictly increasing -/
example : List.Pairwise (fun a b => keyQ a < keyQ b)
    [((1 : ℚ), (0 : ℚ)), (1, 1), (0, 2), (-1, 3), (-2, 0), (-1, -1), (0, -5), (3, -1)] :=
  (pairwise_angLt_iff _).mp (by decide +kernel)

example : key ((1 : ℚ) : ℝ) ((1 : ℚ) : ℝ) < key ((-1 : ℚ) : ℝ) ((3 : ℚ) : ℝ) :=
  (key_lt_iff (1, 1) (-1, 3)).mpr (by decide +kernel)

example : key ((3 : ℚ) : ℝ) ((-1 : ℚ) : ℝ) = key ((6 : ℚ) : ℝ) ((-2 : ℚ) : ℝ) :=
  (key_eq_iff (3, -1) (6, -2)).mpr (by decide +kernel)

example : key 0 0 = 0 := by
  simp [key, atan2, show (⟨0, 0⟩ : ℂ) = 0 from rfl]

end G3D.AngleKey
