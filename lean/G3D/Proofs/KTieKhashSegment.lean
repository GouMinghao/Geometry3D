import G3D.Extracted.Khash
import G3D.Proofs.KhashLemmas
import G3D.Proofs.KTieKhashPoint
/-! # khash, `Segment.__hash__`  (C08)
    `G3D.Extracted.impl_hash_*` are regenerated on every run (tools/extract_khash.py, engine tools/khash_engine.py on tools/kernels_engine.py):
    the REAL `__hash__` bodies are run on symbolic numbers with `hash` / `round` / `get_sig_figures` / `get_eps` shimmed; `H` is the
    uninterpreted hash of a tuple, `rnd` / `rndI` the uninterpreted `round(., get_sig_figures())` on numbers / integers, `sig` / `neg`
    the uninterpreted answers to `abs(c) > get_eps()` / `c < 0`.  Every statement holds FOR ALL H, rnd, rndI.  Each kernel has its own
    `section`: when the walk of ONE kernel fails the generated file holds only the marker `impl_<kernel>_EXTRACTION_FAILED` for it
    and exactly the theorems of that section stop compiling.  The reference functions (`…Ref`, `…OfKey`) and their reading through
    the hash keys of `Model/HashKey.lean` are hand-written in `Proofs/KhashLemmas.lean`.
    `Segment.__hash__` delegates to `Point.__hash__`: the extracted text calls `impl_hash_Point` (a change of the Point hash that
    cannot be walked withholds this kernel too). -/
-- `first | rfl | ring_nf`: the second alternative only runs after a harmless arithmetic rearrangement of the Python body
set_option linter.unusedTactic false
set_option linter.unreachableTactic false
namespace G3D.KTie.Khash
open G3D G3D.Extracted G3D.KTie

section hash_Segment
/-- the extracted tuple: tag, `hash(a) + hash(b)`, `hash(a) * hash(b)` with the EXTRACTED point hash -/
theorem hash_Segment_shape (H : HFun) (rnd : ℝ → ℝ) (a b : RVec) :
    impl_hash_Segment H rnd a b
      = H [.tag "Segment", .int (impl_hash_Point H rnd a + impl_hash_Point H rnd b),
           .int (impl_hash_Point H rnd a * impl_hash_Point H rnd b)] := by
  unfold impl_hash_Segment
  first | rfl | ring_nf

theorem hash_Segment_tie (H : HFun) (rnd : ℝ → ℝ) (a b : RVec) : impl_hash_Segment H rnd a b = segHashRef H rnd a b := by
  simp only [hash_Segment_shape, hash_Point_tie, segHashRef]

/-- **symmetric in the end points** -/
theorem hash_Segment_comm (H : HFun) (rnd : ℝ → ℝ) (a b : RVec) : impl_hash_Segment H rnd a b = impl_hash_Segment H rnd b a := by
  rw [hash_Segment_tie, hash_Segment_tie, segHashRef_comm]

/-- **the extracted hash depends only on the model's `Seg.hashKey`** (the unordered pair of end points) -/
theorem hash_Segment_key (H : HFun) (rnd : ℝ → ℝ) (s : Seg) :
    impl_hash_Segment H rnd s.a.toR s.b.toR = segHashOfKey H rnd (Seg.hashKey s) := by
  rw [hash_Segment_tie, segHashRef_key]

/-- **EQUAL SEGMENTS HAVE EQUAL EXTRACTED HASHES**, for every H and every rounding -/
theorem hash_Segment_eq_of_same (H : HFun) (rnd : ℝ → ℝ) (s o : Seg) (h : s.same o = true) :
    impl_hash_Segment H rnd s.a.toR s.b.toR = impl_hash_Segment H rnd o.a.toR o.b.toR := by
  rw [hash_Segment_tie, hash_Segment_tie, segHashRef_eq_of_same H rnd s o h]

theorem hash_Segment_paths : impl_hash_Segment_oracles = [] ∧ impl_hash_Segment_paths = [[]] := ⟨rfl, rfl⟩

/-- (C19) the body rounds nothing itself (the roundings are those of `Point.__hash__`) -/
theorem hash_Segment_roundings : impl_hash_Segment_roundings = [] := rfl
end hash_Segment

#print axioms hash_Segment_comm
#print axioms hash_Segment_eq_of_same
end G3D.KTie.Khash
