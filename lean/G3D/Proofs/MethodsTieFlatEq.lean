import G3D.Extracted.Mflat
import G3D.Proofs.MethodsTieBase
import G3D.Proofs.Equality
/-! # Tie, group `mflat`, role EQUALITY (C08): `__eq__` of Line, Plane, Segment, HalfLine = `Line.eqv`, `Plane.eqv`, `Seg.same`, `HalfLine.eqv`.
    Conventions, trusted readings and the deviations found: `G3D.Proofs.MethodsTie`, header of `G3D.Model.PyRtM`. -/
set_option linter.style.nameCheck false
namespace G3D.Tie
open V3 PyRt Extracted

theorem m_Line___eq___eq (l o : Line) :
    m_Line___eq__ (Self.ofLine l) (.obj (lnObj o)) = .ok (.bool (l.eqv o)) := by
  unfold m_Line___eq__
  simp [pyrt, Line.eqv]

theorem m_Line___eq___other (l : Line) (a : Plane) :
    m_Line___eq__ (Self.ofLine l) (.obj (plObj a)) = .ok (.bool false) := rfl

theorem m_Plane___eq___eq (a b : Plane) :
    m_Plane___eq__ (Self.ofPlane a) (.obj (plObj b)) = .ok (.bool (a.eqv b)) := by
  unfold m_Plane___eq__
  simp [pyrt, Plane.eqv]

theorem m_Plane___eq___other (a : Plane) (l : Line) :
    m_Plane___eq__ (Self.ofPlane a) (.obj (lnObj l)) = .ok (.bool false) := rfl

theorem m_Segment___eq___eq (s o : Seg) :
    m_Segment___eq__ (Self.ofSeg s) (.obj (sgObj o)) = .ok (.bool (s.same o)) := by
  unfold m_Segment___eq__
  simp [pyrt, Seg.same]

theorem m_HalfLine___eq___raw (h o : HalfLine) :
    m_HalfLine___eq__ (Self.ofHalfLine h) (.obj (.flat (.halfline o))) =
      if h.p = o.p then
        (if h.v = zero ∨ o.v = zero then .error (.ctor .zeroDiv)
         else .ok (.bool (V3.parallel h.v o.v && decide (0 < dot h.v o.v))))
      else .ok (.bool false) := by
  unfold m_HalfLine___eq__
  simp [pyrt]

theorem m_HalfLine___eq___eq (h o : HalfLine) (hh : h.v ≠ zero) (ho : o.v ≠ zero) :
    m_HalfLine___eq__ (Self.ofHalfLine h) (.obj (.flat (.halfline o))) = .ok (.bool (h.eqv o)) := by
  rw [m_HalfLine___eq___raw]
  by_cases hp : h.p = o.p <;> simp [hp, hh, ho, HalfLine.eqv, Bool.and_assoc]

end G3D.Tie
