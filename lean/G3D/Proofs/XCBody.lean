import G3D.Proofs.XCPolygon
import G3D.Proofs.MeasBody
import G3D.Proofs.BridgeExact
import G3D.Proofs.SameSet
import Mathlib.Tactic.Ring
import Mathlib.Tactic.Linarith
import Mathlib.Tactic.LinearCombination
import Mathlib.Tactic.Positivity

/-! # C13, constructors: `ConvexPolyhedron(polygons)` commutes with every `T : Xf`

    * `XC.body_valid`, `XC.body_faceLocal`, `XC.body_vertsOnFaces`: the image `T.body B` (outward normals `σ n`, vertex
      cycles reversed under reflections) of a `Valid` / `FaceLocal` / face-vertex-listing body is again one;
      `XC.counts_body`: it has as many distinct face vertices, undirected edges and faces (Euler's formula is
      invariant).
    * `XC.ImgOf T g g'`: `g'` is a valid polygon (centre in its plane) on the transformed vertex set of `g` — e.g.
      `T.polygon g`, `T.face g`, `XC.img T g` (what `ConvexPolygon` stores for the transformed points) or ANY successful
      `ConvexPolygon(points, reverse)` on a listing of the transformed vertices.
    * what `Props.C13.polyhedron_constructor_commutes` is put together from: corresponding vertex lists
      (`XC.collectVerts_img_perm`), edge lists (`XC.edgesOf_polygon`, `XC.edgeLenSqs_body_perm`), face areas
      (`XC.normSq_vecArea2_cyc`), and images of re-oriented copies of the faces (`XC.forall₂_reoriented_face`). -/
namespace G3D
open V3
open XfAux

/-! ### the image body of a valid body is valid -/
theorem XC.face_side (T : Xf) (f : Polygon) (x : V3) : (T.face f).side (T.pt x) = T.k * f.side x := by
  simp only [Polygon.side, Xf.face]
  rw [Xf.pt_sub, T.dot_dir_nrm]

theorem XC.edgeMap_swap (T : Xf) (e : V3 × V3) : T.edgeMap e.swap = (T.edgeMap e).swap := by
  unfold Xf.edgeMap
  split <;> rfl

theorem XC.closedSurface_cyc (T : Xf) (fs : List (List V3)) (hc : ClosedSurface fs) :
    ClosedSurface (fs.map T.cyc) :=
  hc.map_faces T.cyc T.edgeMap (XC.edgeMap_swap T) T.closedPairs_cyc_perm

theorem XC.body_faces (T : Xf) (B : Polyhedron) : (T.body B).faces = B.faces.map T.face := rfl
theorem XC.body_verts (T : Xf) (B : Polyhedron) : (T.body B).verts = T.pts B.verts := rfl

/-- **the image of a `Valid` body is `Valid`** -/
theorem XC.body_valid (T : Xf) (hk : 0 < T.k) (B : Polyhedron) (hV : B.Valid) : (T.body B).Valid := by
  refine ⟨fun h => hV.nonempty (List.map_eq_nil_iff.mp h), ?_, ?_, ?_, ?_, ?_, ?_⟩
  · exact List.forall_mem_map.mpr fun f hf => T.face_valid hk f (hV.faces_valid f hf)
  · exact List.forall_mem_map.mpr fun f hf => (T.inPlane_nrm hk _ _ _).trans (hV.center_in_plane f hf)
  · refine List.forall_mem_map.mpr fun f hf p hp => ?_
    obtain ⟨x, hx, rfl⟩ := (T.mem_cyc f.pts p).mp hp
    exact List.mem_map_of_mem (hV.pts_sub f hf x hx)
  · refine List.forall_mem_map.mpr fun f hf => List.forall_mem_map.mpr fun v hv => ?_
    show (T.face f).side (T.pt v) ≤ 0
    rw [XC.face_side]
    exact mul_nonpos_of_nonneg_of_nonpos hk.le (hV.verts_inside f hf v hv)
  · have : (T.body B).faces.map (·.pts) = (B.faces.map (·.pts)).map T.cyc := by
      rw [XC.body_faces, List.map_map, List.map_map]; rfl
    rw [this]
    exact XC.closedSurface_cyc T _ hV.closed
  · obtain ⟨o, ho⟩ := hV.interior
    exact ⟨T.pt o, List.forall_mem_map.mpr fun f hf => by
      rw [XC.face_side]; exact mul_neg_of_pos_of_neg hk (ho f hf)⟩
#print axioms XC.body_valid

/-- … `FaceLocal` is preserved -/
theorem XC.body_faceLocal (T : Xf) (hk : 0 < T.k) (B : Polyhedron) (hl : B.FaceLocal) : (T.body B).FaceLocal := by
  intro f' hf' e' he'
  obtain ⟨f, hf, rfl⟩ := List.mem_map.mp hf'
  have he'' : e' ∈ (closedPairs f.pts).map T.edgeMap := (T.closedPairs_cyc_perm f.pts).mem_iff.mp he'
  obtain ⟨e, he, rfl⟩ := List.mem_map.mp he''
  obtain ⟨g, hg, h1, h2, v, hv, hlt⟩ := hl f hf e he
  have hs : (T.face g).side (T.edgeMap e).1 = 0 ∧ (T.face g).side (T.edgeMap e).2 = 0 := by
    rcases T.edgeMap_cases e with ⟨_, h⟩ | ⟨_, h⟩ <;> rw [h] <;> simp only [XC.face_side, h1, h2, mul_zero, and_self]
  refine ⟨T.face g, List.mem_map.mpr ⟨g, hg, rfl⟩, hs.1, hs.2, T.pt v, (T.mem_cyc f.pts _).mpr ⟨v, hv, rfl⟩, ?_⟩
  rw [XC.face_side]; exact mul_neg_of_pos_of_neg hk hlt

/-- … and so is "every listed vertex is a face vertex" -/
theorem XC.body_vertsOnFaces (T : Xf) (B : Polyhedron) (h : B.VertsOnFaces) : (T.body B).VertsOnFaces := by
  intro v' hv'
  obtain ⟨v, hv, rfl⟩ := List.mem_map.mp hv'
  obtain ⟨f, hf, hvf⟩ := h v hv
  exact ⟨T.face f, List.mem_map.mpr ⟨f, hf, rfl⟩, (T.mem_cyc f.pts _).mpr ⟨v, hvf, rfl⟩⟩

/-! ### counting: vertices, edges, faces (Euler's formula is invariant) -/
/-- `g'` is a valid polygon, stored centre in its plane, on the transformed vertex set of `g` -/
structure XC.ImgOf (T : Xf) (g g' : Polygon) : Prop where
  valid : g'.Valid
  center : G3D.inPlane g'.plane.n g'.plane.p g'.center = true
  same_verts : ∀ p, p ∈ g'.pts ↔ p ∈ T.pts g.pts

theorem XC.mem_pts_collect (T : Xf) (input : List Polygon) (v : V3) :
    v ∈ T.pts (collectVerts input) ↔ ∃ g ∈ input, v ∈ T.pts g.pts := by
  simp only [Xf.pts, List.mem_map, mem_collectVerts]
  constructor
  · rintro ⟨x, ⟨g, hg, hx⟩, rfl⟩; exact ⟨g, hg, x, hx, rfl⟩
  · rintro ⟨g, hg, x, hx, rfl⟩; exact ⟨x, ⟨g, hg, hx⟩, rfl⟩

theorem XC.collectVerts_perm (T : Xf) (hk : 0 < T.k) (input input' : List Polygon)
    (h : ∀ v, (∃ g' ∈ input', v ∈ g'.pts) ↔ ∃ g ∈ input, v ∈ T.pts g.pts) :
    List.Perm (collectVerts input') (T.pts (collectVerts input)) := by
  have hnd : (T.pts (collectVerts input)).Nodup := (collectVerts_nodup input).map (T.pt_inj hk)
  rw [List.perm_ext_iff_of_nodup (collectVerts_nodup input') hnd]
  intro v
  rw [mem_collectVerts, XC.mem_pts_collect]
  exact h v

theorem XC.collectVerts_img_perm (T : Xf) (hk : 0 < T.k) (input input' : List Polygon)
    (himg : List.Forall₂ (XC.ImgOf T) input input') :
    List.Perm (collectVerts input') (T.pts (collectVerts input)) := by
  refine XC.collectVerts_perm T hk input input' fun v => ⟨?_, ?_⟩
  · rintro ⟨g', hg', hv⟩
    obtain ⟨g, hg, hi⟩ := Forall₂.exists_left himg g' hg'
    exact ⟨g, hg, (hi.same_verts v).mp hv⟩
  · rintro ⟨g, hg, hv⟩
    obtain ⟨g', hg', hi⟩ := Forall₂.exists_right himg g hg
    exact ⟨g', hg', (hi.same_verts v).mpr hv⟩

theorem XC.mem_face_pts (T : Xf) (f : Polygon) (v : V3) : v ∈ (T.face f).pts ↔ v ∈ T.pts f.pts :=
  (T.cyc_perm f.pts).mem_iff

theorem XC.collectVerts_face_perm (T : Xf) (hk : 0 < T.k) (fs : List Polygon) :
    List.Perm (collectVerts (fs.map T.face)) (T.pts (collectVerts fs)) := by
  refine XC.collectVerts_perm T hk fs _ fun v => ?_
  simp only [List.mem_map, exists_exists_and_eq_and, XC.mem_face_pts]

/-- the edge list collected from the faces with the SAME vertex order is exactly the image edge list -/
theorem XC.edgesOf_polygon (T : Xf) (hk : 0 < T.k) (fs : List Polygon) :
    edgesOf (fs.map T.polygon) [] = (edgesOf fs []).map T.seg :=
  edgesOf_image (T.pt_inj hk) (fun _ => rfl) T.polygon fs (fun _ _ => rfl)

/-- reversing the cycle (reflections) does not change the undirected edges of a face -/
theorem XC.uedge_face_iff (T : Xf) (f : Polygon) (e : V3 × V3) :
    (e ∈ closedPairs (T.face f).pts ∨ (e.2, e.1) ∈ closedPairs (T.face f).pts) ↔
      (e ∈ closedPairs (T.polygon f).pts ∨ (e.2, e.1) ∈ closedPairs (T.polygon f).pts) := by
  show (e ∈ closedPairs (T.cyc f.pts) ∨ _ ∈ closedPairs (T.cyc f.pts)) ↔
    (e ∈ closedPairs (T.pts f.pts) ∨ _ ∈ closedPairs (T.pts f.pts))
  rcases SP.det_cases T.s with h | h
  · rw [T.cyc_of_det_one h]
  · rw [T.cyc_of_det_neg h, mem_closedPairs_reverse, mem_closedPairs_reverse]
    exact Or.comm

theorem XC.sameUEdges_face_polygon (T : Xf) (fs : List Polygon) :
    SameUEdges (fs.map T.face) (fs.map T.polygon) := by
  constructor
  · intro f' hf' e he
    obtain ⟨f, hf, rfl⟩ := List.mem_map.mp hf'
    exact ⟨T.polygon f, List.mem_map.mpr ⟨f, hf, rfl⟩, (XC.uedge_face_iff T f e).mp (Or.inl he)⟩
  · intro f' hf' e he
    obtain ⟨f, hf, rfl⟩ := List.mem_map.mp hf'
    exact ⟨T.face f, List.mem_map.mpr ⟨f, hf, rfl⟩, (XC.uedge_face_iff T f e).mpr (Or.inl he)⟩

/-- **Euler's formula is invariant**: the image body has as many distinct face vertices, undirected edges, faces -/
theorem XC.counts_body (T : Xf) (hk : 0 < T.k) (B : Polyhedron) :
    (collectVerts (T.body B).faces).length = (collectVerts B.faces).length ∧
    (edgesOf (T.body B).faces []).length = (edgesOf B.faces []).length ∧
    (T.body B).faces.length = B.faces.length := by
  refine ⟨?_, ?_, ?_⟩
  · rw [XC.body_faces, (XC.collectVerts_face_perm T hk B.faces).length_eq, Xf.pts, List.length_map]
  · rw [XC.body_faces, edgesOf_length_eq _ _ (XC.sameUEdges_face_polygon T B.faces), XC.edgesOf_polygon T hk,
      List.length_map]
  · rw [XC.body_faces, List.length_map]

/-- squared lengths of the undirected edges of the image body: those of the body × k², as a multiset -/
theorem XC.edgeLenSqs_body_perm (T : Xf) (hk : 0 < T.k) (fs : List Polygon) :
    List.Perm ((edgesOf (fs.map T.face) []).map Seg.lenSq) (((edgesOf fs []).map Seg.lenSq).map (T.k^2 * ·)) := by
  refine (Meas.edgesOf_lenSq_perm _ _ (XC.sameUEdges_face_polygon T fs)).trans ?_
  rw [XC.edgesOf_polygon T hk, List.map_map, List.map_map]
  have : (Seg.lenSq ∘ T.seg) = ((fun x => T.k^2 * x) ∘ Seg.lenSq) := by
    funext s; simp only [Function.comp]; exact T.seg_lenSq s
  rw [this]

/-- the vector area of the image cycle of a face -/
theorem XC.normSq_vecArea2_cyc (T : Xf) (l : List V3) :
    normSq (vecArea2 (T.cyc l)) = T.k^4 * normSq (vecArea2 l) := by
  rcases SP.det_cases T.s with h | h
  · rw [T.cyc_of_det_one h]; exact T.normSq_vecArea2_pts l
  · rw [T.cyc_of_det_neg h, vecArea2_of_perm_swap (closedPairs_reverse_perm (T.pts l)), Meas.normSq_neg]
    exact T.normSq_vecArea2_pts l

/-! ### admissible images of an input face -/
theorem XC.imgOf_polygon (T : Xf) (hk : 0 < T.k) (g : Polygon) (hg : g.Valid)
    (hc : G3D.inPlane g.plane.n g.plane.p g.center = true) : XC.ImgOf T g (T.polygon g) :=
  ⟨T.polygon_valid hk g hg, by
    show G3D.inPlane (T.pnrm g.plane.n) (T.pt g.plane.p) (T.pt g.center) = true
    rw [T.inPlane_pnrm hk]; exact hc, fun _ => Iff.rfl⟩

theorem XC.imgOf_face (T : Xf) (hk : 0 < T.k) (g : Polygon) (hg : g.Valid)
    (hc : G3D.inPlane g.plane.n g.plane.p g.center = true) : XC.ImgOf T g (T.face g) :=
  ⟨T.face_valid hk g hg, by
    show G3D.inPlane (T.nrm g.plane.n) (T.pt g.plane.p) (T.pt g.center) = true
    rw [T.inPlane_nrm hk]; exact hc, XC.mem_face_pts T g⟩

/-- what `ConvexPolygon` stores for the transformed points (`XC.mk?_xf`) -/
theorem XC.imgOf_img (T : Xf) (hk : 0 < T.k) (g : Polygon) (hg : g.Valid)
    (hc : G3D.inPlane g.plane.n g.plane.p g.center = true) : XC.ImgOf T g (XC.img T g) :=
  ⟨XC.img_valid T hk g hg, XC.center_inPlane T hk g hc, fun _ => Iff.rfl⟩

/-- ANY successful `ConvexPolygon(points, reverse)` on a listing of the transformed vertices -/
theorem XC.imgOf_mk? (T : Xf) (hk : 0 < T.k) (g : Polygon) (hg : g.Valid) (i : List V3) (rev : Bool) (g' : Polygon)
    (hset : ∀ p, p ∈ i ↔ p ∈ T.pts g.pts) (h : Polygon.mk? i rev = .ok g') :
    XC.ImgOf T g g' ∧ g'.CentreInside := by
  obtain ⟨hr, hci⟩ := Reoriented.of_mk? (T.polygon g) (T.polygon_valid hk g hg) i rev g' hset h
  exact ⟨⟨hr.valid, hr.center, hr.same_verts⟩, hci⟩

theorem XC.centreInside_polygon (T : Xf) (hk : 0 < T.k) (g : Polygon) (hc : g.CentreInside) :
    (T.polygon g).CentreInside :=
  hc.map T.pt fun a b c h => by rw [T.orient_pnrm]; exact mul_nonneg (pow_pos hk 2).le h

/-- an image of a re-oriented copy of `f` is a re-oriented copy of the image face `T.face f` -/
theorem XC.reoriented_face (T : Xf) {f g g' : Polygon} (hr : Reoriented f g) (hi : XC.ImgOf T g g') :
    Reoriented (T.face f) g' :=
  ⟨hi.valid, hi.center, fun p => by
    rw [hi.same_verts p, XC.mem_face_pts, T.mem_pts, T.mem_pts]
    exact exists_congr fun x => and_congr_left' (hr.same_verts x)⟩

theorem XC.forall₂_reoriented_face (T : Xf) {F input : List Polygon} (hrel : List.Forall₂ Reoriented F input) :
    ∀ {input' : List Polygon}, List.Forall₂ (XC.ImgOf T) input input' → List.Forall₂ Reoriented (F.map T.face) input' := by
  induction hrel with
  | nil => intro _ h; cases h; exact List.Forall₂.nil
  | cons hr _ ih => intro _ h; cases h with | cons hi h' => exact List.Forall₂.cons (XC.reoriented_face T hr hi) (ih h')

/-! ### the usual image inputs -/
/-- the faces `ConvexPolygon` builds from the transformed points (`XC.mk?_xf`) -/
theorem XC.forall₂_imgOf_img (T : Xf) (hk : 0 < T.k) (F input : List Polygon)
    (hrel : List.Forall₂ Reoriented F input) : List.Forall₂ (XC.ImgOf T) input (input.map (XC.img T)) :=
  Forall₂.map_self _ input (fun g hg => by
    obtain ⟨_, _, hr⟩ := Forall₂.exists_left hrel g hg
    exact XC.imgOf_img T hk g hr.valid hr.center)

/-- the transformed polygons `T.polygon g` (same vertex order, pseudo-vector normal) -/
theorem XC.forall₂_imgOf_polygon (T : Xf) (hk : 0 < T.k) (F input : List Polygon)
    (hrel : List.Forall₂ Reoriented F input) : List.Forall₂ (XC.ImgOf T) input (input.map T.polygon) :=
  Forall₂.map_self _ input (fun g hg => by
    obtain ⟨_, _, hr⟩ := Forall₂.exists_left hrel g hg
    exact XC.imgOf_polygon T hk g hr.valid hr.center)

theorem XC.centreInside_map_img (T : Xf) (hk : 0 < T.k) (input : List Polygon)
    (hc : ∀ g ∈ input, g.CentreInside) : ∀ g' ∈ input.map (XC.img T), g'.CentreInside := by
  intro g' hg'
  obtain ⟨g, hg, rfl⟩ := List.mem_map.mp hg'
  exact XC.img_centreInside T hk g (hc g hg)

theorem XC.centreInside_map_polygon (T : Xf) (hk : 0 < T.k) (input : List Polygon)
    (hc : ∀ g ∈ input, g.CentreInside) : ∀ g' ∈ input.map T.polygon, g'.CentreInside := by
  intro g' hg'
  obtain ⟨g, hg, rfl⟩ := List.mem_map.mp hg'
  exact XC.centreInside_polygon T hk g (hc g hg)

/-- a whole face list built by `ConvexPolygon(points, reverse)` from transformed point lists: same exception, or the
    list of image records -/
theorem XC.mapM_mk?_xf (T : Xf) (hk : 0 < T.k) : ∀ pls : List (List V3 × Bool),
    (pls.map (fun pr => (T.pts pr.1, pr.2))).mapM (fun pr => Polygon.mk? pr.1 pr.2) =
      (pls.mapM (fun pr => Polygon.mk? pr.1 pr.2)).map (List.map (XC.img T)) := by
  intro pls
  induction pls with
  | nil => rfl
  | cons pr pls ih =>
    rw [List.map_cons, List.mapM_cons, List.mapM_cons, ih]
    simp only [XC.mk?_xf T hk]
    cases Polygon.mk? pr.1 pr.2 with
    | error e => rfl
    | ok P =>
      cases List.mapM (fun pr => Polygon.mk? pr.1 pr.2) pls with
      | error e => rfl
      | ok Ps => rfl

end G3D
