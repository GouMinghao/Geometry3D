import G3D.Proofs.Polygon
import Mathlib.Algebra.BigOperators.Group.List.Basic

namespace G3D
open V3

/-! ### every vertex of a positively oriented cycle passes every edge test, strictly unless it is on the edge -/

theorem orient_cyc (n a b c : V3) : orient n a b c = orient n b c a := by
  simp only [orient, dot, cross, sub]; ring

theorem orient_self_left (n a b : V3) : orient n a b a = 0 := by
  simp only [orient, dot, cross, sub]; ring

theorem orient_self_right (n a b : V3) : orient n a b b = 0 := by
  simp only [orient, dot, cross, sub]; ring

theorem consec_sublist : ∀ (m : List V3) (c d : V3), (c, d) ∈ consec m → List.Sublist [c, d] m := by
  intro m
  induction m with
  | nil => intro c d h; simp [consec] at h
  | cons a m ih =>
    intro c d h
    cases m with
    | nil => simp [consec] at h
    | cons b l =>
      simp only [consec, List.mem_cons] at h
      rcases h with h | h
      · cases h
        exact List.Sublist.cons₂ _ (List.Sublist.cons₂ _ (List.nil_sublist _))
      · exact List.Sublist.cons _ (ih c d h)

theorem triplesPos_tail {n a : V3} {l : List V3} (h : triplesPos n (a :: l)) : triplesPos n l := h.2

theorem consec_append_singleton : ∀ (m : List V3) (x : V3) (hm : m ≠ []),
    consec (m ++ [x]) = consec m ++ [(m.getLast hm, x)] := by
  intro m
  induction m with
  | nil => intro x hm; exact absurd rfl hm
  | cons a m ih =>
    intro x hm
    cases m with
    | nil => simp [consec]
    | cons b l =>
      have := ih x (by simp)
      simp only [List.cons_append, consec] at this ⊢
      rw [this]; simp

theorem consec_append_singleton' (m : List V3) (y x : V3) :
    consec (m ++ [y] ++ [x]) = consec (m ++ [y]) ++ [(y, x)] := by
  rw [consec_append_singleton (m ++ [y]) x (List.append_ne_nil_of_right_ne_nil _ (List.cons_ne_nil _ _)),
    List.getLast_append_singleton]

theorem path_edges_pos (n : V3) : ∀ (m : List V3), triplesPos n m →
    ∀ e ∈ consec m, ∀ v ∈ m, 0 < orient n e.1 e.2 v ∨ v = e.1 ∨ v = e.2 := by
  intro m
  induction m with
  | nil => intro _ e he; simp [consec] at he
  | cons a m ih =>
    intro htp e he v hv
    cases m with
    | nil => simp [consec] at he
    | cons b l =>
      simp only [consec, List.mem_cons] at he
      rcases he with rfl | he
      · simp only [List.mem_cons] at hv
        rcases hv with rfl | rfl | hv
        · exact Or.inr (Or.inl rfl)
        · exact Or.inr (Or.inr rfl)
        · exact Or.inl (htp.1 b v (List.Sublist.cons₂ _ (List.singleton_sublist.mpr hv)))
      · rcases List.mem_cons.mp hv with rfl | hv
        · have hs := consec_sublist (b :: l) e.1 e.2 he
          left; rw [orient_cyc, orient_cyc]; exact htp.1 e.1 e.2 hs
        · exact ih htp.2 e he v hv

theorem closed_edges_pos (n : V3) (l : List V3) (htp : triplesPos n l) :
    ∀ e ∈ closedPairs l, ∀ v ∈ l, 0 < orient n e.1 e.2 v ∨ v = e.1 ∨ v = e.2 := by
  cases l with
  | nil => intro e he; simp [closedPairs] at he
  | cons p0 rest =>
    intro e he v hv
    rcases List.eq_nil_or_concat' rest with rfl | ⟨d, z, rfl⟩
    · have : closedPairs [p0] = [(p0, p0)] := by simp [closedPairs, consec]
      rw [this, List.mem_singleton] at he
      subst he; simp at hv; exact Or.inr (Or.inl hv)
    · have hcp : closedPairs (p0 :: (d ++ [z])) = consec (p0 :: (d ++ [z])) ++ [(z, p0)] := by
        simp only [closedPairs]
        have := consec_append_singleton' (p0 :: d) z p0
        simpa using this
      rw [hcp] at he
      rcases List.mem_append.mp he with he | he
      · exact path_edges_pos n _ htp e he v hv
      · simp only [List.mem_singleton] at he
        subst he
        simp only
        rcases List.mem_cons.mp hv with rfl | hvr
        · exact Or.inr (Or.inr rfl)
        · rcases List.mem_append.mp hvr with hvd | hvz
          · have hs : List.Sublist [v, z] (d ++ [z]) := by
              have : List.Sublist [v] d := List.singleton_sublist.mpr hvd
              simpa using List.Sublist.append this (List.Sublist.refl [z])
            left; rw [orient_cyc]; exact htp.1 v z hs
          · simp at hvz; exact Or.inr (Or.inl hvz)

/-- all vertices pass all (closed) edge tests -/
theorem closed_edges_nonneg (n : V3) (l : List V3) (htp : triplesPos n l) :
    ∀ e ∈ closedPairs l, ∀ v ∈ l, 0 ≤ orient n e.1 e.2 v := by
  intro e he v hv
  rcases closed_edges_pos n l htp e he v hv with h | rfl | rfl
  · exact le_of_lt h
  · rw [orient_self_left]
  · rw [orient_self_right]

/-! ### linearity: the hull passes the tests -/
theorem dot_comb (n q : V3) : ∀ (ws : List Rat) (ps : List V3), ws.length = ps.length →
    dot n (sub (add (comb ws ps) (smul (1 - ws.sum) q)) q) =
      (List.zipWith (fun w p => w * dot n (sub p q)) ws ps).sum := by
  intro ws
  induction ws with
  | nil =>
    intro ps h; cases ps
    · simp [comb, dot, sub, add, smul, zero]
    · simp at h
  | cons w ws ih =>
    intro ps h
    cases ps with
    | nil => simp at h
    | cons p ps =>
      have := ih ps (by simpa using h)
      simp only [List.zipWith_cons_cons, List.sum_cons, comb] at this ⊢
      rw [← this]
      simp only [dot, sub, add, smul]
      ring

theorem comb_exposed (d p : V3) : ∀ (ws : List Rat) (ps : List V3), ws.length = ps.length →
    (∀ w ∈ ws, 0 ≤ w) → (∀ q ∈ ps, q ≠ p → dot d q < dot d p) →
    ((ws.sum = 0 ∨ p ∈ ps) ∧ comb ws ps = smul ws.sum p) ∨ dot d (comb ws ps) < ws.sum * dot d p := by
  intro ws
  induction ws with
  | nil =>
    intro ps h _ _
    cases ps with
    | nil => exact Or.inl ⟨Or.inl rfl, by apply V3.ext' <;> simp [comb, smul, zero]⟩
    | cons _ _ => simp at h
  | cons w ws ih =>
    intro ps h hw hq
    cases ps with
    | nil => simp at h
    | cons q ps =>
      have hw0 : 0 ≤ w := hw w List.mem_cons_self
      have ih' := ih ps (Nat.add_right_cancel h) (fun w' h' => hw w' (List.mem_cons_of_mem _ h'))
        (fun q' h' => hq q' (List.mem_cons_of_mem _ h'))
      have hdot : dot d (comb (w :: ws) (q :: ps)) = w * dot d q + dot d (comb ws ps) := by
        simp only [comb, dot, add, smul]; ring
      have hsm : ∀ s : Rat, dot d (smul s p) = s * dot d p := by
        intro s; simp only [dot, smul]; ring
      rw [List.sum_cons]
      by_cases hqp : q = p
      · rcases ih' with ⟨_, hc⟩ | hlt
        · refine Or.inl ⟨Or.inr (hqp ▸ List.mem_cons_self), ?_⟩
          simp only [comb]
          rw [hc, hqp]
          apply V3.ext' <;> simp only [add, smul] <;> ring
        · right
          rw [hdot, hqp]
          linarith
      · by_cases hwz : w = 0
        · rcases ih' with ⟨hor, hc⟩ | hlt
          · refine Or.inl ⟨?_, ?_⟩
            · rcases hor with h0 | hm
              · exact Or.inl (by rw [hwz, h0]; ring)
              · exact Or.inr (List.mem_cons_of_mem _ hm)
            · simp only [comb]
              rw [hc, hwz]
              apply V3.ext' <;> simp only [add, smul] <;> ring
          · right
            rw [hdot, hwz]
            linarith
        · have hwpos : 0 < w := lt_of_le_of_ne hw0 (Ne.symm hwz)
          have hlt' : dot d q < dot d p := hq q List.mem_cons_self hqp
          have hwq : w * dot d q < w * dot d p := mul_lt_mul_of_pos_left hlt' hwpos
          right
          rcases ih' with ⟨_, hc⟩ | hlt
          · rw [hdot, hc, hsm]; linarith
          · rw [hdot]; linarith

theorem hull_exposed {L : List V3} {x d p : V3} (hx : InHull L x)
    (hexp : ∀ q ∈ L, q ≠ p → dot d q < dot d p) : x = p ∨ dot d x < dot d p := by
  obtain ⟨ws, hlen, hnn, hsum, hc⟩ := hx
  rcases comb_exposed d p ws L hlen hnn hexp with ⟨_, h⟩ | h
  · left
    rw [← hc, h, hsum]
    apply V3.ext' <;> simp [smul]
  · right
    rw [hc, hsum] at h
    linarith

theorem orient_eq_dot (n a b x : V3) : orient n a b x = dot (cross n (sub b a)) (sub x a) := by
  simp only [orient, dot, cross, sub]; ring

theorem orient_comb (n a b : V3) (ws : List Rat) (ps : List V3) (h : ws.length = ps.length) :
    orient n a b (add (comb ws ps) (smul (1 - ws.sum) a)) =
      (List.zipWith (fun w p => w * orient n a b p) ws ps).sum := by
  simp only [orient_eq_dot]; exact dot_comb _ a ws ps h

/-- for weights summing to one the correction term of `orient_comb` / `dot_comb` vanishes -/
theorem add_smul_one_sub_one (x q : V3) : add x (smul (1 - 1) q) = x := by
  apply V3.ext' <;> simp only [add, smul] <;> ring

theorem orient_comb_hull {ws : List Rat} {ps : List V3} (hlen : ws.length = ps.length) (hsum : ws.sum = 1)
    {n a b : V3} : orient n a b (comb ws ps) = (List.zipWith (fun w p => w * orient n a b p) ws ps).sum := by
  rw [← orient_comb n a b ws ps hlen, hsum, add_smul_one_sub_one]

theorem dot_comb_hull {ws : List Rat} {ps : List V3} (hlen : ws.length = ps.length) (hsum : ws.sum = 1)
    {n q : V3} : dot n (sub (comb ws ps) q) = (List.zipWith (fun w p => w * dot n (sub p q)) ws ps).sum := by
  rw [← dot_comb n q ws ps hlen, hsum, add_smul_one_sub_one]

theorem sum_zipWith_nonneg : ∀ (ws : List Rat) (ps : List V3) (f : V3 → Rat),
    (∀ w ∈ ws, 0 ≤ w) → (∀ p ∈ ps, 0 ≤ f p) → 0 ≤ (List.zipWith (fun w p => w * f p) ws ps).sum := by
  intro ws
  induction ws with
  | nil => intro ps f _ _; simp
  | cons w ws ih =>
    intro ps f hw hf
    cases ps with
    | nil => simp
    | cons p ps =>
      simp only [List.zipWith_cons_cons, List.sum_cons]
      have h1 : 0 ≤ w * f p := mul_nonneg (hw w (by simp)) (hf p (by simp))
      have h2 := ih ps f (fun w' h => hw w' (by simp [h])) (fun p' h => hf p' (by simp [h]))
      linarith

theorem sum_zipWith_zero : ∀ (ws : List Rat) (ps : List V3) (f : V3 → Rat),
    (∀ p ∈ ps, f p = 0) → (List.zipWith (fun w p => w * f p) ws ps).sum = 0 := by
  intro ws
  induction ws with
  | nil => intro ps f _; simp
  | cons w ws ih =>
    intro ps f hf
    cases ps with
    | nil => simp
    | cons p ps =>
      simp only [List.zipWith_cons_cons, List.sum_cons]
      rw [hf p (by simp), ih ps f (fun p' h => hf p' (by simp [h]))]; ring

/-- C05 (polygon): for a coplanar, positively oriented vertex cycle, the implementation's test
    (in the plane, on the inner side of every directed edge) holds exactly on the convex hull. -/
theorem polyContains_iff_hull (n pl : V3) (p0 p1 p2 : V3) (rest : List V3)
    (hpl : ∀ p ∈ p0 :: p1 :: p2 :: rest, inPlane n pl p = true)
    (htp : triplesPos n (p0 :: p1 :: p2 :: rest)) (x : V3) :
    polyContains n pl (p0 :: p1 :: p2 :: rest) x = true ↔ InHull (p0 :: p1 :: p2 :: rest) x := by
  constructor
  · intro h
    unfold polyContains at h
    rw [Bool.and_eq_true, List.all_eq_true] at h
    exact poly_hull n pl x h.1 rest p0 p1 p2 hpl htp (fun e he => by simpa using h.2 e he)
  · rintro ⟨ws, hlen, hnn, hsum, rfl⟩
    unfold polyContains
    rw [Bool.and_eq_true, List.all_eq_true]
    constructor
    · rw [inPlane, beq_iff_eq, dot_comb_hull hlen hsum]
      exact sum_zipWith_zero ws _ (fun p => dot n (sub p pl))
        (fun p hp => by simpa [inPlane] using hpl p hp)
    · intro e he
      rw [decide_eq_true_eq, orient_comb_hull hlen hsum]
      exact sum_zipWith_nonneg ws _ (fun p => orient n e.1 e.2 p) hnn
        (fun p hp => closed_edges_nonneg n _ htp e he p hp)
#print axioms polyContains_iff_hull
end G3D
