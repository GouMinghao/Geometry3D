import G3D.Proofs.TolGeoBase
import G3D.Extracted.Kvec
import G3D.Extracted.Kvecr
import G3D.Extracted.Kmember
import G3D.Extracted.Kmemberr
import G3D.Proofs.KTieKvecPar
import G3D.Proofs.KTieKmemberr
import Mathlib.Tactic.NormNum

/-! # The hand-written tolerance model IS the extracted comparison on the extracted operands

    `G3D/Model/TolGeo.lean` mirrors the Python formulas by hand.  `G3D/Extracted/Kvec.lean`, `Kmember.lean` (ℚ) and
    `G3D/Extracted/Kvecr.lean`, `Kmemberr.lean` (ℝ, with √) are regenerated from the running code: every tolerance comparison is
    recorded as an operand term (`impl_*_residual`, `_scale`, `_rel`, `_startDist`, `_proj`) and a shape string
    (`impl_*_shape`, or the entries of `impl_*_path` in the order in which the code asks them).

    `evalShape` below gives the recorded shape strings their meaning.  Each theorem states that a `TolGeo` predicate is
    `evalShape (recorded shape) eps (recorded operand) (recorded scale)`, combined in the recorded order.  The shape is
    taken FROM the generated constant (not retyped), so a change of an operand, of a comparison, of a right-hand side
    or of the order of the tests in the source changes the generated file and breaks a proof here. -/
namespace G3D.TolGeo
open R3 G3D.Extracted

/-! ## meaning of the recorded comparison shapes -/

/-- the five comparison shapes that occur in the generated files; `R` is the recorded operand, `S` the recorded scale -/
def evalShape (shape : String) (eps R S : ℝ) : Prop :=
  if shape = "abs(R) < eps" then |R| < eps
  else if shape = "abs(R) < (eps * S)" then |R| < eps * S
  else if shape = "R > -eps" then R > -eps
  else if shape = "R < eps" then R < eps
  else if shape = "R < (1 + eps)" then R < 1 + eps
  else False

/-- the shape of the `i`-th comparison on a recorded path -/
def shapeAt (path : List (String × Bool)) (i : Nat) : String := (path.getD i ("", false)).1

/-- the answer scripted for the `i`-th comparison on a recorded path -/
def answerAt (path : List (String × Bool)) (i : Nat) : Bool := (path.getD i ("", false)).2

theorem evalShape_abs (eps R S : ℝ) : evalShape "abs(R) < eps" eps R S ↔ |R| < eps := by
  simp [evalShape]
theorem evalShape_absScaled (eps R S : ℝ) : evalShape "abs(R) < (eps * S)" eps R S ↔ |R| < eps * S := by
  simp [evalShape]
theorem evalShape_gtNeg (eps R S : ℝ) : evalShape "R > -eps" eps R S ↔ R > -eps := by
  simp [evalShape]
theorem evalShape_lt (eps R S : ℝ) : evalShape "R < eps" eps R S ↔ R < eps := by
  simp [evalShape]
theorem evalShape_ltOne (eps R S : ℝ) : evalShape "R < (1 + eps)" eps R S ↔ R < 1 + eps := by
  simp [evalShape]

/-! ## the shape constants relied upon (checked by evaluation; any change in the generated files breaks these) -/

theorem shapes_real :
    impl_parallel_shape = "abs(R) < (eps * S)" ∧
    impl_lineContains_shape = "abs(R) < (eps * S)" ∧
    impl_planeContainsN_shape = "abs(R) < eps" := by decide +kernel

theorem shapes_rat :
    impl_planeContains_shape = "abs(R) < eps" ∧ impl_orthogonal_shape = "abs(R) < eps" ∧
    impl_halfLineContains_shape = "R > -eps" := by decide +kernel

/-- **branch order of `Vector.parallel`** as recorded: on the path that reaches the final test the code asks
    `self == zero` (first coordinate, answered False), `other == zero`, `self == other`, and only then
    `abs(R) < eps * S`; the three shortcut paths end with three `abs(R) < eps` answered True, after one more failed
    test for each earlier shortcut.  This is the order of the disjuncts of `parallelT`. -/
theorem parallel_paths :
    impl_parallel_path = [("abs(R) < eps", false), ("abs(R) < eps", false), ("abs(R) < eps", false),
      ("abs(R) < (eps * S)", true)] ∧
    impl_parallelSelfZero_path = [("abs(R) < eps", true), ("abs(R) < eps", true), ("abs(R) < eps", true)] ∧
    impl_parallelOtherZero_path = [("abs(R) < eps", false), ("abs(R) < eps", true), ("abs(R) < eps", true),
      ("abs(R) < eps", true)] ∧
    impl_parallelEqual_path = [("abs(R) < eps", false), ("abs(R) < eps", false), ("abs(R) < eps", true),
      ("abs(R) < eps", true), ("abs(R) < eps", true)] := by decide +kernel

/-- the operands of the three failed tests on the main path are, in this order, the first operands of the self-zero,
    other-zero and equal shortcuts -/
theorem parallel_pre_order (a b : RVec) :
    impl_parallel_pre0 a b = impl_parallelSelfZero_residual0 a b ∧
    impl_parallel_pre1 a b = impl_parallelOtherZero_residual0 a b ∧
    impl_parallel_pre2 a b = impl_parallelEqual_residual0 a b := ⟨rfl, rfl, rfl⟩

theorem other_paths :
    impl_lineContains_path = impl_parallel_path ∧
    impl_planeContainsN_path = [("abs(R) < eps", true)] ∧
    impl_vectorEq_path = [("abs(R) < eps", true), ("abs(R) < eps", true), ("abs(R) < eps", true)] ∧
    impl_pointEq_path = [("abs(R) < eps", true), ("abs(R) < eps", true), ("abs(R) < eps", true)] ∧
    impl_segContains_path = [("abs(R) < eps", false), ("abs(R) < eps", false), ("abs(R) < eps", false),
      ("abs(R) < (eps * S)", true), ("R < eps", false), ("R > -eps", true), ("R < (1 + eps)", true)] ∧
    impl_segContainsStart_path = [("abs(R) < eps", false), ("abs(R) < eps", false), ("abs(R) < eps", false),
      ("abs(R) < (eps * S)", false), ("R < eps", true)] ∧
    impl_halfLineContains_path = [("abs(R) < eps", false), ("abs(R) < eps", false), ("abs(R) < eps", false),
      ("abs(R) < (eps * S)", true), ("R > -eps", true)] := by decide +kernel

/-! ## `R3 ↔ RVec` -/

/-- a `TolGeo` triple as a triple of the generated files -/
def _root_.G3D.TolGeo.R3.toRVec (a : R3) : RVec := ⟨a.x, a.y, a.z⟩
/-- and back -/
def _root_.G3D.TolGeo.R3.ofRVec (a : RVec) : R3 := ⟨a.x, a.y, a.z⟩
/-- a rational model vector as a `TolGeo` triple -/
def _root_.G3D.TolGeo.R3.ofV3 (a : V3) : R3 := ⟨(a.x : ℝ), (a.y : ℝ), (a.z : ℝ)⟩

@[simp] theorem toRVec_x (a : R3) : a.toRVec.x = a.x := rfl
@[simp] theorem toRVec_y (a : R3) : a.toRVec.y = a.y := rfl
@[simp] theorem toRVec_z (a : R3) : a.toRVec.z = a.z := rfl
@[simp] theorem ofRVec_toRVec (a : R3) : R3.ofRVec a.toRVec = a := rfl
@[simp] theorem toRVec_ofRVec (a : RVec) : (R3.ofRVec a).toRVec = a := rfl
@[simp] theorem ofV3_x (a : V3) : (R3.ofV3 a).x = (a.x : ℝ) := rfl
@[simp] theorem ofV3_y (a : V3) : (R3.ofV3 a).y = (a.y : ℝ) := rfl
@[simp] theorem ofV3_z (a : V3) : (R3.ofV3 a).z = (a.z : ℝ) := rfl
theorem ofV3_toRVec (a : V3) : (R3.ofV3 a).toRVec = a.toR := rfl

@[simp] theorem toRVec_zero : R3.zero.toRVec = RVec.zero := rfl
@[simp] theorem toRVec_add (a b : R3) : (add a b).toRVec = RVec.add a.toRVec b.toRVec := rfl
@[simp] theorem toRVec_sub (a b : R3) : (sub a b).toRVec = RVec.sub a.toRVec b.toRVec := rfl
@[simp] theorem toRVec_smul (k : ℝ) (a : R3) : (smul k a).toRVec = RVec.smul k a.toRVec := rfl
@[simp] theorem toRVec_cross (a b : R3) : (cross a b).toRVec = RVec.cross a.toRVec b.toRVec := rfl
@[simp] theorem toRVec_dot (a b : R3) : RVec.dot a.toRVec b.toRVec = dot a b := rfl
@[simp] theorem toRVec_normSq (a : R3) : RVec.normSq a.toRVec = dot a a := rfl

/-- the code's `v * v` as it is recorded: `0 + x*x + y*y + z*z` -/
theorem sum0' (a : R3) : (0 : ℝ) + a.x * a.x + a.y * a.y + a.z * a.z = dot a a := by
  simp only [dot]; ring

/-- the dot product of casts is the cast of the recorded rational sum -/
theorem ofV3_dot (a b : V3) :
    dot (R3.ofV3 a) (R3.ofV3 b) = (((0 : ℚ) + a.x * b.x + a.y * b.y + a.z * b.z : ℚ) : ℝ) := by
  simp only [dot, ofV3_x, ofV3_y, ofV3_z]; push_cast; ring

theorem ofV3_sub (a b : V3) : sub (R3.ofV3 a) (R3.ofV3 b) = R3.ofV3 (a.sub b) := by
  ext <;> simp [sub, V3.sub]

/-- `Vector.length` -/
theorem len_tie (a : R3) : impl_length a.toRVec = len a := by
  simp only [impl_length, toRVec_x, toRVec_y, toRVec_z, sum0', len]

/-- `Vector.normalized` (the code multiplies each coordinate by `1/|v|` on the right) -/
theorem normalized_tie (a : R3) : impl_normalized a.toRVec = (normalized a).toRVec := by
  simp only [impl_normalized, sum0', normalized, smul, R3.toRVec, len]
  congr 1 <;> ring

/-! ## Vector / Point equality -/

/-- `Vector.__eq__` executed on real symbols is recorded inside `Vector.parallel` (`self == other`):
    `vecEq` is the conjunction of the three recorded comparisons, in the recorded order -/
theorem vecEq_tie (eps : ℝ) (a b : R3) :
    vecEq eps a b ↔
      evalShape (shapeAt impl_parallelEqual_path 2) eps (impl_parallelEqual_residual0 a.toRVec b.toRVec) 0 ∧
      evalShape (shapeAt impl_parallelEqual_path 3) eps (impl_parallelEqual_residual1 a.toRVec b.toRVec) 0 ∧
      evalShape (shapeAt impl_parallelEqual_path 4) eps (impl_parallelEqual_residual2 a.toRVec b.toRVec) 0 := by
  simp [vecEq, evalShape, shapeAt, impl_parallelEqual_path, impl_parallelEqual_residual0,
    impl_parallelEqual_residual1, impl_parallelEqual_residual2]

/-- the stand-alone extraction of `Vector.__eq__` and `Point.__eq__` (rational symbols), on casts -/
theorem vecEq_tie_rat (eps : ℝ) (a b : V3) :
    (vecEq eps (R3.ofV3 a) (R3.ofV3 b) ↔
      evalShape (shapeAt impl_vectorEq_path 0) eps ((impl_vectorEq_residual0 a b : ℚ) : ℝ) 0 ∧
      evalShape (shapeAt impl_vectorEq_path 1) eps ((impl_vectorEq_residual1 a b : ℚ) : ℝ) 0 ∧
      evalShape (shapeAt impl_vectorEq_path 2) eps ((impl_vectorEq_residual2 a b : ℚ) : ℝ) 0) ∧
    (vecEq eps (R3.ofV3 a) (R3.ofV3 b) ↔
      evalShape (shapeAt impl_pointEq_path 0) eps ((impl_pointEq_residual0 a b : ℚ) : ℝ) 0 ∧
      evalShape (shapeAt impl_pointEq_path 1) eps ((impl_pointEq_residual1 a b : ℚ) : ℝ) 0 ∧
      evalShape (shapeAt impl_pointEq_path 2) eps ((impl_pointEq_residual2 a b : ℚ) : ℝ) 0) := by
  constructor <;>
  simp [vecEq, evalShape, shapeAt, impl_vectorEq_path, impl_vectorEq_residual0, impl_vectorEq_residual1,
    impl_vectorEq_residual2, impl_pointEq_path, impl_pointEq_residual0, impl_pointEq_residual1,
    impl_pointEq_residual2]

/-- `self == Vector.zero()` -/
theorem isZero_tie_self (eps : ℝ) (a b : R3) :
    isZero eps a ↔
      evalShape (shapeAt impl_parallelSelfZero_path 0) eps (impl_parallelSelfZero_residual0 a.toRVec b.toRVec) 0 ∧
      evalShape (shapeAt impl_parallelSelfZero_path 1) eps (impl_parallelSelfZero_residual1 a.toRVec b.toRVec) 0 ∧
      evalShape (shapeAt impl_parallelSelfZero_path 2) eps (impl_parallelSelfZero_residual2 a.toRVec b.toRVec) 0 := by
  simp [isZero, vecEq, R3.zero, evalShape, shapeAt, impl_parallelSelfZero_path, impl_parallelSelfZero_residual0,
    impl_parallelSelfZero_residual1, impl_parallelSelfZero_residual2]

/-- `other == Vector.zero()` -/
theorem isZero_tie_other (eps : ℝ) (a b : R3) :
    isZero eps b ↔
      evalShape (shapeAt impl_parallelOtherZero_path 1) eps (impl_parallelOtherZero_residual0 a.toRVec b.toRVec) 0 ∧
      evalShape (shapeAt impl_parallelOtherZero_path 2) eps (impl_parallelOtherZero_residual1 a.toRVec b.toRVec) 0 ∧
      evalShape (shapeAt impl_parallelOtherZero_path 3) eps (impl_parallelOtherZero_residual2 a.toRVec b.toRVec) 0 := by
  simp [isZero, vecEq, R3.zero, evalShape, shapeAt, impl_parallelOtherZero_path, impl_parallelOtherZero_residual0,
    impl_parallelOtherZero_residual1, impl_parallelOtherZero_residual2]

/-! ## `Vector.parallel` -/

/-- the recorded operand and scale of the final test -/
theorem parallel_operands (a b : R3) :
    impl_parallel_residual a.toRVec b.toRVec = |dot a b| - len a * len b ∧
    impl_parallel_scale a.toRVec b.toRVec = len a := by
  obtain ⟨h1, h2⟩ := G3D.KTie.Kvec.parallel_tie a.toRVec b.toRVec
  constructor
  · rw [h1]; rfl
  · rw [h2]; rfl

/-- the three shortcut tests and the final test, written with the recorded operands and shapes -/
def parallelExtracted (eps : ℝ) (a b : RVec) : Prop :=
  ((evalShape (shapeAt impl_parallelSelfZero_path 0) eps (impl_parallelSelfZero_residual0 a b) 0 ∧
      evalShape (shapeAt impl_parallelSelfZero_path 1) eps (impl_parallelSelfZero_residual1 a b) 0 ∧
      evalShape (shapeAt impl_parallelSelfZero_path 2) eps (impl_parallelSelfZero_residual2 a b) 0) ∨
    (evalShape (shapeAt impl_parallelOtherZero_path 1) eps (impl_parallelOtherZero_residual0 a b) 0 ∧
      evalShape (shapeAt impl_parallelOtherZero_path 2) eps (impl_parallelOtherZero_residual1 a b) 0 ∧
      evalShape (shapeAt impl_parallelOtherZero_path 3) eps (impl_parallelOtherZero_residual2 a b) 0)) ∨
  (evalShape (shapeAt impl_parallelEqual_path 2) eps (impl_parallelEqual_residual0 a b) 0 ∧
    evalShape (shapeAt impl_parallelEqual_path 3) eps (impl_parallelEqual_residual1 a b) 0 ∧
    evalShape (shapeAt impl_parallelEqual_path 4) eps (impl_parallelEqual_residual2 a b) 0) ∨
  evalShape impl_parallel_shape eps (impl_parallel_residual a b) (impl_parallel_scale a b)

/-- **`parallelT` is the extracted decision of `Vector.parallel`**: (self zero ∨ other zero) ∨ equal ∨ final test, each
    with the recorded operands, shapes and scale, in the recorded order (`parallel_paths`, `parallel_pre_order`) -/
theorem parallelT_tie (eps : ℝ) (a b : R3) : parallelT eps a b ↔ parallelExtracted eps a.toRVec b.toRVec := by
  unfold parallelT parallelExtracted
  rw [← isZero_tie_self eps a b, ← isZero_tie_other eps a b, ← vecEq_tie eps a b, shapes_real.1,
    evalShape_absScaled, (parallel_operands a b).1, (parallel_operands a b).2]

/-- the final comparison alone, and that the shape on the path is the shape constant -/
theorem parallel_final_tie (eps : ℝ) (a b : R3) :
    (|(|dot a b|) - len a * len b| < eps * len a ↔
      evalShape (shapeAt impl_parallel_path 3) eps (impl_parallel_residual a.toRVec b.toRVec)
        (impl_parallel_scale a.toRVec b.toRVec)) ∧
    shapeAt impl_parallel_path 3 = impl_parallel_shape := by
  have hs : shapeAt impl_parallel_path 3 = impl_parallel_shape := by decide +kernel
  rw [hs, shapes_real.1, evalShape_absScaled, (parallel_operands a b).1, (parallel_operands a b).2]
  exact ⟨Iff.rfl, rfl⟩

/-! ## `Vector.orthogonal` (rational extraction) -/

theorem orthogonalT_tie_rat (eps : ℝ) (a b : V3) :
    orthogonalT eps (R3.ofV3 a) (R3.ofV3 b) ↔
      evalShape impl_orthogonal_shape eps ((impl_orthogonal_residual a b : ℚ) : ℝ) 0 := by
  rw [shapes_rat.2.1, evalShape_abs, orthogonalT, ofV3_dot]
  rfl

/-! ## `Line.__contains__(Point)` -/

/-- the recorded operands are those of `parallel` on `(x − sv, dv)` (the generated terms coincide syntactically) -/
theorem lineContains_operands (l : Line) (x : R3) :
    impl_lineContains_residual l.sv.toRVec l.dv.toRVec x.toRVec
      = |dot (sub x l.sv) l.dv| - len (sub x l.sv) * len l.dv ∧
    impl_lineContains_scale l.sv.toRVec l.dv.toRVec x.toRVec = len (sub x l.sv) := by
  obtain ⟨h1, h2⟩ := G3D.KTie.Kmember.lineContains_tie l.sv.toRVec l.dv.toRVec x.toRVec
  rw [h1, h2, ← toRVec_sub]
  exact parallel_operands (sub x l.sv) l.dv

/-- **`Line.containsT` is the extracted decision**: the shortcuts of `parallel` on `(x − sv, dv)`, then the recorded
    final test `evalShape impl_lineContains_shape eps impl_lineContains_residual impl_lineContains_scale` -/
theorem Line.containsT_tie (eps : ℝ) (l : Line) (x : R3) :
    Line.containsT eps l x ↔
      ((evalShape (shapeAt impl_parallelSelfZero_path 0) eps
            (impl_parallelSelfZero_residual0 (RVec.sub x.toRVec l.sv.toRVec) l.dv.toRVec) 0 ∧
          evalShape (shapeAt impl_parallelSelfZero_path 1) eps
            (impl_parallelSelfZero_residual1 (RVec.sub x.toRVec l.sv.toRVec) l.dv.toRVec) 0 ∧
          evalShape (shapeAt impl_parallelSelfZero_path 2) eps
            (impl_parallelSelfZero_residual2 (RVec.sub x.toRVec l.sv.toRVec) l.dv.toRVec) 0) ∨
        (evalShape (shapeAt impl_parallelOtherZero_path 1) eps
            (impl_parallelOtherZero_residual0 (RVec.sub x.toRVec l.sv.toRVec) l.dv.toRVec) 0 ∧
          evalShape (shapeAt impl_parallelOtherZero_path 2) eps
            (impl_parallelOtherZero_residual1 (RVec.sub x.toRVec l.sv.toRVec) l.dv.toRVec) 0 ∧
          evalShape (shapeAt impl_parallelOtherZero_path 3) eps
            (impl_parallelOtherZero_residual2 (RVec.sub x.toRVec l.sv.toRVec) l.dv.toRVec) 0)) ∨
      (evalShape (shapeAt impl_parallelEqual_path 2) eps
          (impl_parallelEqual_residual0 (RVec.sub x.toRVec l.sv.toRVec) l.dv.toRVec) 0 ∧
        evalShape (shapeAt impl_parallelEqual_path 3) eps
          (impl_parallelEqual_residual1 (RVec.sub x.toRVec l.sv.toRVec) l.dv.toRVec) 0 ∧
        evalShape (shapeAt impl_parallelEqual_path 4) eps
          (impl_parallelEqual_residual2 (RVec.sub x.toRVec l.sv.toRVec) l.dv.toRVec) 0) ∨
      evalShape impl_lineContains_shape eps (impl_lineContains_residual l.sv.toRVec l.dv.toRVec x.toRVec)
        (impl_lineContains_scale l.sv.toRVec l.dv.toRVec x.toRVec) := by
  unfold Line.containsT
  rw [parallelT_tie]
  unfold parallelExtracted
  rw [toRVec_sub, shapes_real.1, shapes_real.2.1]
  exact Iff.rfl

/-- `Line.eqT` is two extracted decisions: `Point(m.sv) in l` and `m.dv.parallel(l.dv)` -/
theorem Line.eqT_tie (eps : ℝ) (l m : Line) :
    Line.eqT eps l m ↔
      parallelExtracted eps (RVec.sub m.sv.toRVec l.sv.toRVec) l.dv.toRVec ∧
      parallelExtracted eps m.dv.toRVec l.dv.toRVec := by
  unfold Line.eqT Line.containsT
  rw [parallelT_tie, parallelT_tie, toRVec_sub]

/-! ## `Plane.__contains__(Point)` -/

/-- the normal STORED by the constructor: the generated `impl_planeCtor_n` (raw normal in, unit normal out) is the
    `n` field of `Plane.ofPN` -/
theorem planeCtor_tie (p r : R3) : impl_planeCtor_n p.toRVec r.toRVec = (Plane.ofPN p r).n.toRVec := by
  have : impl_planeCtor_n p.toRVec r.toRVec = impl_normalized r.toRVec := rfl
  rw [this, normalized_tie]; rfl

/-- **`Plane.containsT` on a plane as constructed** (`Plane.ofPN p r` stores `r/|r|`): the generated residual takes the
    RAW normal `r` and contains the normalisation, so the relation is
    `Plane.containsT eps (Plane.ofPN p r) x ↔ evalShape shape eps (impl_planeContainsN_residual p r x)` -/
theorem Plane.containsT_tie (eps : ℝ) (p r x : R3) :
    Plane.containsT eps (Plane.ofPN p r) x ↔
      evalShape impl_planeContainsN_shape eps (impl_planeContainsN_residual p.toRVec r.toRVec x.toRVec) 0 := by
  rw [shapes_real.2.2, evalShape_abs]
  unfold Plane.containsT Plane.ofPN
  have : impl_planeContainsN_residual p.toRVec r.toRVec x.toRVec
      = dot x (normalized r) - dot p (normalized r) := by
    simp only [impl_planeContainsN_residual, toRVec_x, toRVec_y, toRVec_z, sum0', dot, normalized, smul, len]
    ring
  rw [this]

/-- for an arbitrary stored pair `(p, n)` (what the rational extraction `impl_planeContains_residual` sees: the normal
    is used as stored), on casts of rational vectors -/
theorem Plane.containsT_tie_rat (eps : ℝ) (p n x : V3) :
    Plane.containsT eps ⟨R3.ofV3 p, R3.ofV3 n⟩ (R3.ofV3 x) ↔
      evalShape impl_planeContains_shape eps ((impl_planeContains_residual p n x : ℚ) : ℝ) 0 := by
  rw [shapes_rat.1, evalShape_abs, Plane.containsT, ofV3_dot, ofV3_dot, ← Rat.cast_sub]
  rfl

/-- the relation between the two extractions: with a raw normal of length 1 nothing changes; in general the
    residual on the stored unit normal is the raw residual divided by `|r|` -/
theorem planeContainsN_vs_raw (p r x : R3) :
    impl_planeContainsN_residual p.toRVec r.toRVec x.toRVec = (dot x r - dot p r) / len r := by
  simp only [impl_planeContainsN_residual, toRVec_x, toRVec_y, toRVec_z, sum0', dot, len]
  ring

/-- `Plane.eqT` on planes as constructed: `self.p in other` is the extracted point test, `self.n.parallel(other.n)` the
    extracted `parallel` on the two STORED normals (`impl_planeCtor_n`) -/
theorem Plane.eqT_tie (eps : ℝ) (p r q s : R3) :
    Plane.eqT eps (Plane.ofPN p r) (Plane.ofPN q s) ↔
      evalShape impl_planeContainsN_shape eps (impl_planeContainsN_residual q.toRVec s.toRVec p.toRVec) 0 ∧
      parallelExtracted eps (impl_planeCtor_n p.toRVec r.toRVec) (impl_planeCtor_n q.toRVec s.toRVec) := by
  unfold Plane.eqT
  rw [Plane.containsT_tie, parallelT_tie, planeCtor_tie, planeCtor_tie]
  exact Iff.rfl

/-! ## `Segment.__contains__(Point)` -/

theorem segContains_operands (S : Segment) (x : R3) :
    impl_segContains_startDist S.s.toRVec S.e.toRVec x.toRVec = len (sub x S.s) ∧
    impl_segContains_rel S.s.toRVec S.e.toRVec x.toRVec = Segment.rel S x ∧
    impl_segContains_lineResidual S.s.toRVec S.e.toRVec x.toRVec
      = impl_lineContains_residual S.line.sv.toRVec S.line.dv.toRVec x.toRVec ∧
    impl_segContains_lineScale S.s.toRVec S.e.toRVec x.toRVec
      = impl_lineContains_scale S.line.sv.toRVec S.line.dv.toRVec x.toRVec := by
  refine ⟨?_, ?_, rfl, rfl⟩
  · simp only [impl_segContains_startDist, toRVec_x, toRVec_y, toRVec_z, len, dot, sub, zero_add]
  · simp only [impl_segContains_rel, toRVec_x, toRVec_y, toRVec_z, Segment.rel, len, dot, sub, zero_add]

/-- **`Segment.containsT` is the extracted decision.**  Recorded order (`impl_segContains_path`): the carrier-line test
    (entries 0-3: three failed shortcut tests, then `abs(R) < (eps * S)`), the start-distance test `R < eps` (entry 4),
    `R > -eps` (entry 5) and `R < (1 + eps)` (entry 6) on the relative length. -/
theorem Segment.containsT_tie (eps : ℝ) (S : Segment) (x : R3) :
    Segment.containsT eps S x ↔
      evalShape (shapeAt impl_segContains_path 4) eps (impl_segContains_startDist S.s.toRVec S.e.toRVec x.toRVec) 0 ∨
      (¬ evalShape (shapeAt impl_segContains_path 4) eps
            (impl_segContains_startDist S.s.toRVec S.e.toRVec x.toRVec) 0 ∧
        (Line.containsT eps S.line x ∧
          evalShape (shapeAt impl_segContains_path 5) eps (impl_segContains_rel S.s.toRVec S.e.toRVec x.toRVec) 0 ∧
          evalShape (shapeAt impl_segContains_path 6) eps (impl_segContains_rel S.s.toRVec S.e.toRVec x.toRVec) 0)) := by
  obtain ⟨h1, h2, _, _⟩ := segContains_operands S x
  have s4 : shapeAt impl_segContains_path 4 = "R < eps" := by decide +kernel
  have s5 : shapeAt impl_segContains_path 5 = "R > -eps" := by decide +kernel
  have s6 : shapeAt impl_segContains_path 6 = "R < (1 + eps)" := by decide +kernel
  rw [s4, s5, s6, evalShape_lt, evalShape_gtNeg, evalShape_ltOne, h1, h2]
  exact Iff.rfl

/-- … and its carrier-line test is the extracted one with the segment's own operands -/
theorem Segment.lineTest_tie (eps : ℝ) (S : Segment) (x : R3) :
    (|(|dot (sub x S.s) (sub S.e S.s)|) - len (sub x S.s) * len (sub S.e S.s)| < eps * len (sub x S.s) ↔
      evalShape (shapeAt impl_segContains_path 3) eps (impl_segContains_lineResidual S.s.toRVec S.e.toRVec x.toRVec)
        (impl_segContains_lineScale S.s.toRVec S.e.toRVec x.toRVec)) := by
  obtain ⟨_, _, h3, h4⟩ := segContains_operands S x
  have s3 : shapeAt impl_segContains_path 3 = "abs(R) < (eps * S)" := by decide +kernel
  obtain ⟨o1, o2⟩ := lineContains_operands S.line x
  rw [s3, evalShape_absScaled, h3, h4, o1, o2]
  exact Iff.rfl

/-! ## `HalfLine.__contains__(Point)` -/

/-- the carrier-line operand is that of `Line(p, v)`; the constructor's length is `|v|` -/
theorem halfLine_operands (H : HalfLine) (x : R3) :
    impl_halfLineContains_lineResidual H.p.toRVec H.v.toRVec x.toRVec
      = impl_lineContains_residual H.line.sv.toRVec H.line.dv.toRVec x.toRVec ∧
    impl_halfLineCtor_length H.p.toRVec H.v.toRVec = len H.v := by
  refine ⟨rfl, ?_⟩
  simp only [impl_halfLineCtor_length, toRVec_x, toRVec_y, toRVec_z, sum0', len]

/-- the projection operand (rational extraction), on casts -/
theorem halfLine_proj_tie (p v x : V3) :
    dot (sub (R3.ofV3 x) (R3.ofV3 p)) (R3.ofV3 v) = ((impl_halfLineContains_proj p v x : ℚ) : ℝ) := by
  rw [ofV3_sub, ofV3_dot]
  rfl

/-- **`HalfLine.containsT` is the extracted decision** (on casts of rational vectors, where the projection operand is
    extracted): carrier-line test (entries 0-3 of `impl_halfLineContains_path`), then `R > -eps` (entry 4, the shape
    constant) on the recorded projection -/
theorem HalfLine.containsT_tie (eps : ℝ) (p v x : V3) :
    HalfLine.containsT eps ⟨R3.ofV3 p, R3.ofV3 v⟩ (R3.ofV3 x) ↔
      Line.containsT eps ⟨R3.ofV3 p, R3.ofV3 v⟩ (R3.ofV3 x) ∧
      evalShape impl_halfLineContains_shape eps ((impl_halfLineContains_proj p v x : ℚ) : ℝ) 0 := by
  rw [shapes_rat.2.2, evalShape_gtNeg, ← halfLine_proj_tie]
  exact Iff.rfl

theorem halfLine_shape_on_path : shapeAt impl_halfLineContains_path 4 = impl_halfLineContains_shape ∧
    shapeAt impl_halfLineContains_path 3 = impl_lineContains_shape := by decide +kernel

/-- `HalfLine.__eq__`: the compared quantity is built from the extracted `normalized` and `length` -/
theorem HalfLine.eqT_tie (eps : ℝ) (H K : HalfLine) :
    HalfLine.eqT eps H K ↔
      vecEq eps H.p K.p ∧
      impl_length (RVec.sub (impl_normalized H.v.toRVec) (impl_normalized K.v.toRVec)) < eps := by
  rw [normalized_tie, normalized_tie, ← toRVec_sub, len_tie]
  exact Iff.rfl

end G3D.TolGeo
