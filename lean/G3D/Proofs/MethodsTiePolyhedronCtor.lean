import G3D.Extracted.Mpolyhedron
import G3D.Proofs.MethodsTiePolyhedronShared
import G3D.Proofs.MethodsTiePolyhedronHelpers
import G3D.Proofs.Construct
/-! # Tie, group `mpolyhedron`, role CONSTRUCTION (C09; error branches C15): `Pyramid.__init__`, `ConvexPolyhedron.__init__` = `Polyhedron.mk?`, unconditional.
    Imports `MethodsTiePolyhedronHelpers` (`__init__` calls the three helper methods).  Conventions, trusted readings and the deviations found: `G3D.Proofs.MethodsTie`, header of `G3D.Model.PyRtM`. -/
set_option linter.style.nameCheck false
namespace G3D.Tie
open V3 PyRt Extracted

theorem new_Pyramid_eq (f : Polygon) (c : V3) (dc : Bool) :
    new_Pyramid (.obj (.polygon f)) (.obj (ptObj c)) (.bool dc) = pyPyramid (.obj (.polygon f)) (.obj (ptObj c)) (.bool dc) := by
  unfold new_Pyramid m_Pyramid___init__
  by_cases h : f.plane.contains c = true <;> simp [pyrt, h]

theorem new_ConvexPolyhedron_eq (fs : List Polygon) :
    new_ConvexPolyhedron (.seq (fs.map Obj.polygon)) = ofCtor Obj.polyhedron (Polyhedron.mk? fs) := by
  unfold new_ConvexPolyhedron m_ConvexPolyhedron___init__
  simp only [pyrt, Self.empty, List.map_map]
  conv in forIn _ _ _ => arg 2; change (fun st : List V3 × List Seg => setVE (initSelf fs) st.1 st.2) ([], [])
  rw [forIn_repr (Val.obj ∘ Obj.polygon) (fun st : List V3 × List Seg => setVE (initSelf fs) st.1 st.2) fs _ collectStep]
  rotate_left
  · intro f _ st
    exact collect_body_eq _ f st.1 st.2
  rw [collect_forIn]
  unfold Polyhedron.mk?
  cases collectEdges fs [] with
  | error e => rfl
  | ok es =>
    simp only [liftC, pyrt]
    rw [m_ConvexPolyhedron__get_center_point_eq _ (collectVerts fs) rfl]
    by_cases hvz : collectVerts fs = []
    · simp [hvz]
    have hlen0 : ¬ (collectVerts fs).length = 0 := by simpa using hvz
    simp only [hvz, if_false, pyrt, setVE, initSelf, pyFld_some, List.length_map, Int.sub_zero, Int.toNat_natCast, hlen0]
    conv in forIn _ _ _ => arg 2; change orientRepr fs (collectVerts fs) es (meanV (collectVerts fs)) []
    rw [forIn_repr_idx0 (orientRepr fs (collectVerts fs) es (meanV (collectVerts fs))) (fun k d => d.length = k) _
      (fun f d => do let r ← liftC (orientFace (meanV (collectVerts fs)) f); pure (ForInStep.yield (d ++ [r]))) fs [] rfl]
    rotate_left
    · -- one round: the face read at index `k = d.length` is `fs[k]`; it is replaced by its negation if the centre lies on
      -- its outer side, and its pyramid is added
      intro k f hf d hd
      replace hd : d.length = k := hd
      generalize meanV (collectVerts fs) = c
      generalize collectVerts fs = vs
      obtain ⟨hk, hfk⟩ := List.getElem?_eq_some_iff.mp hf
      have hdrop : fs.drop k = f :: fs.drop (k + 1) := by rw [List.drop_eq_getElem_cons hk, hfk]
      have hidx : pyIndexM (Val.seq ((d.map (·.1) ++ fs.drop d.length).map Obj.polygon)) (.int (k : Int)) =
          .ok (.obj (.polygon f)) := pyIndexM_seq_nat _ k _ (by rw [hd, hdrop]; simp [hd])
      have hlen : ((d.map (·.1) ++ fs.drop d.length).map Obj.polygon).length = fs.length := by
        simp [hd]; omega
      have hnorm : normIdx fs.length (k : Int) = some k := by simp [normIdx, hk]
      have hset : ∀ f' : Polygon, ((d.map (·.1) ++ fs.drop d.length).map Obj.polygon).set k (.polygon f') =
          (((d ++ [(f', (f, c))]).map (·.1) ++ fs.drop (d ++ [(f', (f, c))]).length).map Obj.polygon) := by
        intro f'
        subst hd
        rw [hdrop]
        simp [List.set_append_right]
      simp only [orientRepr, pyrt, hidx, Int.cast_zero]
      by_cases hflip : dot (sub f.plane.p c) f.plane.n < 0
      · simp only [hflip, decide_true, if_true, orientFace]
        cases hneg : f.neg? with
        | error e => rfl
        | ok f' =>
          simp only [liftC, pyrt, pySetItemM, hlen, hnorm, hset f']
          by_cases hc : f.plane.contains c = true
          · simp [hc]
          · simp [hc, pySetAddM, ForInStep.map', orientRepr, flatPyr_append, ptObj]
      · simp only [hflip, decide_false, if_false, Bool.false_eq_true, orientFace]
        by_cases hc : f.plane.contains c = true
        · simp [hc, liftC]
        · simp only [hc, if_false, Bool.false_eq_true, pyrt, pySetAddM, liftC, ForInStep.map', orientRepr, flatPyr_append, List.map_append, List.map_cons, List.map_nil]
          simp [hd, hdrop]
    · intro k f hf d d' hd hstep
      cases ho : liftC (orientFace (meanV (collectVerts fs)) f) with
      | error e => simp [ho] at hstep
      | ok r =>
        simp [ho] at hstep
        subst hstep
        simp [hd]
    rw [forIn_append_mapM, ← liftC_mapM]
    cases hfp : fs.mapM (orientFace (meanV (collectVerts fs))) with
    | error e => rfl
    | ok fp =>
      have hfl : fp.length = fs.length := mapM_length _ fs fp hfp
      have hfin : orientRepr fs (collectVerts fs) es (meanV (collectVerts fs)) ([] ++ fp) =
          Self.ofPolyhedron ⟨fp.map (·.1), collectVerts fs, es, fp.map (·.2), meanV (collectVerts fs)⟩ := by
        simp [orientRepr, Self.ofPolyhedron, hfl]
      simp only [liftC, pyrt, hfin, m_ConvexPolyhedron__check_normal_eq', m_ConvexPolyhedron__euler_check_eq', ← all_outward, List.length_map]
      by_cases hall : (fp.map (·.1)).all (outward (meanV (collectVerts fs))) = true
      · by_cases he : ((collectVerts fs).length : Int) - es.length + fp.length = 2 <;>
          simp [pyrt, hall, he, pyPack_ConvexPolyhedron_of]
      · simp [pyrt, hall]

end G3D.Tie
