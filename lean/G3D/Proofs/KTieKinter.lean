import G3D.Extracted.Kinter
import G3D.Model.InterFlat
import G3D.Proofs.Vec
/-! # kinter (rational part): `inter_line_plane`  (C01)
    `G3D.Extracted.impl_*` are regenerated on every run (tools/extract_kinter.py, engine tools/kernels_engine.py): the REAL code is run on
    symbolic numbers, every comparison against the tolerance is recorded (operands and shape) and answered from a scripted
    path.  Each kernel has its own `section`: when the walk of ONE kernel fails the generated file holds only the marker
    `impl_<kernel>_EXTRACTION_FAILED` for it and exactly the theorems of that section stop compiling. -/
namespace G3D.KTie.Kinter
open G3D V3 G3D.Extracted

section interLinePlane
theorem interLinePlane_tests_tie (l : Line) (pl : Plane) :
    impl_interLinePlane_containsResidual0 l.sv l.dv pl.p pl.n = dot l.sv pl.n - dot pl.p pl.n ∧
    impl_interLinePlane_parallelResidual0 l.sv l.dv pl.p pl.n = dot l.dv pl.n := by
  simp only [impl_interLinePlane_containsResidual0, impl_interLinePlane_parallelResidual0, dot, zero_add, and_self]

theorem interLinePlane_mu_tie (l : Line) (pl : Plane) :
    impl_interLinePlane_mu l.sv l.dv pl.p pl.n = (dot pl.n pl.p - dot pl.n l.sv) / dot pl.n l.dv := by
  simp only [impl_interLinePlane_mu, dot, Rat.zero_add]

theorem interLinePlane_point_tie (l : Line) (pl : Plane) :
    impl_interLinePlane_point l.sv l.dv pl.p pl.n
      = add l.sv (smul (impl_interLinePlane_mu l.sv l.dv pl.p pl.n) l.dv) :=
  V3.ext' (congrArg (l.sv.x + ·) (mul_comm ..)) (congrArg (l.sv.y + ·) (mul_comm ..)) (congrArg (l.sv.z + ·) (mul_comm ..))

/-- on the path walked by the extractor (`l` not contained, not parallel) the model returns the extracted point -/
theorem interLinePlane_tie (l : Line) (pl : Plane) (hc : pl.containsLine l = false)
    (hp : V3.orthogonal l.dv pl.n = false) :
    interLinePlane l pl = .ok (some (.point (impl_interLinePlane_point l.sv l.dv pl.p pl.n))) := by
  rw [interLinePlane_point_tie, interLinePlane_mu_tie]
  simp [interLinePlane, hc, hp]

/-- in particular whenever `n . dv ≠ 0` -/
theorem interLinePlane_tie' (l : Line) (pl : Plane) (h : dot pl.n l.dv ≠ 0) :
    interLinePlane l pl = .ok (some (.point (impl_interLinePlane_point l.sv l.dv pl.p pl.n))) := by
  have hp : V3.orthogonal l.dv pl.n = false := by
    simp only [V3.orthogonal, beq_eq_false_iff_ne, ne_eq]
    intro h0; apply h; simp only [dot] at h0 ⊢; linarith
  have hc : pl.containsLine l = false := by simp [Plane.containsLine, hp]
  exact interLinePlane_tie l pl hc hp

/-- the two recorded tests, read exactly, are the model's two guards -/
theorem interLinePlane_guards (l : Line) (pl : Plane) :
    (pl.containsLine l = true ↔ impl_interLinePlane_containsResidual0 l.sv l.dv pl.p pl.n = 0 ∧
        impl_interLinePlane_parallelResidual0 l.sv l.dv pl.p pl.n = 0) ∧
    (V3.orthogonal l.dv pl.n = true ↔ impl_interLinePlane_parallelResidual0 l.sv l.dv pl.p pl.n = 0) := by
  obtain ⟨h1, h2⟩ := interLinePlane_tests_tie l pl
  rw [h1, h2]
  simp only [Plane.containsLine, Plane.contains, V3.orthogonal, Bool.and_eq_true, beq_iff_eq, and_self]

theorem interLinePlane_paths :
    impl_interLinePlane_path = [("abs(R) < eps", false), ("abs(R) < eps", false)] ∧
    impl_interLinePlaneContained_path = [("abs(R) < eps", true), ("abs(R) < eps", true)] ∧
    impl_interLinePlaneParallel_path = [("abs(R) < eps", false), ("abs(R) < eps", true)] ∧
    impl_interLinePlaneSvInPlane_path = [("abs(R) < eps", true), ("abs(R) < eps", false), ("abs(R) < eps", false)] :=
  ⟨rfl, rfl, rfl, rfl⟩
end interLinePlane

end G3D.KTie.Kinter
