import G3D.Proofs.BodySoundAll
import G3D.Proofs.TypedHandlers

/-! # result ⊆ a ∩ b as POINT SETS (C12, third clause, set form), all 49 cells

    `BodySoundAll.lean` shows that every vertex / end point of a returned object lies in both operands.
    All operand denotations are convex, so the whole returned object — a Point, a Segment, the hull of the
    vertices of a returned ConvexPolygon / ConvexPolyhedron (`ObjDen`) — lies in both operands. -/
namespace G3D
open V3
open G3D.Dispatch (ResTy)

/-- closed under segments -/
def SegConvex (D : V3 → Prop) : Prop := ∀ u v x, D u → D v → Between u v x → D x

theorem comb_zero_weights : ∀ (ws : List Rat) (ps : List V3), (∀ w ∈ ws, w = 0) → comb ws ps = zero := by
  intro ws
  induction ws with
  | nil => intro ps _; cases ps <;> rfl
  | cons w ws ih =>
    intro ps h
    cases ps with
    | nil => rfl
    | cons p ps =>
      simp only [comb]
      rw [ih ps (fun w' hw' => h w' (by simp [hw'])), h w (by simp)]
      apply V3.ext' <;> simp [add, smul, zero]

/-- a set closed under segments contains the normalised non-negative combinations of its points -/
theorem conv_comb {D : V3 → Prop} (hD : SegConvex D) : ∀ (ws : List Rat) (ps : List V3), ws.length = ps.length →
    (∀ w ∈ ws, 0 ≤ w) → (∀ p ∈ ps, D p) → 0 < ws.sum → D (smul (1 / ws.sum) (comb ws ps)) := by
  intro ws
  induction ws with
  | nil => intro ps _ _ _ h; simp at h
  | cons w ws ih =>
    intro ps hlen hnn hps hpos
    cases ps with
    | nil => simp at hlen
    | cons p ps =>
      have hw : 0 ≤ w := hnn w (by simp)
      have hnn' : ∀ w' ∈ ws, 0 ≤ w' := fun w' h => hnn w' (by simp [h])
      have hS : 0 ≤ ws.sum := List.sum_nonneg hnn'
      rw [List.sum_cons] at hpos ⊢
      simp only [comb]
      rcases lt_or_eq_of_le hS with hSpos | hS0
      · -- the tail carries weight: a point between `p` and the normalised tail combination
        have hy := ih ps (by simpa using hlen) hnn' (fun q h => hps q (by simp [h])) hSpos
        refine hD p _ _ (hps p (by simp)) hy ⟨ws.sum / (w + ws.sum), ?_, ?_, ?_⟩
        · exact div_nonneg hS (le_of_lt hpos)
        · rw [div_le_one hpos]; linarith
        · have hT : w + ws.sum ≠ 0 := ne_of_gt hpos
          have hS' : ws.sum ≠ 0 := ne_of_gt hSpos
          generalize comb ws ps = q
          apply V3.ext' <;> simp only [add, smul, sub] <;> field_simp <;> ring
      · -- all the weight is on `p`
        have hz : ∀ w' ∈ ws, w' = 0 := all_zero_of_nonneg_sum_zero ws hnn' hS0.symm
        rw [comb_zero_weights ws ps hz, ← hS0]
        have hw0 : w ≠ 0 := by rw [← hS0] at hpos; linarith
        have : smul (1 / (w + 0)) (add (smul w p) zero) = p := by
          apply V3.ext' <;> simp only [add, smul, zero] <;> field_simp <;> ring
        rw [this]; exact hps p (by simp)

/-- the hull of points of a convex set lies in the set -/
theorem InHull.sub_of_conv {D : V3 → Prop} (hD : SegConvex D) (pts : List V3) (h : ∀ p ∈ pts, D p) (x : V3)
    (hx : InHull pts x) : D x := by
  obtain ⟨ws, hlen, hnn, hsum, rfl⟩ := hx
  have := conv_comb hD ws pts hlen hnn h (by rw [hsum]; norm_num)
  rw [hsum] at this
  have e : smul (1 / 1) (comb ws pts) = comb ws pts := by apply V3.ext' <;> simp [smul]
  rwa [e] at this

/-! ### every operand denotation is convex -/
theorem Line.den_conv (l : Line) : SegConvex l.den := by
  rintro u v x ⟨a, rfl⟩ ⟨b, rfl⟩ ⟨t, _, _, rfl⟩
  exact ⟨a + t * (b - a), by apply V3.ext' <;> simp only [add, smul, sub] <;> ring⟩

theorem Plane.den_conv (pl : Plane) : SegConvex pl.den := by
  rintro u v x hu hv ⟨t, _, _, rfl⟩
  simp only [Plane.den, dot, sub, add, smul] at hu hv ⊢
  linear_combination (1 - t) * hu + t * hv

theorem Seg.den_conv (s : Seg) : SegConvex s.den := by
  rintro u v x ⟨a, ha0, ha1, rfl⟩ ⟨b, hb0, hb1, rfl⟩ ⟨t, ht0, ht1, rfl⟩
  refine ⟨a + t * (b - a), ?_, ?_, by apply V3.ext' <;> simp only [add, smul, sub] <;> ring⟩
  · linarith [mul_nonneg ht0 hb0, mul_nonneg (sub_nonneg.mpr ht1) ha0]
  · linarith [mul_nonneg ht0 (sub_nonneg.mpr hb1), mul_nonneg (sub_nonneg.mpr ht1) (sub_nonneg.mpr ha1)]

theorem HalfLine.den_conv (h : HalfLine) : SegConvex h.den := by
  rintro u v x ⟨a, ha0, rfl⟩ ⟨b, hb0, rfl⟩ ⟨t, ht0, ht1, rfl⟩
  refine ⟨a + t * (b - a), ?_, by apply V3.ext' <;> simp only [add, smul, sub] <;> ring⟩
  linarith [mul_nonneg ht0 hb0, mul_nonneg (sub_nonneg.mpr ht1) ha0]

theorem OpDen_conv (a : Obj) : SegConvex (OpDen a) := by
  cases a with
  | flat g =>
    cases g with
    | point p =>
      rintro u v x hu hv hx
      simp only [OpDen, Geo.den] at hu hv ⊢
      subst hu; subst hv
      exact (Between_self _ x).mp hx
    | line l => exact l.den_conv
    | plane pl => exact pl.den_conv
    | seg s => exact s.den_conv
    | halfline h => exact h.den_conv
  | polygon P => exact fun _ _ _ hu hv hx => InHull.between hu hv hx
  | polyhedron B => exact fun _ _ _ hu hv hx => Polyhedron.contains_between B hu hv hx

/-- from vertices to point sets: if the result is not a Line / Plane / HalfLine, every point of it lies in both
    (convex) operands -/
theorem Sound.den_sub {r : ResB} {A B : V3 → Prop} (h : Sound r A B) (hA : SegConvex A) (hB : SegConvex B)
    (o : Option Obj) (ho : r = .ok o)
    (hty : resTyOf o ∈ [ResTy.none, .point, .seg, .polygon, .polyhedron]) :
    ∀ x, denOptB o x → A x ∧ B x := by
  obtain ⟨_, hv⟩ := h o ho
  intro x hx
  cases o with
  | none => exact absurd hx (by simp [denOptB])
  | some ob =>
    cases ob with
    | flat g =>
      cases g with
      | point q =>
        simp only [denOptB, ObjDen, Geo.den] at hx
        subst hx; exact hv x (by simp [resVerts])
      | seg s =>
        have ha := hv s.a (by simp [resVerts])
        have hb := hv s.b (by simp [resVerts])
        exact ⟨hA _ _ x ha.1 hb.1 hx, hB _ _ x ha.2 hb.2 hx⟩
      | _ => simp [resTyOf] at hty
    | polygon P =>
      exact ⟨InHull.sub_of_conv hA P.pts (fun p hp => (hv p hp).1) x hx,
        InHull.sub_of_conv hB P.pts (fun p hp => (hv p hp).2) x hx⟩
    | polyhedron R =>
      exact ⟨InHull.sub_of_conv hA R.verts (fun p hp => (hv p hp).1) x hx,
        InHull.sub_of_conv hB R.verts (fun p hp => (hv p hp).2) x hx⟩

theorem interRef_typed (a b : Obj) : (∃ f g, a = .flat f ∧ b = .flat g) ∨
    TyIn [.none, .point, .seg, .polygon, .polyhedron] (interRef a b) := by
  have h2 : [ResTy.none, .point] ⊆ [ResTy.none, .point, .seg, .polygon, .polyhedron] := by simp
  have h3 : [ResTy.none, .point, .seg] ⊆ [ResTy.none, .point, .seg, .polygon, .polyhedron] := by simp
  have h4 : [ResTy.none, .point, .seg, .polygon] ⊆ [ResTy.none, .point, .seg, .polygon, .polyhedron] := by simp
  have fp : ∀ g P, TyIn [.none, .point, .seg, .polygon, .polyhedron] (interRef (.flat g) (.polygon P)) := by
    intro g P
    cases g with
    | point p => exact (interPointPolygon_typed p P).mono h2
    | line l => exact (interLinePolygon_typed l P).mono h3
    | plane pl => exact (interPlanePolygon_typed pl P).mono h4
    | seg s => exact (interSegPolygon_typed s P).mono h3
    | halfline hl => exact (interPolygonHalfLine_typed P hl).mono h3
  have fb : ∀ g B, TyIn [.none, .point, .seg, .polygon, .polyhedron] (interRef (.flat g) (.polyhedron B)) := by
    intro g B
    cases g with
    | point p => exact (interPointPolyhedron_typed p B).mono h2
    | line l => exact (interLinePolyhedron_typed l B).mono h3
    | plane pl => exact (interPlanePolyhedron_typed pl B).mono h4
    | seg s => exact (interSegPolyhedron_typed s B).mono h3
    | halfline hl => exact (interPolyhedronHalfLine_typed B hl).mono h3
  cases a with
  | flat x =>
    cases b with
    | flat y => exact Or.inl ⟨x, y, rfl, rfl⟩
    | polygon P => exact Or.inr (fp x P)
    | polyhedron B => exact Or.inr (fb x B)
  | polygon P =>
    cases b with
    | flat y => rw [interRef_polygon_flat]; exact Or.inr (fp y P)
    | polygon Q => exact Or.inr ((interPolygonPolygon_typed P Q).mono h4)
    | polyhedron B => exact Or.inr ((interPolygonPolyhedron_typed B P).mono h4)
  | polyhedron A =>
    cases b with
    | flat y => rw [interRef_polyhedron_flat]; exact Or.inr (fb y A)
    | polygon Q => exact Or.inr ((interPolygonPolyhedron_typed A Q).mono h4)
    | polyhedron B => exact Or.inr (interPolyhedronPolyhedron_typed A B)

/-- **result ⊆ a ∩ b, as point sets, all 49 cells**: every point of the object `intersection(a, b)` returns
    (for a returned ConvexPolygon / ConvexPolyhedron: every point of the hull of its vertices) lies in `a`
    and in `b`.  Operands: well-formed flats, Valid polygons, Good polyhedra (a polyhedron operand denotes the
    set of points passing its membership test). -/
theorem interRef_result_subset (a b : Obj) (ha : OpWF a) (hb : OpWF b) (o : Option Obj)
    (h : interRef a b = .ok o) : ∀ x, denOptB o x → OpDen a x ∧ OpDen b x := by
  rcases interRef_typed a b with ⟨f, g, rfl, rfl⟩ | hty
  · -- two flats: the flat handlers are exact
    obtain ⟨o', ho', hd⟩ := ExactB_of_liftFlat (interFlat_exact f g ha hb)
    have : interRef (.flat f) (.flat g) = liftFlat (interFlat f g) := rfl
    rw [this, ho'] at h; cases h
    exact fun x hx => (hd x).mp hx
  · exact (interRef_sound a b ha hb).den_sub (OpDen_conv a) (OpDen_conv b) o h (hty o h)
#print axioms interRef_result_subset

end G3D
