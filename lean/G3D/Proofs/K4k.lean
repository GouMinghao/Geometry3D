import G3D.Proofs.K4j

/-! # Kernel K4, part k: the partner face across an edge

    `K4.FacetBody.edge_partner` : across every directed edge `(a, b)` of a face `h1` of a facet body there is a face
    `h2` with the directed edge `(b, a)`, whose plane contains `a` and `b` and has a vertex of `h1` strictly inside.
    Midpoint argument: the faces tight at the midpoint `m` of the edge all contain the edge line; one of them is not
    parallel to `h1` (else `K` would continue across the edge in the plane of `h1`); leaving the cone of the tight
    faces from an interior point in a direction parallel to the plane of `h1` ends on such a face `h2`; the edge is
    the set where the functional of `h1` is maximal on `h2`, its end points are exposed, hence vertices of `h2`, and
    they are consecutive because all of `h2` lies to the left of `b → a`. -/
namespace G3D
open V3

/-- a point of the hull of `l` that maximises `n`, and maximises `d` among the maximisers of `n`, belongs to `l` -/
theorem K4.mem_of_exposed2 (l : List V3) (n d a : V3) (hin : InHull l a)
    (h1 : ∀ q ∈ l, dot n q ≤ dot n a) (h2 : ∀ q ∈ l, dot n q = dot n a → q ≠ a → dot d q < dot d a) : a ∈ l := by
  by_contra hn
  obtain ⟨M0, hM⟩ := SameSet.exists_M n d a l h1 h2
  refine not_inHull_of_exposed (d := add (smul M0 n) d) (fun q hq => ?_) hin
  have h := hM M0 (le_refl _) q hq (fun e => hn (e ▸ hq))
  have e : ∀ x, dot (add (smul M0 n) d) x = M0 * dot n x + dot d x := by
    intro x; simp only [dot, add, smul]; ring
  rw [e, e]; exact h

theorem K4.orient_mid (n a b : V3) (ε : Rat) :
    orient n a b (pt (add a (smul (1/2) (sub b a))) (neg (cross n (sub b a))) ε) =
      - ε * normSq (cross n (sub b a)) := by
  simp only [orient, pt, dot, cross, sub, add, smul, V3.neg, normSq]; ring

theorem K4.between_dot_lt {a b q : V3} (hq : Between a b q) (hne : q ≠ a) (hab : a ≠ b) :
    dot (sub a b) q < dot (sub a b) a := by
  obtain ⟨s, hs0, _, rfl⟩ := hq
  have hs : 0 < s := hs0.lt_of_ne (fun h => hne (by rw [← h]; apply V3.ext' <;> simp [add, smul]))
  have e : dot (sub a b) (add a (smul s (sub b a))) = dot (sub a b) a - s * normSq (sub b a) := by
    simp only [dot, sub, add, smul, normSq]; ring
  have := mul_pos hs (normSq_pos (fun h => hab (sub_eq_zero_iff.mp h).symm))
  rw [e]; linarith

/-- two facets `h1`, `h2` of `K` whose planes both contain the edge `a → b` of `h1`, with `n2 . (n1 × (b - a)) < 0`:
    a vertex of `h1` is strictly inside `h2`; the edge is the set where the functional of `h1` is maximal on `h2`, its
    end points are exposed, hence vertices of `h2`, and they are consecutive because all of `h2` lies to the left of
    `b → a` -/
theorem K4.RFace.partner {A B : Polyhedron} {h1 h2 : Polygon} (r1 : K4.RFace A B h1) (r2 : K4.RFace A B h2)
    (a b : V3) (he : (a, b) ∈ closedPairs h1.pts) (h2a : h2.side a = 0) (h2b : h2.side b = 0)
    (hD : dot h2.plane.n (cross h1.plane.n (sub b a)) < 0) :
    (b, a) ∈ closedPairs h2.pts ∧ ∃ v ∈ h1.pts, h2.side v < 0 := by
  have hab : a ≠ b := r1.valid.edge_ne (a, b) he
  have m1 := closedPairs_mem h1.pts (a, b) he
  have vert1 : ∀ v ∈ h1.pts, K4.InK A B v ∧ h1.side v = 0 := fun v hv => (r1.den v).mp (vertex_in_hull _ _ hv)
  have vert2 : ∀ v ∈ h2.pts, K4.InK A B v ∧ h2.side v = 0 := fun v hv => (r2.den v).mp (vertex_in_hull _ _ hv)
  obtain ⟨hKa, h1a⟩ := vert1 a m1.1
  obtain ⟨hKb, h1b⟩ := vert1 b m1.2
  have hN1 := normSq_pos (Polygon.plane_WF h1 r1.valid)
  have hN2 := normSq_pos (Polygon.plane_WF h2 r2.valid)
  have hleft : ∀ v ∈ h2.pts, 0 ≤ orient h2.plane.n b a v := by
    intro v hv
    have e2 := K4.side_via_orient h2 h1 b a v h2b h2a h1b h1a (vert2 v hv).2
    have hsw : dot h1.plane.n (cross h2.plane.n (sub a b)) = dot h2.plane.n (cross h1.plane.n (sub b a)) := by
      simp only [dot, cross, sub]; ring
    rw [hsw] at e2
    have := mul_nonpos_of_nonneg_of_nonpos
      (mul_pos hN2 (normSq_pos (fun h => hab (sub_eq_zero_iff.mp h)))).le (r1.inner v (vert2 v hv).1)
    by_contra hneg
    have := mul_pos_of_neg_of_neg hD (not_le.mp hneg)
    linarith
  -- the points of h2 in the plane of h1 lie on the edge
  have onedge : ∀ q ∈ h2.pts, dot h1.plane.n q = dot h1.plane.n a → Between a b q := by
    intro q hq heq
    have h1q : h1.side q = 0 := by rw [SameSet.side_eq] at h1a ⊢; linarith
    have e3 := K4.side_via_orient h1 h2 a b q h1a h1b h2a h2b h1q
    rw [(vert2 q hq).2, mul_zero] at e3
    exact Polygon.edge_tight h1 r1.valid q ((r1.den q).mpr ⟨(vert2 q hq).1, h1q⟩) (a, b) he
      ((mul_eq_zero.mp e3.symm).resolve_left hD.ne)
  have hle1 : ∀ z, h1.side z = 0 → ∀ q ∈ h2.pts, dot h1.plane.n q ≤ dot h1.plane.n z := by
    intro z hz q hq
    have := r1.inner q (vert2 q hq).1
    rw [SameSet.side_eq] at this hz
    linarith
  have hnab : dot h1.plane.n b = dot h1.plane.n a := by rw [SameSet.side_eq] at h1a h1b; linarith
  have ha2 : a ∈ h2.pts :=
    K4.mem_of_exposed2 h2.pts h1.plane.n (sub a b) a ((r2.den a).mpr ⟨hKa, h2a⟩) (hle1 a h1a)
      (fun q hq heq hne => K4.between_dot_lt (onedge q hq heq) hne hab)
  have hb2 : b ∈ h2.pts :=
    K4.mem_of_exposed2 h2.pts h1.plane.n (sub b a) b ((r2.den b).mpr ⟨hKb, h2b⟩) (hle1 b h1b)
      (fun q hq heq hne =>
        K4.between_dot_lt ((Between_swap _ _ _).mp (onedge q hq (heq.trans hnab))) hne hab.symm)
  refine ⟨K4.rev_edge_of_left h2 r2.valid a b ha2 hb2 hab hleft, ?_⟩
  obtain ⟨v1, hv1m, ho1⟩ := K4.third_vertex h1 r1.valid (a, b) he
  refine ⟨v1, hv1m, ?_⟩
  have e1 := K4.side_via_orient h1 h2 a b v1 h1a h1b h2a h2b (vert1 v1 hv1m).2
  have := mul_neg_of_neg_of_pos hD ho1
  by_contra hge
  have := mul_nonneg (mul_pos hN1 (normSq_pos (fun h => hab (sub_eq_zero_iff.mp h).symm))).le (not_lt.mp hge)
  linarith

theorem K4.exists_along (n n' : V3) (hcr : cross n' n ≠ zero) : ∃ w, dot n w = 0 ∧ 0 < dot n' w := by
  refine ⟨sub (smul (normSq n) n') (smul (dot n n') n), by simp only [dot, sub, smul, normSq]; ring, ?_⟩
  have : dot n' (sub (smul (normSq n) n') (smul (dot n n') n)) = normSq (cross n' n) := by
    rw [lagrange]; simp only [dot, sub, smul, normSq]; ring
  rw [this]; exact normSq_pos hcr

namespace K4.FacetBody
variable {A B R : Polyhedron}

/-- some face tight at the midpoint of an edge of `h1` is not parallel to `h1` -/
theorem nonparallel_at_mid (hb : K4.FacetBody A B R) (h1 : Polygon) (hh1 : h1 ∈ R.faces) (a b : V3)
    (he : (a, b) ∈ closedPairs h1.pts) :
    ∃ h' ∈ R.faces, h'.side (add a (smul (1/2) (sub b a))) = 0 ∧ cross h'.plane.n h1.plane.n ≠ zero := by
  have hv1 := (hb.face h1 hh1).valid
  have hab : a ≠ b := hv1.edge_ne (a, b) he
  have m1 := closedPairs_mem h1.pts (a, b) he
  obtain ⟨hKa, h1a⟩ := hb.vertex h1 hh1 a m1.1
  obtain ⟨hKb, h1b⟩ := hb.vertex h1 hh1 b m1.2
  have hu : sub b a ≠ zero := fun h => hab (sub_eq_zero_iff.mp h).symm
  have hn1 := hb.normal_ne h1 hh1
  have hn1u : dot h1.plane.n (sub b a) = 0 := by rw [K4.side_diff, h1a, h1b]; ring
  have hdN := K4.normSq_cross_perp h1.plane.n (sub b a) hn1u
  have hdpos : 0 < normSq (cross h1.plane.n (sub b a)) := by
    rw [hdN]; exact mul_pos (normSq_pos hn1) (normSq_pos hu)
  set m := add a (smul (1/2) (sub b a)) with hm
  have hKm : K4.InK A B m := K4.InK_between hKa hKb ⟨1/2, by norm_num, by norm_num, rfl⟩
  have h1m : h1.side m = 0 := by rw [hm, K4.side_between, h1a, h1b]; ring
  by_contra hcon
  push Not at hcon
  have he1 : dot h1.plane.n (neg (cross h1.plane.n (sub b a))) = 0 := by simp only [dot, V3.neg, cross]; ring
  obtain ⟨ε, hε, hstep⟩ := R.step_in_cone m (neg (cross h1.plane.n (sub b a))) ((hb.contains_iff m).mpr hKm)
    (fun g hg h => by
      have hs := eq_smul_of_cross_eq_zero hn1 (hcon g hg h)
      generalize dot g.plane.n h1.plane.n / normSq h1.plane.n = l at hs
      have e : dot (smul l h1.plane.n) (neg (cross h1.plane.n (sub b a))) =
          l * dot h1.plane.n (neg (cross h1.plane.n (sub b a))) := by simp only [dot, smul]; ring
      rw [hs, e, he1, mul_zero])
  have hKz := (hb.contains_iff _).mp hstep
  have h1z : h1.side (pt m (neg (cross h1.plane.n (sub b a))) ε) = 0 := by rw [h1.side_pt, h1m, he1]; ring
  have hin := ((hb.face h1 hh1).den _).mpr ⟨hKz, h1z⟩
  have hge := Polygon.edge_nonneg h1 hv1 _ hin (a, b) he
  simp only at hge
  rw [hm, K4.orient_mid] at hge
  have := mul_pos hε hdpos
  linarith

/-- **the partner face across an edge** -/
theorem edge_partner (hb : K4.FacetBody A B R) (h1 : Polygon) (hh1 : h1 ∈ R.faces) (a b : V3)
    (he : (a, b) ∈ closedPairs h1.pts) :
    ∃ h2 ∈ R.faces, (b, a) ∈ closedPairs h2.pts ∧ h2.side a = 0 ∧ h2.side b = 0 ∧
      ∃ v ∈ h1.pts, h2.side v < 0 := by
  have hv1 := (hb.face h1 hh1).valid
  have hab : a ≠ b := hv1.edge_ne (a, b) he
  have m1 := closedPairs_mem h1.pts (a, b) he
  obtain ⟨hKa, h1a⟩ := hb.vertex h1 hh1 a m1.1
  obtain ⟨hKb, h1b⟩ := hb.vertex h1 hh1 b m1.2
  have hu : sub b a ≠ zero := fun h => hab (sub_eq_zero_iff.mp h).symm
  have hn1 := hb.normal_ne h1 hh1
  obtain ⟨h', hh', h'm, hcr⟩ := hb.nonparallel_at_mid h1 hh1 a b he
  -- a direction parallel to the plane of h1 along which h' increases
  obtain ⟨w0, hw1, hw'⟩ := K4.exists_along h1.plane.n h'.plane.n hcr
  obtain ⟨c, hc⟩ := hb.interior
  have hcs := hb.side_strict hc
  -- leave the cone of the faces tight at the midpoint
  obtain ⟨t, ht, _, h2, hh2T, h2y⟩ :=
    K4.exit (R.faces.filter (fun f => decide (f.side (add a (smul (1/2) (sub b a))) = 0))) c w0
      (fun f hf => hcs f (List.mem_filter.mp hf).1) ⟨h', List.mem_filter.mpr ⟨hh', by simpa using h'm⟩, hw'⟩
  obtain ⟨hh2, h2m⟩ := List.mem_filter.mp hh2T
  simp only [decide_eq_true_iff] at h2m
  have h1y : h1.side (pt c w0 t) < 0 := by rw [h1.side_pt, hw1]; linarith [hcs h1 hh1]
  rw [K4.side_between] at h2m
  have i1 := (hb.face h2 hh2).inner a hKa
  have i2 := (hb.face h2 hh2).inner b hKb
  obtain ⟨h2a, h2b⟩ := K4.zero_of_comb (by norm_num) (by norm_num) i1 i2 h2m
  -- the sign of the triple product
  obtain ⟨v1, hv1m, ho1⟩ := K4.third_vertex h1 hv1 (a, b) he
  have f1 := hb.vertex h1 hh1 v1 hv1m
  have hDle := K4.nonpos_of_mul_eq (mul_pos (normSq_pos hn1) (normSq_pos hu)) ho1
    ((hb.face h2 hh2).inner v1 f1.1) (K4.side_via_orient h1 h2 a b v1 h1a h1b h2a h2b f1.2)
  have hDne : dot h2.plane.n (cross h1.plane.n (sub b a)) ≠ 0 := by
    intro h0
    have hcz := K4.cross_zero_of_perp h1.plane.n h2.plane.n (sub b a) hu
      (by rw [K4.side_diff, h1a, h1b]; ring) (by rw [K4.side_diff, h2a, h2b]; ring) h0
    obtain ⟨l, hl, hside⟩ := K4.side_prop_of_cross_zero h1 h2 a h1a h2a hn1 hcz
    have := hside (pt c w0 t)
    rw [h2y] at this
    have hl0 : l = 0 := (mul_eq_zero.mp this.symm).resolve_right (ne_of_lt h1y)
    apply hb.normal_ne h2 hh2
    rw [hl, hl0]; apply V3.ext' <;> simp [smul, zero]
  obtain ⟨hrev, hv⟩ := (hb.face h1 hh1).partner (hb.face h2 hh2) a b he h2a h2b (hDle.lt_of_ne hDne)
  exact ⟨h2, hh2, hrev, h2a, h2b, hv⟩
#print axioms K4.FacetBody.edge_partner

end K4.FacetBody
end G3D
