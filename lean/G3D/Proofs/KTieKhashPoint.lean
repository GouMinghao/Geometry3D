import G3D.Extracted.Khash
import G3D.Proofs.KhashLemmas
/-! # khash, `Point.__hash__` and `Vector.__hash__`  (C08, C19)
    `G3D.Extracted.impl_hash_*` are regenerated on every run (tools/extract_khash.py, engine tools/khash_engine.py on tools/kernels_engine.py):
    the REAL `__hash__` bodies are run on symbolic numbers with `hash` / `round` / `get_sig_figures` / `get_eps` shimmed; `H` is the
    uninterpreted hash of a tuple, `rnd` / `rndI` the uninterpreted `round(., get_sig_figures())` on numbers / integers, `sig` / `neg`
    the uninterpreted answers to `abs(c) > get_eps()` / `c < 0`.  Every statement holds FOR ALL H, rnd, rndI.  Each kernel has its own
    `section`: when the walk of ONE kernel fails the generated file holds only the marker `impl_<kernel>_EXTRACTION_FAILED` for it
    and exactly the theorems of that section stop compiling.  The reference functions (`…Ref`, `…OfKey`) and their reading through
    the hash keys of `Model/HashKey.lean` are hand-written in `Proofs/KhashLemmas.lean`. -/
-- `first | rfl | ring_nf`: the second alternative only runs after a harmless arithmetic rearrangement of the Python body
set_option linter.unusedTactic false
set_option linter.unreachableTactic false
namespace G3D.KTie.Khash
open G3D G3D.Extracted G3D.KTie

section hash_Point
/-- the extracted body IS the reference tuple: tag, three rounded coordinates, three products of rounded coordinates -/
theorem hash_Point_tie (H : HFun) (rnd : ℝ → ℝ) (p : RVec) : impl_hash_Point H rnd p = pointHashRef H rnd p := by
  unfold impl_hash_Point pointHashRef
  first | rfl | ring_nf

/-- **the hashed tuple is the model's `Point.hashTuple` of the rounded coordinates** (for a rounding that maps rationals to rationals) -/
theorem hash_Point_tuple (H : HFun) (r : Rat → Rat) (rnd : ℝ → ℝ) (hc : RoundCompat r rnd) (p : V3) :
    impl_hash_Point H rnd p.toR
      = H ((HItem.tuple6 "Point" (Point.hashTuple (mapV r p))).map (HItem.map (Rat.cast : Rat → ℝ))) :=
  (hash_Point_tie H rnd p.toR).trans (pointHashRef_tuple H r rnd hc p)

/-- equal keys (= equal points) give equal hashes -/
theorem hash_Point_eq_of_key (H : HFun) (rnd : ℝ → ℝ) (p q : V3) (h : Point.hashKey p = Point.hashKey q) :
    impl_hash_Point H rnd p.toR = impl_hash_Point H rnd q.toR := by
  have : p = q := h
  rw [this]

/-- (C19) points whose coordinates round alike hash alike: the body reads the coordinates only through `round(., get_sig_figures())` -/
theorem hash_Point_eq_of_round_eq (H : HFun) (rnd : ℝ → ℝ) (p q : RVec) (hx : rnd p.x = rnd q.x) (hy : rnd p.y = rnd q.y)
    (hz : rnd p.z = rnd q.z) : impl_hash_Point H rnd p = impl_hash_Point H rnd q := by
  simp only [impl_hash_Point, hx, hy, hz]

/-- no comparison against the tolerance is made -/
theorem hash_Point_paths : impl_hash_Point_oracles = [] ∧ impl_hash_Point_paths = [[]] := ⟨rfl, rfl⟩
/-- (C19) every `round` of the body takes its digit count from the LIVE `get_sig_figures()` (offset 0) -/
theorem hash_Point_roundings : impl_hash_Point_roundings = [0] := rfl
end hash_Point

section hash_Vector
theorem hash_Vector_tie (H : HFun) (rnd : ℝ → ℝ) (v : RVec) : impl_hash_Vector H rnd v = vectorHashRef H rnd v := by
  unfold impl_hash_Vector vectorHashRef
  first | rfl | ring_nf

/-- **the hashed tuple is the model's `V3.hashTuple` of the rounded coordinates** -/
theorem hash_Vector_tuple (H : HFun) (r : Rat → Rat) (rnd : ℝ → ℝ) (hc : RoundCompat r rnd) (v : V3) :
    impl_hash_Vector H rnd v.toR
      = H ((HItem.tuple6 "Vector" (V3.hashTuple (mapV r v))).map (HItem.map (Rat.cast : Rat → ℝ))) :=
  (hash_Vector_tie H rnd v.toR).trans (vectorHashRef_tuple H r rnd hc v)

theorem hash_Vector_eq_of_round_eq (H : HFun) (rnd : ℝ → ℝ) (p q : RVec) (hx : rnd p.x = rnd q.x) (hy : rnd p.y = rnd q.y)
    (hz : rnd p.z = rnd q.z) : impl_hash_Vector H rnd p = impl_hash_Vector H rnd q := by
  simp only [impl_hash_Vector, hx, hy, hz]

theorem hash_Vector_paths : impl_hash_Vector_oracles = [] ∧ impl_hash_Vector_paths = [[]] := ⟨rfl, rfl⟩
/-- (C19) every `round` of the body takes its digit count from the LIVE `get_sig_figures()` (offset 0) -/
theorem hash_Vector_roundings : impl_hash_Vector_roundings = [0] := rfl
end hash_Vector

#print axioms hash_Point_tuple
#print axioms hash_Vector_tuple
end G3D.KTie.Khash
