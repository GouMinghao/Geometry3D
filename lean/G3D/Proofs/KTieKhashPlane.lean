import G3D.Extracted.Khash
import G3D.Proofs.KhashLemmas
/-! # khash, `Plane.__hash__`  (C08, C19)
    `G3D.Extracted.impl_hash_*` are regenerated on every run (tools/extract_khash.py, engine tools/khash_engine.py on tools/kernels_engine.py):
    the REAL `__hash__` bodies are run on symbolic numbers with `hash` / `round` / `get_sig_figures` / `get_eps` shimmed; `H` is the
    uninterpreted hash of a tuple, `rnd` / `rndI` the uninterpreted `round(., get_sig_figures())` on numbers / integers, `sig` / `neg`
    the uninterpreted answers to `abs(c) > get_eps()` / `c < 0`.  Every statement holds FOR ALL H, rnd, rndI.  Each kernel has its own
    `section`: when the walk of ONE kernel fails the generated file holds only the marker `impl_<kernel>_EXTRACTION_FAILED` for it
    and exactly the theorems of that section stop compiling.  The reference functions (`…Ref`, `…OfKey`) and their reading through
    the hash keys of `Model/HashKey.lean` are hand-written in `Proofs/KhashLemmas.lean`.
    The body is extracted as a function of the ATTRIBUTES it reads (the point `p` and the stored normal `n`); every constructed
    Plane stores `n = normale.normalized()` (`unitR`; pinned by the kernel `planeContainsN` of the group kmemberr). -/
namespace G3D.KTie.Khash
open G3D G3D.Extracted G3D.KTie

section hash_Plane
/-- the comparisons the body asks: `abs(c) > get_eps()` (the LIVE tolerance) and `c < 0`; the seven paths of the loop
    `for c in n: if abs(c) > eps: (if c < 0: flip); break` -/
theorem hash_Plane_paths :
    impl_hash_Plane_oracles = [("sig", "abs(R) > eps"), ("neg", "R < 0")] ∧
    impl_hash_Plane_paths = [[("abs(R) > eps", true), ("R < 0", true)], [("abs(R) > eps", true), ("R < 0", false)],
      [("abs(R) > eps", false), ("abs(R) > eps", true), ("R < 0", true)],
      [("abs(R) > eps", false), ("abs(R) > eps", true), ("R < 0", false)],
      [("abs(R) > eps", false), ("abs(R) > eps", false), ("abs(R) > eps", true), ("R < 0", true)],
      [("abs(R) > eps", false), ("abs(R) > eps", false), ("abs(R) > eps", true), ("R < 0", false)],
      [("abs(R) > eps", false), ("abs(R) > eps", false), ("abs(R) > eps", false)]] := ⟨rfl, rfl⟩

/-- under the exact reading of the comparisons the extracted decision tree IS the reference: the sign of the first non-zero
    component of n applied to n and to d = n·p, all four rounded, tag "Plane" -/
theorem hash_Plane_tie (H : HFun) (rnd : ℝ → ℝ) (p n : RVec) :
    impl_hash_Plane H rnd sigE negE p n = planeHashRef H rnd p n := by
  -- up to the arithmetic normal form: writing `n·p` as `p·n` in the source does not break the tie
  refine canon_loop n (fun h => ?_) (fun h => ?_) <;>
    simp only [planeHashRef, h, RVec.dot] <;> ring_nf

/-- **the extracted hash of a constructed plane depends only on the model's `Plane.hashKey`** -/
theorem hash_Plane_key (H : HFun) (rnd : ℝ → ℝ) (pl : Plane) (h : pl.WF) :
    impl_hash_Plane H rnd sigE negE pl.p.toR (unitR pl.n.toR) = planeHashOfKey H rnd (Plane.hashKey pl) := by
  rw [hash_Plane_tie, planeHashRef_key H rnd pl h]

/-- **EQUAL PLANES HAVE EQUAL EXTRACTED HASHES**, for every H and every rounding (any point of the plane, any rescaled or
    negated normal) -/
theorem hash_Plane_eq_of_eqv (H : HFun) (rnd : ℝ → ℝ) (a b : Plane) (ha : a.WF) (hb : b.WF) (h : a.eqv b = true) :
    impl_hash_Plane H rnd sigE negE a.p.toR (unitR a.n.toR) = impl_hash_Plane H rnd sigE negE b.p.toR (unitR b.n.toR) := by
  rw [hash_Plane_key H rnd a ha, hash_Plane_key H rnd b hb, (Plane.eqv_iff_hashKey a b ha hb).mp h]

/-- `hash(-plane)` as the polygon hash builds it (`Plane(p, -n)` normalises the negated stored normal) = `hash(plane)` -/
theorem hash_Plane_neg (H : HFun) (rnd : ℝ → ℝ) (pl : Plane) (h : pl.WF) :
    impl_hash_Plane H rnd sigE negE pl.p.toR (unitR (negR (unitR pl.n.toR)))
      = impl_hash_Plane H rnd sigE negE pl.p.toR (unitR pl.n.toR) := by
  rw [hash_Plane_tie, hash_Plane_tie, planeHashRef_neg H rnd pl h]

/-- (C19) the tolerance enters only through `abs(c) > get_eps()`: for a tolerance e ≥ 0 and a normal whose non-zero components
    all exceed e in absolute value, the tolerance-aware reading takes the same path as the exact one -/
theorem hash_Plane_tol (H : HFun) (rnd : ℝ → ℝ) (e : ℝ) (he : 0 ≤ e) (p n : RVec)
    (hx : n.x = 0 ∨ e < |n.x|) (hy : n.y = 0 ∨ e < |n.y|) (hz : n.z = 0 ∨ e < |n.z|) :
    impl_hash_Plane H rnd (sigT e) negE p n = impl_hash_Plane H rnd sigE negE p n := by
  simp only [impl_hash_Plane, sigT_eq_sigE he hx, sigT_eq_sigE he hy, sigT_eq_sigE he hz]

/-- non-vacuity: the plane z = 1 given by the point (0,0,1) with normal (0,0,2) and by the point (1,1,1) with normal (0,0,−3) -/
theorem hash_Plane_example (H : HFun) (rnd : ℝ → ℝ) :
    impl_hash_Plane H rnd sigE negE (V3.toR ⟨0, 0, 1⟩) (unitR (V3.toR ⟨0, 0, 2⟩))
      = impl_hash_Plane H rnd sigE negE (V3.toR ⟨1, 1, 1⟩) (unitR (V3.toR ⟨0, 0, -3⟩)) :=
  hash_Plane_eq_of_eqv H rnd ⟨⟨0, 0, 1⟩, ⟨0, 0, 2⟩⟩ ⟨⟨1, 1, 1⟩, ⟨0, 0, -3⟩⟩ (by unfold Plane.WF; decide +kernel)
    (by unfold Plane.WF; decide +kernel) (by decide +kernel)

/-- (C19) every `round` of the body takes its digit count from the LIVE `get_sig_figures()` (offset 0) -/
theorem hash_Plane_roundings : impl_hash_Plane_roundings = [0] := rfl
end hash_Plane

#print axioms hash_Plane_key
#print axioms hash_Plane_eq_of_eqv
#print axioms hash_Plane_tol
end G3D.KTie.Khash
