import G3D.Model.Xf
import G3D.Proofs.Algebra
import G3D.Proofs.Distance
import G3D.Proofs.Angle
/-! C13, first part: a signed axis permutation `σ : SP` is an axis permutation followed by a diagonal matrix of signs.
    Each fact about `σ` is proved for the permutation by its six cases and carried over the signs by
    `sgn b * sgn b = 1`. -/
namespace G3D
open V3

theorem sgn_sq (b : Bool) : sgn b * sgn b = 1 := by cases b <;> simp [sgn]

theorem Perm3.apply_add (p : Perm3) (u v : V3) : p.apply (add u v) = add (p.apply u) (p.apply v) := by
  cases p <;> rfl
theorem Perm3.apply_sub (p : Perm3) (u v : V3) : p.apply (sub u v) = sub (p.apply u) (p.apply v) := by
  cases p <;> rfl
theorem Perm3.apply_smul (p : Perm3) (k : Rat) (v : V3) : p.apply (smul k v) = smul k (p.apply v) := by
  cases p <;> rfl
theorem Perm3.apply_neg (p : Perm3) (v : V3) : p.apply (neg v) = neg (p.apply v) := by
  cases p <;> rfl
theorem Perm3.dot_apply (p : Perm3) (u v : V3) : dot (p.apply u) (p.apply v) = dot u v := by
  cases p <;> simp only [Perm3.apply, dot] <;> ring
theorem Perm3.cross_apply (p : Perm3) (u v : V3) :
    cross (p.apply u) (p.apply v) = smul p.sign (p.apply (cross u v)) := by
  cases p <;> (apply V3.ext' <;> simp only [Perm3.apply, Perm3.sign, cross, smul] <;> ring)
theorem Perm3.apply_surjective (p : Perm3) (y : V3) : ∃ x, p.apply x = y := by
  cases p
  exacts [⟨y, rfl⟩, ⟨⟨y.x, y.z, y.y⟩, rfl⟩, ⟨⟨y.y, y.x, y.z⟩, rfl⟩, ⟨⟨y.z, y.x, y.y⟩, rfl⟩, ⟨⟨y.y, y.z, y.x⟩, rfl⟩,
    ⟨⟨y.z, y.y, y.x⟩, rfl⟩]

theorem SP.dot_apply (s : SP) (u v : V3) : dot (s.apply u) (s.apply v) = dot u v := by
  rw [← Perm3.dot_apply s.p u v]
  simp only [SP.apply, dot]
  linear_combination (s.p.apply u).x * (s.p.apply v).x * sgn_sq s.sx + (s.p.apply u).y * (s.p.apply v).y * sgn_sq s.sy +
    (s.p.apply u).z * (s.p.apply v).z * sgn_sq s.sz

theorem SP.cross_apply (s : SP) (u v : V3) : cross (s.apply u) (s.apply v) = smul s.det (s.apply (cross u v)) := by
  have h := Perm3.cross_apply s.p u v
  generalize cross u v = w at h ⊢
  have hx := congrArg V3.x h; have hy := congrArg V3.y h; have hz := congrArg V3.z h
  simp only [cross, smul] at hx hy hz
  apply V3.ext' <;> simp only [SP.apply, SP.det, cross, smul]
  · linear_combination sgn s.sy * sgn s.sz * hx - s.p.sign * sgn s.sy * sgn s.sz * (s.p.apply w).x * sgn_sq s.sx
  · linear_combination sgn s.sz * sgn s.sx * hy - s.p.sign * sgn s.sz * sgn s.sx * (s.p.apply w).y * sgn_sq s.sy
  · linear_combination sgn s.sx * sgn s.sy * hz - s.p.sign * sgn s.sx * sgn s.sy * (s.p.apply w).z * sgn_sq s.sz

theorem SP.apply_add (s : SP) (u v : V3) : s.apply (add u v) = add (s.apply u) (s.apply v) := by
  simp only [SP.apply, Perm3.apply_add]; simp only [add, mul_add]

theorem SP.apply_sub (s : SP) (u v : V3) : s.apply (sub u v) = sub (s.apply u) (s.apply v) := by
  simp only [SP.apply, Perm3.apply_sub]; simp only [sub, mul_sub]

theorem SP.apply_smul (s : SP) (k : Rat) (v : V3) : s.apply (smul k v) = smul k (s.apply v) := by
  simp only [SP.apply, Perm3.apply_smul]; simp only [smul, mul_left_comm]

theorem SP.apply_neg (s : SP) (v : V3) : s.apply (neg v) = neg (s.apply v) := by
  simp only [SP.apply, Perm3.apply_neg]; simp only [neg, mul_neg]

theorem SP.apply_surjective (s : SP) (y : V3) : ∃ x, s.apply x = y := by
  obtain ⟨x, hx⟩ := Perm3.apply_surjective s.p ⟨sgn s.sx * y.x, sgn s.sy * y.y, sgn s.sz * y.z⟩
  exact ⟨x, by simp only [SP.apply, hx, ← mul_assoc, sgn_sq, one_mul]⟩
theorem SP.normSq_apply (s : SP) (v : V3) : normSq (s.apply v) = normSq v := SP.dot_apply s v v

theorem SP.apply_eq_zero (s : SP) (v : V3) : s.apply v = zero ↔ v = zero := by
  rw [← normSq_eq_zero, SP.normSq_apply, normSq_eq_zero]

theorem SP.apply_zero (s : SP) : s.apply zero = zero := (s.apply_eq_zero zero).mpr rfl

namespace XfAux
theorem dot_smul_left (c : Rat) (u v : V3) : dot (smul c u) v = c * dot u v := by
  simp only [dot, smul]; ring

theorem dot_smul_right (c : Rat) (u v : V3) : dot u (smul c v) = c * dot u v := by
  simp only [dot, smul]; ring

theorem smul_zero' (c : Rat) : smul c zero = zero := by
  apply V3.ext' <;> simp [smul, zero]
end XfAux
open XfAux

theorem Xf.dot_nrm_dir (T : Xf) (n u : V3) : dot (T.nrm n) (T.dir u) = T.k * dot n u := by
  simp only [Xf.dir, Xf.nrm, dot_smul_right, SP.dot_apply]

theorem Xf.dir_zero (T : Xf) : T.dir zero = zero := by rw [Xf.dir, SP.apply_zero, smul_zero']

theorem Xf.dir_eq_zero (T : Xf) (hk : 0 < T.k) (v : V3) : T.dir v = zero ↔ v = zero :=
  ⟨fun h => (T.s.apply_eq_zero v).mp (smul_eq_zero_of_ne hk.ne' h), fun h => by rw [h, T.dir_zero]⟩

theorem Xf.pt_sub (T : Xf) (x y : V3) : sub (T.pt x) (T.pt y) = T.dir (sub x y) := by
  simp only [Xf.pt, Xf.dir, SP.apply_sub]
  apply V3.ext' <;> simp only [sub, add, smul] <;> ring

theorem Xf.pt_injective (T : Xf) (hk : 0 < T.k) {x y : V3} (h : T.pt x = T.pt y) : x = y :=
  sub_eq_zero_iff.mp ((T.dir_eq_zero hk _).mp (by rw [← Xf.pt_sub, h]; exact sub_eq_zero_iff.mpr rfl))

theorem Xf.pt_inj (T : Xf) (hk : 0 < T.k) : Function.Injective T.pt := fun _ _ h => T.pt_injective hk h

theorem Xf.pt_surjective (T : Xf) (hk : 0 < T.k) (y : V3) : ∃ x, T.pt x = y := by
  obtain ⟨x, hx⟩ := SP.apply_surjective T.s (smul (1 / T.k) (sub y T.t))
  refine ⟨x, ?_⟩
  simp only [Xf.pt, hx]
  apply V3.ext' <;> simp only [add, smul, sub] <;> field_simp <;> ring

theorem Xf.dir_smul (T : Xf) (c : Rat) (u : V3) : T.dir (smul c u) = smul c (T.dir u) := by
  simp only [Xf.dir, SP.apply_smul]; apply V3.ext' <;> simp only [smul] <;> ring

theorem Xf.pt_add_dir (T : Xf) (a v : V3) : T.pt (add a v) = add (T.pt a) (T.dir v) := by
  simp only [Xf.pt, Xf.dir, SP.apply_add]
  apply V3.ext' <;> simp only [add, smul] <;> ring

theorem Xf.pt_affine (T : Xf) (a d : V3) (t : Rat) : T.pt (add a (smul t d)) = add (T.pt a) (smul t (T.dir d)) := by
  rw [T.pt_add_dir, T.dir_smul]

theorem Xf.pt_eq_affine (T : Xf) (hk : 0 < T.k) (x a d : V3) (t : Rat) :
    T.pt x = add (T.pt a) (smul t (T.dir d)) ↔ x = add a (smul t d) := by
  rw [← Xf.pt_affine]; exact (T.pt_inj hk).eq_iff

/-- C13 (membership): the transformed object contains exactly the transformed points -/
theorem Xf.den_geo (T : Xf) (hk : 0 < T.k) (g : Geo) (x : V3) : (T.geo g).den (T.pt x) ↔ g.den x := by
  cases g with
  | point p => exact (T.pt_inj hk).eq_iff
  | plane p =>
    simp only [Xf.geo, Geo.den, Plane.den, Xf.pt_sub, T.dot_nrm_dir]
    exact mul_eq_zero_iff_left hk.ne'
  | _ => simp only [Xf.geo, Geo.den, Line.den, Seg.den, HalfLine.den, Seg.mk', HalfLine.mk', Xf.pt_sub, T.pt_eq_affine hk]

theorem Xf.geo_WF (T : Xf) (hk : 0 < T.k) (g : Geo) (hg : g.WF) : (T.geo g).WF := by
  cases g with
  | point p => trivial
  | line l => exact mt (T.dir_eq_zero hk _).mp hg
  | plane p => exact mt (T.s.apply_eq_zero _).mp hg
  | seg s => exact Seg.mk'_WF (mt (T.pt_injective hk) hg.1)
  | halfline h => exact ⟨mt (T.dir_eq_zero hk _).mp hg.1, rfl⟩

#print axioms Xf.den_geo
end G3D
