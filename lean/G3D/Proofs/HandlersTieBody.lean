import G3D.Extracted.Hbody
import G3D.Proofs.HandlersTieShared
import G3D.Proofs.Construct
import G3D.Proofs.TypedHandlers
/-! # Tie, group `hbody` (property C03): polygon × polygon, polygon × polyhedron, polyhedron × polyhedron and the two
    helpers only polygon × polygon uses — extracted body (`G3D.Extracted.Hbody`, tools/extract_hbody.py) = hand model.
    See `G3D.Proofs.HandlersTie` for the conventions. -/
set_option linter.unusedSimpArgs false
namespace G3D.Tie
open V3 PyRt Extracted

/-! ### `points_in_a_line` -/

theorem h_points_in_a_line_eq (ps : List V3) :
    h_points_in_a_line (Val.ptSeq ps) = Val.bool <$> pointsInALine ps := by
  unfold h_points_in_a_line pointsInALine
  match ps with
  | [] => rfl
  | [p] => rfl
  | [p0, p1] => rfl
  | p0 :: p1 :: r :: rest' =>
    generalize hrest : r :: rest' = rest
    have hne : rest ≠ [] := by rw [← hrest]; exact List.cons_ne_nil _ _
    have hn : ((rest.length : Int) + 1 + 1 - 2).toNat = rest.length := by omega
    have h3 : ¬ ((rest.length : Int) + 1 + 1 < 3) := by
      have : 0 < rest.length := List.length_pos_of_ne_nil hne
      omega
    simp only [pyrt, Val.ptSeq, List.map_cons, List.length_cons, Nat.cast_add, Nat.cast_one,
      ptObj, hn, List.length_map, h3, hne, decide_false, Bool.false_eq_true, if_false]
    by_cases h10 : p1 = p0
    · simp only [h10, if_true]; rfl
    simp only [h10, if_false, ok_bind]
    rw [← map_snd_indexed rest 2,
      forIn_repr (fun xi : V3 × Int => Val.int xi.2) (fun s : Option Val × Unit => s) (indexed 2 rest) _
        (fun xi _ => if (⟨p0, sub p1 p0⟩ : Line).contains xi.1 = true then .ok (.yield (none, ()))
          else .ok (.done (some (Val.bool false), ()))),
      forIn_return (indexed 2 rest) (fun xi => (⟨p0, sub p1 p0⟩ : Line).contains xi.1 = true)]
    · simp only [Bool.decide_eq_true, all_indexed (⟨p0, sub p1 p0⟩ : Line).contains]
      cases rest.all (⟨p0, sub p1 p0⟩ : Line).contains <;> rfl
    · intro ⟨pi, i⟩ hmem st
      have hidx : pyIndex (.seq (.flat (.point p0) :: .flat (.point p1) :: rest.map ptObj)) (.int i) =
          .ok (.obj (.flat (.point pi))) := pyIndex_indexed [_, _] rest pi i hmem
      simp only [hidx, pyrt]
      cases (⟨p0, sub p1 p0⟩ : Line).contains pi <;> rfl

/-! ### `get_segment_convexpolygon_intersection_point_set` (used by polygon × polygon only) -/

theorem h_get_segment_convexpolygon_intersection_point_set_eq (s : Seg) (P : Polygon) :
    h_get_segment_convexpolygon_intersection_point_set (.obj (.flat (.seg s))) (.obj (.polygon P)) =
      (do let ss ← liftC P.segments?
          Val.ptSet <$> edgeHits (fun t => interSegSeg t s) ss []) := by
  unfold h_get_segment_convexpolygon_intersection_point_set
  simp only [pyrt, pyMeth_segments]
  cases liftC P.segments? with
  | error e => rfl
  | ok ss =>
    simp only [pyrt, List.map_map, set_nil_pt]
    rw [edgeLoop_eq _ (fun t => interSegSeg_onlyBug t s) _ (fun _ _ => rfl)]
    cases edgeHits (fun t => interSegSeg t s) ss [] <;> rfl

/-! ## ConvexPolygon / ConvexPolyhedron × ConvexPolyhedron -/

/-! ### `inter_convexpolygon_convexPolyhedron` -/
theorem h_inter_convexpolygon_convexPolyhedron_eq (B : Polyhedron) (P : Polygon) :
    h_inter_convexpolygon_convexPolyhedron (.obj (.polyhedron B)) (.obj (.polygon P)) =
      Val.ofRes (interPolygonPolyhedron B P) := by
  unfold h_inter_convexpolygon_convexPolyhedron interPolygonPolyhedron
  simp only [pyrt]
  rcases interPlanePolyhedron P.plane B with e | _ | ⟨g | Q | B'⟩
  · rfl
  · rfl
  · cases g <;> rfl
  · rfl
  · rfl

/-! ### `inter_convexpolyhedron_convexpolyhedron` -/

def reprParts (p : Parts) : Val × Val × Val := (.set (p.gons.map Obj.polygon), .set (p.segs.map sgObj), Val.ptSet p.pts)

/-- one round of the loop over the faces of one body, as the translation prints it: the three sets `cpg_set`,
    `segment_set`, `point_set` are threaded as a triple -/
def clipBody (inter : PyM Val) (r : Val × Val × Val) : PyM (ForInStep (Val × Val × Val)) := do
  let inter ← inter
  if (pyIsNone inter).truthy = true then Except.ok (ForInStep.yield (r.1, r.2.1, r.2.2))
  else if (pyIsInstance inter PyTy.Point).truthy = true then
    (fun a => ForInStep.yield (r.1, r.2.1, a)) <$> pySetAdd r.2.2 inter
  else if (pyIsInstance inter PyTy.Segment).truthy = true then
    (fun a => ForInStep.yield (r.1, a, r.2.2)) <$> pySetAdd r.2.1 inter
  else if (pyIsInstance inter PyTy.ConvexPolygon).truthy = true then
    (fun a => ForInStep.yield (a, r.2.1, r.2.2)) <$> pySetAdd r.1 inter
  else Except.ok (ForInStep.yield (r.1, r.2.1, r.2.2))

theorem clipLoop_eq (X : Polyhedron) (fs : List Polygon) (p : Parts) :
    forIn (fs.map (Val.obj ∘ Obj.polygon)) (reprParts p)
        (fun cpg => clipBody (h_inter_convexpolygon_convexPolyhedron (.obj (.polyhedron X)) cpg)) =
      reprParts <$> clipFaces X fs p := by
  induction fs generalizing p with
  | nil => rfl
  | cons f fs ih =>
    simp only [List.map_cons, List.forIn_cons, Function.comp, h_inter_convexpolygon_convexPolyhedron_eq, clipFaces]
    rcases interPolygonPolyhedron X f with e | _ | ⟨g | Q | B'⟩
    · rfl
    · exact ih p
    · cases g with
      | point q => simp only [clipBody, pyrt, reprParts, Val.ptSet]; exact ih { p with pts := addNew p.pts q }
      | seg s => simp only [clipBody, pyrt, reprParts]; exact ih { p with segs := addSeg p.segs s }
      | _ => exact ih p
    · simp only [clipBody, pyrt, reprParts]; exact ih { p with gons := addPolygon p.gons Q }
    · exact ih p

theorem h_inter_convexpolyhedron_convexpolyhedron_eq (A B : Polyhedron) :
    h_inter_convexpolyhedron_convexpolyhedron (.obj (.polyhedron A)) (.obj (.polyhedron B)) =
      Val.ofRes (interPolyhedronPolyhedron A B) := by
  unfold h_inter_convexpolyhedron_convexpolyhedron interPolyhedronPolyhedron
  simp only [pyrt, List.map_map, decide_true, if_true, Bool.not_true, Bool.false_eq_true, if_false]
  refine Eq.trans (congrArg (· >>= _) (clipLoop_eq B A.faces {})) ?_
  cases clipFaces B A.faces {} with
  | error e => rfl
  | ok p1 =>
    simp only [pyrt]
    refine Eq.trans (congrArg (· >>= _) (clipLoop_eq A B.faces p1)) ?_
    cases clipFaces A B.faces p1 with
    | error e => rfl
    | ok p2 =>
      obtain ⟨gons, segs, pts⟩ := p2
      simp only [pyrt, reprParts, Val.ptSet, List.length_map]
      rcases gons with _ | ⟨g1, _ | ⟨g2, gs⟩⟩
      · rcases segs with _ | ⟨s1, _ | ⟨s2, ss⟩⟩
        · rcases pts with _ | ⟨p1, _ | ⟨p2, ps⟩⟩
          · rfl
          · rfl
          · have : (1 : Int) < (ps.length : Int) + 1 + 1 := by omega
            simp [pyrt, this]
        · rfl
        · have : (1 : Int) < (ss.length : Int) + 1 + 1 := by omega
          simp [pyrt, this]
      · rfl
      · have : (1 : Int) < (gs.length : Int) + 1 + 1 := by omega
        simp only [List.length_cons, Nat.cast_add, Nat.cast_one, this, decide_true, if_true]
        cases liftC (Polyhedron.mk? (g1 :: g2 :: gs)) <;> rfl

/-! ## ConvexPolygon × ConvexPolygon -/

theorem interLinePolygon_flat (l : Line) (P : Polygon) (o : Obj) (h : interLinePolygon l P = .ok (some o)) :
    ∃ g, o = .flat g := by
  have ht := interLinePolygon_typed l P _ h
  rcases o with g | Q | B
  · exact ⟨g, rfl⟩
  · exact absurd (show Dispatch.ResTy.polygon ∈ _ from ht) (by decide)
  · exact absurd (show Dispatch.ResTy.polyhedron ∈ _ from ht) (by decide)

/-- `for p in a.points: if p in b: point_set.add(p)` -/
theorem filterLoop_eq (P : Polygon) (ps acc : List V3) :
    forIn (ps.map (Val.obj ∘ ptObj)) (Val.set (acc.map ptObj)) (fun p s => do
      let c ← pyIn p (Val.obj (Obj.polygon P))
      if c.truthy = true then ForInStep.yield <$> pySetAdd s p else Except.ok (ForInStep.yield s)) =
    .ok (Val.set (((ps.filter P.contains).foldl addNew acc).map ptObj)) := by
  induction ps generalizing acc with
  | nil => rfl
  | cons p ps ih =>
    simp only [List.map_cons, List.forIn_cons, Function.comp, ptObj, pyrt, List.filter_cons]
    cases P.contains p
    · exact ih acc
    · simp only [pyrt, if_true]; exact ih _

theorem mem_foldl_addNew (q : V3) (l acc : List V3) (h : q ∈ acc ∨ q ∈ l) : q ∈ l.foldl addNew acc := by
  induction l generalizing acc with
  | nil => exact h.elim id (fun h => nomatch h)
  | cons x xs ih =>
    refine ih _ ?_
    rw [mem_addNew]
    rcases h with h | h
    · exact .inl (.inl h)
    · exact (List.mem_cons.mp h).elim (fun e => .inl (.inr e)) .inr

theorem addNew_foldl_addNew (tmp acc : List V3) (q : V3) :
    (addNew tmp q).foldl addNew acc = addNew (tmp.foldl addNew acc) q := by
  by_cases h : q ∈ tmp
  · rw [addNew, if_pos h, addNew, if_pos (mem_foldl_addNew q tmp acc (.inr h))]
  · rw [addNew, if_neg h, List.foldl_append]; rfl

/-- the code unions the hits of every edge into the running set, the model threads the set through the helper -/
theorem edgeHits_acc (edgePt : Seg → Res) (ss : List Seg) (tmp acc : List V3) :
    (fun hits => hits.foldl addNew acc) <$> edgeHits edgePt ss tmp = edgeHits edgePt ss (tmp.foldl addNew acc) := by
  induction ss generalizing tmp with
  | nil => rfl
  | cons s ss ih =>
    simp only [edgeHits]
    split <;> first | exact ih tmp | (rw [ih, addNew_foldl_addNew]) | rfl

/-- `for seg in a.segments(): point_set |= get_segment_convexpolygon_intersection_point_set(seg, b)` -/
theorem crossLoop_eq (b : Polygon) (sb : List Seg) (hsb : liftC b.segments? = .ok sb) (sa : List Seg) (acc : List V3) :
    forIn (sa.map (Val.obj ∘ sgObj)) (Val.set (acc.map ptObj)) (fun seg s => do
      let hits ← h_get_segment_convexpolygon_intersection_point_set seg (Val.obj (Obj.polygon b))
      ForInStep.yield <$> pySetUnion s hits) = Val.ptSet <$> crossHits sb sa acc := by
  induction sa generalizing acc with
  | nil => rfl
  | cons s sa ih =>
    simp only [List.map_cons, List.forIn_cons, Function.comp, sgObj,
      h_get_segment_convexpolygon_intersection_point_set_eq, hsb, pyrt, crossHits, crossHitsOne]
    rw [← List.foldl_nil (f := addNew) (b := acc), ← edgeHits_acc]
    cases edgeHits (fun t => interSegSeg t s) sb [] with
    | error e => rfl
    | ok hits => simp only [pyrt, Val.ptSet]; exact ih _

theorem segments_ne_nil (P : Polygon) (hP : P.pts ≠ []) (ss : List Seg) (h : liftC P.segments? = .ok ss) : ss ≠ [] := by
  intro hss; subst hss
  unfold Polygon.segments? at h
  rcases hm : (closedPairs P.pts).mapM (fun e => if e.1 = e.2 then Except.error CErr.value else Except.ok (Seg.mk' e.1 e.2)) with e | r
  · rw [hm] at h; cases h
  · rw [hm] at h
    have hr : r = [] := by cases h; rfl
    have hlen := mapM_length _ _ _ hm
    rw [hr] at hlen
    rcases hp : P.pts with _ | ⟨p, ps⟩
    · exact hP hp
    · rw [hp] at hlen
      cases ps <;> simp [closedPairs, consec] at hlen

/-- `inter_convexpolygon_convexpolygon`.  The hand model and the code differ in two corner cases that the two
    hypotheses exclude (both are impossible for polygons that the constructor built, see the corollary):
    * `hA`: with an empty vertex tuple `a.points` the code never calls `b.segments()`, the model does;
    * `hNE`: when the planes cross in a line `L`, `L ∩ a` is `None` and `L ∩ b` *raises*, the code raises
      (both inner intersections are computed before the `None` test) while the model returns `None`. -/
theorem h_inter_convexpolygon_convexpolygon_eq (a b : Polygon) (hA : a.pts ≠ [])
    (hNE : ∀ L, interPlanePlane a.plane b.plane = .ok (some (.line L)) → interLinePolygon L a = .ok none →
      ∀ e, interLinePolygon L b ≠ .error e) :
    h_inter_convexpolygon_convexpolygon (.obj (.polygon a)) (.obj (.polygon b)) =
      Val.ofRes (interPolygonPolygon a b) := by
  unfold h_inter_convexpolygon_convexpolygon interPolygonPolygon
  simp only [pyrt, List.map_map]
  rcases hpp : interPlanePlane a.plane b.plane with e | _ | g
  · cases interPlanePlane_onlyBug _ _ e hpp; rfl
  · rfl
  rcases interPlanePlane_cases _ _ _ hpp with h | ⟨L, h⟩ | h <;> cases h
  · -- the planes cross in the line L
    simp only [pyrt, decide_true, if_true]
    rcases h1 : interLinePolygon L a with e1 | _ | x1
    · rfl
    · rcases h2 : interLinePolygon L b with e2 | o2
      · exact absurd h2 (hNE L hpp h1 e2)
      · rfl
    obtain ⟨g1, rfl⟩ := interLinePolygon_flat L a x1 h1
    rcases h2 : interLinePolygon L b with e2 | _ | x2
    · rfl
    · rfl
    obtain ⟨g2, rfl⟩ := interLinePolygon_flat L b x2 h2
    rfl
  · -- coplanar
    simp only [pyrt, decide_true, if_true, reduceCtorEq, decide_false, Bool.false_eq_true, if_false]
    cases heq : a.plane.eqv b.plane
    · rfl
    simp only [Bool.not_true, Bool.false_eq_true, if_false, set_nil_pt]
    simp only [filterLoop_eq, pyrt, pyMeth_segments]
    generalize List.foldl addNew (List.foldl addNew [] (List.filter b.contains a.pts)) (List.filter a.contains b.pts) = acc0
    rcases hsa : liftC a.segments? with e | sa
    · rfl
    simp only [pyrt, List.map_map]
    rcases hsb : liftC b.segments? with e | sb
    · -- `b.segments()` raises: in the code at the first round of the loop over `a.segments()`
      rcases sa with _ | ⟨s0, sa'⟩
      · exact absurd rfl (segments_ne_nil a hA _ hsa)
      · simp only [List.map_cons, List.forIn_cons, Function.comp, sgObj,
          h_get_segment_convexpolygon_intersection_point_set_eq, hsb, pyrt]
    simp only [pyrt]
    rw [crossLoop_eq b sb hsb]
    cases crossHits sb sa acc0 with
    | error e => rfl
    | ok acc =>
      simp only [pyrt, Val.ptSet]
      refine (pointTail_eq _ _).trans ?_
      match acc with
      | [] => rfl
      | [p] => rfl
      | [p, q] => by_cases hpq : p = q <;> simp [hpq, pyrt, seg?, liftC]
      | p :: q :: r :: rest =>
        have hpl := h_points_in_a_line_eq (p :: q :: r :: rest)
        simp only [Val.ptSeq] at hpl
        simp only [hpl, pyrt]
        rcases pointsInALine (p :: q :: r :: rest) with e | _ | _
        · rfl
        · simp only [pyrt, Bool.false_eq_true, if_false]
          cases liftC (Polygon.mk? (p :: q :: r :: rest)) <;> rfl
        · rfl

/-- for polygons that satisfy the constructor's guarantees the two side conditions hold -/
theorem h_inter_convexpolygon_convexpolygon_eq_of_valid (a b : Polygon) (ha : a.Valid) (hb : b.Valid) :
    h_inter_convexpolygon_convexpolygon (.obj (.polygon a)) (.obj (.polygon b)) =
      Val.ofRes (interPolygonPolygon a b) := by
  apply h_inter_convexpolygon_convexpolygon_eq
  · obtain ⟨p0, p1, p2, rest, h, _⟩ := ha; rw [h]; simp
  · intro L hL _ e he
    obtain ⟨o, ho, hw, _⟩ := interPlanePlane_exact a.plane b.plane (Polygon.plane_WF a ha) (Polygon.plane_WF b hb)
    rw [hL] at ho; cases ho
    have hLW : L.WF := hw (.line L) rfl
    obtain ⟨o', ho', _⟩ := interLinePolygon_exact L hLW b hb
    rw [ho'] at he; cases he

/-! ## axiom audit -/
#print axioms h_points_in_a_line_eq
#print axioms h_get_segment_convexpolygon_intersection_point_set_eq
#print axioms h_inter_convexpolygon_convexPolyhedron_eq
#print axioms h_inter_convexpolyhedron_convexpolyhedron_eq
#print axioms h_inter_convexpolygon_convexpolygon_eq
#print axioms h_inter_convexpolygon_convexpolygon_eq_of_valid

end G3D.Tie
