import G3D.Proofs.K4i

/-! # Kernel K4, part j: the faces of a facet body fit together edge to edge

    * vector lemmas (`K4.triple_gram`: a Gram determinant of two triples; `K4.cross_zero_of_perp`)
    * polygon lemmas (`K4.third_vertex`, `K4.rev_edge_of_left`, `K4.closedPairs_nodup`)
    * `K4.parallel_of_common_edge`, `K4.same_hull_of_common_edge` : two faces with a common directed edge have parallel
      normals, hence the same hull -/
namespace G3D
open V3

/-! ### vectors -/
/-- Gram determinant of the triples `(n, a, w)` and `(D, n, d)` for `a ⟂ n`, `w ⟂ n`, `w ⟂ d`: in the plane with
    normal `n`, the side of the horizontal direction `w` on which `a` lies decides the sign of `d . a` -/
theorem K4.triple_gram (n d D a w : V3) (na : dot n a = 0) (nw : dot n w = 0) (dw : dot d w = 0) :
    dot n (cross a w) * dot D (cross n d) = dot D w * (normSq n * dot d a) := by
  simp only [dot, cross, normSq] at na nw dw ⊢
  linear_combination
    ((n.x * D.x + n.y * D.y + n.z * D.z) * (d.x * w.x + d.y * w.y + d.z * w.z)
      - (n.x * d.x + n.y * d.y + n.z * d.z) * (D.x * w.x + D.y * w.y + D.z * w.z)) * na
    + ((n.x * d.x + n.y * d.y + n.z * d.z) * (a.x * D.x + a.y * D.y + a.z * D.z)
      - (n.x * D.x + n.y * D.y + n.z * D.z) * (d.x * a.x + d.y * a.y + d.z * a.z)) * nw
    - (n.x * n.x + n.y * n.y + n.z * n.z) * (a.x * D.x + a.y * D.y + a.z * D.z) * dw

theorem K4.normSq_cross_perp (n u : V3) (hnu : dot n u = 0) : normSq (cross n u) = normSq n * normSq u := by
  rw [lagrange, hnu]; ring

/-- `n2` is orthogonal to `u` and to `n1 × u`, hence parallel to `u × (n1 × u) = |u|² n1` -/
theorem K4.cross_zero_of_perp (n1 n2 u : V3) (hu : u ≠ zero) (h1 : dot n1 u = 0) (h2 : dot n2 u = 0)
    (hD : dot n2 (cross n1 u) = 0) : cross n2 n1 = zero := by
  have h := cross_cross_perp h2 hD
  rw [K4.cross_self_cross h1] at h
  have e : cross n2 (smul (normSq u) n1) = smul (normSq u) (cross n2 n1) := by
    apply V3.ext' <;> simp only [cross, smul] <;> ring
  exact smul_eq_zero_of_ne (normSq_pos hu).ne' (e ▸ h)

theorem K4.triple_swap (n1 n2 u : V3) : dot n1 (cross n2 u) = - dot n2 (cross n1 u) := by
  simp only [dot, cross]; ring

theorem K4.triple_swap13 (a b c : V3) : dot a (cross b c) = - dot c (cross b a) := by
  simp only [dot, cross]; ring

/-- `orient` as a scalar product with the in-plane normal of the edge -/
theorem K4.orient_eq (n a b x : V3) : orient n a b x = dot (sub x a) (cross n (sub b a)) := by
  simp only [orient, dot, cross, sub]; ring

/-! ### polygons -/
theorem K4.consec_fst : ∀ l : List V3, (consec l).map Prod.fst = l.dropLast
  | [] => rfl
  | [_] => rfl
  | a :: b :: l => by
    simp only [consec, List.map_cons, List.dropLast_cons_cons]
    rw [K4.consec_fst (b :: l)]

theorem K4.closedPairs_fst (l : List V3) : (closedPairs l).map Prod.fst = l := by
  cases l with
  | nil => rfl
  | cons p ps =>
    unfold closedPairs
    rw [K4.consec_fst]
    have := List.dropLast_concat (l₁ := p :: ps) (b := p)
    simpa using this

theorem K4.closedPairs_nodup (l : List V3) (h : l.Nodup) : (closedPairs l).Nodup :=
  List.Nodup.of_map Prod.fst (by rw [K4.closedPairs_fst]; exact h)

/-- a valid polygon has a vertex strictly to the left of each of its edges -/
theorem K4.third_vertex (P : Polygon) (hv : P.Valid) (e : V3 × V3) (he : e ∈ closedPairs P.pts) :
    ∃ v ∈ P.pts, 0 < orient P.plane.n e.1 e.2 v := by
  have hnd := hv.nodup
  obtain ⟨p0, p1, p2, rest, hp, _, htp⟩ := hv
  -- three different vertices are not all among the two end points of `e`
  have hex : ∃ v ∈ P.pts, v ≠ e.1 ∧ v ≠ e.2 := by
    rw [hp] at hnd ⊢
    simp only [List.nodup_cons, List.mem_cons, not_or] at hnd
    by_contra hcon
    push Not at hcon
    have q0 := hcon p0 (by simp)
    have q1 := hcon p1 (by simp)
    have q2 := hcon p2 (by simp)
    obtain ⟨⟨h01, h02, _⟩, ⟨h12, _⟩, _⟩ := hnd
    by_cases a0 : p0 = e.1
    · by_cases a1 : p1 = e.1
      · exact h01 (a0.trans a1.symm)
      · by_cases a2 : p2 = e.1
        · exact h02 (a0.trans a2.symm)
        · exact h12 ((q1 a1).trans (q2 a2).symm)
    · by_cases a1 : p1 = e.1
      · by_cases a2 : p2 = e.1
        · exact h12 (a1.trans a2.symm)
        · exact h02 ((q0 a0).trans (q2 a2).symm)
      · exact h01 ((q0 a0).trans (q1 a1).symm)
  obtain ⟨v, hvm, hv1, hv2⟩ := hex
  rcases closed_edges_pos P.plane.n P.pts htp e he v hvm with h | h | h
  · exact ⟨v, hvm, h⟩
  · exact absurd h hv1
  · exact absurd h hv2

/-- if all vertices lie (weakly) to the left of `b → a`, then `(b, a)` is an edge of the cycle -/
theorem K4.rev_edge_of_left (P : Polygon) (hv : P.Valid) (a b : V3) (ha : a ∈ P.pts) (hb : b ∈ P.pts)
    (hab : a ≠ b) (hall : ∀ v ∈ P.pts, 0 ≤ orient P.plane.n b a v) : (b, a) ∈ closedPairs P.pts := by
  obtain ⟨⟨s, hs⟩, _⟩ := K3.vertex_edges P.pts b hb
  by_cases hsa : s = a
  · rw [← hsa]; exact hs
  · exfalso
    have htp : triplesPos P.plane.n P.pts := by
      obtain ⟨_, _, _, _, _, _, htp⟩ := hv; exact htp
    rcases closed_edges_pos P.plane.n P.pts htp (b, s) hs a ha with h | h | h
    · simp only at h
      rw [orient_swap23] at h
      have := hall s (closedPairs_mem P.pts _ hs).2
      linarith
    · exact hab h
    · exact hsa h.symm

/-! ### two face functionals along a common edge -/

/-- the functional of `f2` at a point `v` of the plane of `f1`, both planes containing `a` and `b` -/
theorem K4.side_via_orient (f1 f2 : Polygon) (a b v : V3) (h1a : f1.side a = 0) (h1b : f1.side b = 0)
    (h2a : f2.side a = 0) (h2b : f2.side b = 0) (h1v : f1.side v = 0) :
    normSq f1.plane.n * normSq (sub b a) * f2.side v =
      dot f2.plane.n (cross f1.plane.n (sub b a)) * orient f1.plane.n a b v := by
  have g := K4.triple_gram f1.plane.n f2.plane.n (sub b a) (sub v a) (sub b a)
    (by rw [K4.side_diff, h1a, h1v]; ring) (by rw [K4.side_diff, h1a, h1b]; ring)
    (by rw [K4.side_diff, h2a, h2b]; ring)
  rw [K4.triple_swap f1.plane.n, K4.triple_swap13 (sub b a), ← K4.orient_eq, K4.side_diff, h2a] at g
  change _ = normSq (sub b a) * _ at g
  linear_combination -g

theorem K4.nonpos_of_mul_eq {N s D o : Rat} (hN : 0 < N) (ho : 0 < o) (hs : s ≤ 0) (h : N * s = D * o) : D ≤ 0 := by
  by_contra hpos
  have := mul_pos (not_le.mp hpos) ho
  have := mul_nonpos_of_nonneg_of_nonpos hN.le hs
  linarith

/-- the common edge `a → b` is DIRECTED: a vertex of `h1` left of it makes `n2 . (n1 × (b - a))` nonpositive, a
    vertex of `h2` left of it makes it nonnegative -/
theorem K4.parallel_of_common_edge (h1 h2 : Polygon) (hv1 : h1.Valid) (hv2 : h2.Valid) (e : V3 × V3)
    (he1 : e ∈ closedPairs h1.pts) (he2 : e ∈ closedPairs h2.pts)
    (z1 : ∀ v ∈ h1.pts, h1.side v = 0) (z2 : ∀ v ∈ h2.pts, h2.side v = 0)
    (i1 : ∀ v ∈ h1.pts, h2.side v ≤ 0) (i2 : ∀ v ∈ h2.pts, h1.side v ≤ 0) :
    cross h2.plane.n h1.plane.n = zero := by
  have m1 := closedPairs_mem h1.pts e he1
  have m2 := closedPairs_mem h2.pts e he2
  have h1a := z1 _ m1.1
  have h1b := z1 _ m1.2
  have h2a := z2 _ m2.1
  have h2b := z2 _ m2.2
  have hu : sub e.2 e.1 ≠ zero := fun h => hv1.edge_ne e he1 (sub_eq_zero_iff.mp h).symm
  have hU := normSq_pos hu
  obtain ⟨v1, hv1m, ho1⟩ := K4.third_vertex h1 hv1 e he1
  obtain ⟨v2, hv2m, ho2⟩ := K4.third_vertex h2 hv2 e he2
  have e1 := K4.side_via_orient h1 h2 e.1 e.2 v1 h1a h1b h2a h2b (z1 v1 hv1m)
  have e2 := K4.side_via_orient h2 h1 e.1 e.2 v2 h2a h2b h1a h1b (z2 v2 hv2m)
  rw [K4.triple_swap] at e2
  have b1 := K4.nonpos_of_mul_eq (mul_pos (normSq_pos (Polygon.plane_WF h1 hv1)) hU) ho1 (i1 v1 hv1m) e1
  have b2 := K4.nonpos_of_mul_eq (mul_pos (normSq_pos (Polygon.plane_WF h2 hv2)) hU) ho2 (i2 v2 hv2m) e2
  exact K4.cross_zero_of_perp h1.plane.n h2.plane.n (sub e.2 e.1) hu
    (by rw [K4.side_diff, h1a, h1b]; ring) (by rw [K4.side_diff, h2a, h2b]; ring) (by linarith)

theorem K4.same_hull_of_common_edge {K : V3 → Prop} (h1 h2 : Polygon) (hv1 : h1.Valid) (hv2 : h2.Valid)
    (e : V3 × V3) (he1 : e ∈ closedPairs h1.pts) (he2 : e ∈ closedPairs h2.pts)
    (d1 : ∀ x, InHull h1.pts x ↔ (K x ∧ h1.side x = 0)) (d2 : ∀ x, InHull h2.pts x ↔ (K x ∧ h2.side x = 0))
    (i1 : ∀ x, K x → h1.side x ≤ 0) (i2 : ∀ x, K x → h2.side x ≤ 0) (c : V3) (hc : h2.side c ≠ 0) :
    ∀ x, InHull h1.pts x ↔ InHull h2.pts x := by
  have v1 : ∀ v ∈ h1.pts, K v ∧ h1.side v = 0 := fun v hv => (d1 v).mp (vertex_in_hull _ _ hv)
  have v2 : ∀ v ∈ h2.pts, K v ∧ h2.side v = 0 := fun v hv => (d2 v).mp (vertex_in_hull _ _ hv)
  have hcr := K4.parallel_of_common_edge h1 h2 hv1 hv2 e he1 he2 (fun v hv => (v1 v hv).2) (fun v hv => (v2 v hv).2)
    (fun v hv => i2 v (v1 v hv).1) (fun v hv => i1 v (v2 v hv).1)
  obtain ⟨l, _, hside⟩ := K4.side_prop_of_cross_zero h1 h2 e.1 (v1 _ (closedPairs_mem _ e he1).1).2
    (v2 _ (closedPairs_mem _ e he2).1).2 (Polygon.plane_WF h1 hv1) hcr
  exact K4.same_hull_of_side_prop h1 h2 d1 d2 l (by rintro rfl; exact hc (by rw [hside]; ring)) hside

namespace K4.FacetBody
variable {A B R : Polyhedron}

theorem vertex (hb : K4.FacetBody A B R) (h : Polygon) (hh : h ∈ R.faces) (v : V3) (hv : v ∈ h.pts) :
    K4.InK A B v ∧ h.side v = 0 := ((hb.face h hh).den v).mp (vertex_in_hull _ _ hv)

theorem normal_ne (hb : K4.FacetBody A B R) (h : Polygon) (hh : h ∈ R.faces) : h.plane.n ≠ zero :=
  Polygon.plane_WF h (hb.face h hh).valid

/-- **uniqueness**: two faces with a common DIRECTED edge have the same hull -/
theorem edge_unique (hb : K4.FacetBody A B R) (h1 h2 : Polygon) (hh1 : h1 ∈ R.faces) (hh2 : h2 ∈ R.faces)
    (e : V3 × V3) (he1 : e ∈ closedPairs h1.pts) (he2 : e ∈ closedPairs h2.pts) :
    ∀ x, InHull h1.pts x ↔ InHull h2.pts x := by
  obtain ⟨c, hc⟩ := hb.interior
  exact K4.same_hull_of_common_edge h1 h2 (hb.face h1 hh1).valid (hb.face h2 hh2).valid e he1 he2
    (hb.face h1 hh1).den (hb.face h2 hh2).den (hb.face h1 hh1).inner (hb.face h2 hh2).inner c
    (hb.side_strict hc h2 hh2).ne

end K4.FacetBody
#print axioms K4.FacetBody.edge_unique

end G3D
