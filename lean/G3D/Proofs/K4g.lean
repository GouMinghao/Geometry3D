import G3D.Proofs.K4f
import G3D.Proofs.BridgeExact

/-! # Kernel K4: concrete instances (non-vacuity)

    The unit cube and its translates (built like `cubeE` of K3.lean: six outward quadrilaterals, the twelve edges the
    constructor computes) satisfy `ExactHyp`; the handler is evaluated by the kernel for overlapping cubes (a
    ConvexPolyhedron), a common face piece (ConvexPolygon) and a common edge piece (Segment); in each case
    `interPolyhedronPolyhedron_exact_of_ok` applies.  For a common corner and for disjoint cubes the results, a Point
    and `None`, follow without evaluation from the characterisations `interPolyhedronPolyhedron_point_iff` and
    `interPolyhedronPolyhedron_none_iff`. -/
namespace G3D
open V3

/-- the axis-parallel unit cube with lowest corner `(a, b, c)` -/
def K4.cubeAt (a b c : Rat) : Polyhedron :=
  let P := polyOfCycles
    [ [⟨a,b,c⟩, ⟨a,b+1,c⟩, ⟨a+1,b+1,c⟩, ⟨a+1,b,c⟩], [⟨a,b,c+1⟩, ⟨a+1,b,c+1⟩, ⟨a+1,b+1,c+1⟩, ⟨a,b+1,c+1⟩],
      [⟨a,b,c⟩, ⟨a+1,b,c⟩, ⟨a+1,b,c+1⟩, ⟨a,b,c+1⟩], [⟨a,b+1,c⟩, ⟨a,b+1,c+1⟩, ⟨a+1,b+1,c+1⟩, ⟨a+1,b+1,c⟩],
      [⟨a,b,c⟩, ⟨a,b,c+1⟩, ⟨a,b+1,c+1⟩, ⟨a,b+1,c⟩], [⟨a+1,b,c⟩, ⟨a+1,b+1,c⟩, ⟨a+1,b+1,c+1⟩, ⟨a+1,b,c+1⟩] ]
  { P with edges := faceEdges P }

def K4.cube0 : Polyhedron := K4.cubeAt 0 0 0
def K4.cubeH : Polyhedron := K4.cubeAt (1/2) (1/2) (1/2)
def K4.cubeF : Polyhedron := K4.cubeAt 1 (1/2) (1/2)
def K4.cubeEd : Polyhedron := K4.cubeAt 1 1 (1/2)
def K4.cubeC : Polyhedron := K4.cubeAt 1 1 1
def K4.cubeD : Polyhedron := K4.cubeAt 2 0 0
def K4.cubeQ : Polyhedron := K4.cubeAt (3/4) (3/4) (3/4)

theorem Polyhedron.ExactHyp.of_fields {B B' : Polyhedron} (h : B.ExactHyp) (hf : B'.faces = B.faces)
    (hv : B'.verts = B.verts) (he : B'.edges = B.edges) : B'.ExactHyp := by
  obtain ⟨⟨⟨h1, h2, h3, h4, h5, h6⟩, hl⟩, hw, hr, hc⟩ := h
  unfold Polyhedron.VertsInside at h5
  unfold Polyhedron.FaceLocal at hl
  unfold Polyhedron.EdgesReal at hr
  unfold Polyhedron.EdgesComplete at hc
  rw [← hf] at h1 h2 h3 h4 h5 h6 hl hr hc
  rw [← hv] at h4 h5
  rw [← he] at hw hr hc
  exact ⟨⟨⟨h1, h2, h3, h4, h5, h6⟩, hl⟩, hw, hr, hc⟩

/-- the cube at `(a, b, c)` is the unit cube moved there (the three lists are compared by evaluation), and a moved body
    satisfies `ExactHyp` again -/
theorem K4.cubeAt_exactHyp (a b c : Rat)
    (h : (K4.cubeAt a b c).faces = (unitCube.moved ⟨a, b, c⟩).faces ∧
      (K4.cubeAt a b c).verts = (unitCube.moved ⟨a, b, c⟩).verts ∧
      (K4.cubeAt a b c).edges = (unitCube.moved ⟨a, b, c⟩).edges) : (K4.cubeAt a b c).ExactHyp :=
  (unitCube.moved_exactHyp unitCube_valid unitCube_faceLocal _).of_fields h.1 h.2.1 h.2.2

theorem K4.cube0_exactHyp : K4.cube0.ExactHyp := K4.cubeAt_exactHyp _ _ _ (by decide +kernel)
theorem K4.cubeH_exactHyp : K4.cubeH.ExactHyp := K4.cubeAt_exactHyp _ _ _ (by decide +kernel)
theorem K4.cubeF_exactHyp : K4.cubeF.ExactHyp := K4.cubeAt_exactHyp _ _ _ (by decide +kernel)
theorem K4.cubeEd_exactHyp : K4.cubeEd.ExactHyp := K4.cubeAt_exactHyp _ _ _ (by decide +kernel)
theorem K4.cubeC_exactHyp : K4.cubeC.ExactHyp := K4.cubeAt_exactHyp _ _ _ (by decide +kernel)
theorem K4.cubeD_exactHyp : K4.cubeD.ExactHyp := K4.cubeAt_exactHyp _ _ _ (by decide +kernel)
theorem K4.cubeQ_exactHyp : K4.cubeQ.ExactHyp := K4.cubeAt_exactHyp _ _ _ (by decide +kernel)

def K4.onPoly {α : Type} (f : Polyhedron → α) (r : ResB) : Option α :=
  match r with
  | .ok (some (.polyhedron R)) => some (f R)
  | _ => none

theorem K4.of_onPoly {α : Type} {f : Polyhedron → α} {r : ResB} {a : α} (h : K4.onPoly f r = some a) :
    ∃ R, r = .ok (some (.polyhedron R)) ∧ f R = a := by
  unfold K4.onPoly at h
  split at h
  · rename_i R; cases h; exact ⟨R, rfl, rfl⟩
  · cases h

/-- observer: the vertex cycle of a returned polygon -/
def K4.gonPts (r : ResB) : Option (List V3) :=
  match r with
  | .ok (some (.polygon Q)) => some Q.pts
  | _ => none

theorem K4.of_gonPts (r : ResB) (vs : List V3) (h : K4.gonPts r = some vs) :
    ∃ Q, r = .ok (some (.polygon Q)) ∧ Q.pts = vs := by
  unfold K4.gonPts at h
  split at h
  · rename_i Q; cases h; exact ⟨Q, rfl, rfl⟩
  · cases h

def K4.isPoint (r : ResB) (p : V3) : Bool :=
  match r with
  | .ok (some (.flat (.point q))) => q == p
  | _ => false

def K4.isNone (r : ResB) : Bool :=
  match r with
  | .ok none => true
  | _ => false

/-- the handler returns the Point `q` exactly when the bodies meet in `q` alone -/
theorem interPolyhedronPolyhedron_point_iff (A B : Polyhedron) (hA : A.ExactHyp) (hB : B.ExactHyp) (q : V3) :
    interPolyhedronPolyhedron A B = .ok (some (.flat (.point q))) ↔
      ∀ x, (InHull A.verts x ∧ InHull B.verts x) ↔ x = q := by
  constructor
  · intro h x
    exact (((interPolyhedronPolyhedron_exact_of_ok A B hA hB).1 _ h).2 x).symm
  · intro hq
    -- a Valid polygon has two different vertices, so none fits into `A ∩ B`
    have hgon : ∀ Q : Polygon, Q.Valid → (∀ x, InHull Q.pts x → InHull A.verts x ∧ InHull B.verts x) → False := by
      intro Q hv hsub
      obtain ⟨p0, p1, p2, rest, hpts, _⟩ := id hv
      have hnd := hv.nodup
      rw [hpts] at hnd
      have e0 := (hq p0).mp (hsub p0 (vertex_in_hull _ _ (by rw [hpts]; simp)))
      have e1 := (hq p1).mp (hsub p1 (vertex_in_hull _ _ (by rw [hpts]; simp)))
      exact (List.nodup_cons.mp hnd).1 (by rw [e0, ← e1]; simp)
    obtain ⟨p, hp, h⟩ := interPolyhedronPolyhedron_total A B hA hB
    rcases h with ⟨_, o', ho', hsh, hd⟩ | ⟨h2, _, _, _⟩
    · rw [ho']
      cases hsh with
      | none => exact ((hd q).mpr ((hq q).mpr rfl)).elim
      | point q' => rw [(hq q').mp ((hd q').mp rfl)]
      | seg s hw =>
        exact absurd (((hq s.a).mp ((hd s.a).mp s.a_mem_den)).trans ((hq s.b).mp ((hd s.b).mp s.b_mem_den)).symm) hw.1
      | gon Q hv => exact (hgon Q hv (fun x hx => (hd x).mp hx)).elim
    · exfalso
      obtain ⟨g, hg⟩ := List.exists_mem_of_length_pos (by omega : 0 < p.gons.length)
      obtain ⟨hv, f, _, hspec⟩ := hp.gon_spec hA hB g hg
      exact hgon g hv (fun x hx => (K4.InK_iff_hull hA hB x).mp ((hspec x).mp hx).1)

/-- the corners of `[lo, 1]³` in the order in which the handler lists them -/
def K4.boxVerts (lo : Rat) : List V3 :=
  [⟨lo,lo,1⟩, ⟨lo,1,1⟩, ⟨1,1,1⟩, ⟨1,lo,1⟩, ⟨lo,1,lo⟩, ⟨1,1,lo⟩, ⟨1,lo,lo⟩, ⟨lo,lo,lo⟩]

/-- overlapping cubes: the kernel evaluates the handler ONCE; of the returned ConvexPolyhedron `R` it observes the
    vertices, the verdict of the Bool judges of `ExactHyp` and `Valid`, and the vertices of what the handler returns for
    `R` and the third cube `cubeQ` (the last two are used in K4m) -/
theorem K4.cube0_cubeH_eval :
    ∃ R, interPolyhedronPolyhedron K4.cube0 K4.cubeH = .ok (some (.polyhedron R)) ∧ R.verts = K4.boxVerts (1/2) ∧
      (R.exactHypB && R.validB) = true ∧
      ∃ R2, interPolyhedronPolyhedron R K4.cubeQ = .ok (some (.polyhedron R2)) ∧ R2.verts = K4.boxVerts (3/4) := by
  have h : K4.onPoly (fun R => (R.verts, R.exactHypB && R.validB,
        K4.onPoly (·.verts) (interPolyhedronPolyhedron R K4.cubeQ)))
      (interPolyhedronPolyhedron K4.cube0 K4.cubeH) = some (K4.boxVerts (1/2), true, some (K4.boxVerts (3/4))) := by
    decide +kernel
  obtain ⟨R, hR, hf⟩ := K4.of_onPoly h
  obtain ⟨R2, hR2, hv2⟩ := K4.of_onPoly (congrArg (·.2.2) hf)
  exact ⟨R, hR, congrArg (·.1) hf, congrArg (·.2.1) hf, R2, hR2, hv2⟩

/-- … and that polyhedron is exactly the intersection of the two cubes -/
theorem K4.cube0_cubeH_exact :
    ∃ R, interPolyhedronPolyhedron K4.cube0 K4.cubeH = .ok (some (.polyhedron R)) ∧ R.verts.length = 8 ∧
      ∀ x, InHull R.verts x ↔ (InHull K4.cube0.verts x ∧ InHull K4.cubeH.verts x) := by
  obtain ⟨R, hR, hv, _⟩ := K4.cube0_cubeH_eval
  refine ⟨R, hR, by rw [hv]; rfl, ?_⟩
  exact ((interPolyhedronPolyhedron_exact_of_ok K4.cube0 K4.cubeH K4.cube0_exactHyp K4.cubeH_exactHyp).1 _ hR).2

/-- cubes sharing part of a face: a ConvexPolygon, exactly the common part -/
theorem K4.cube0_cubeF_eval :
    K4.gonPts (interPolyhedronPolyhedron K4.cube0 K4.cubeF) = some [⟨1,1/2,1/2⟩, ⟨1,1,1/2⟩, ⟨1,1,1⟩, ⟨1,1/2,1⟩] := by
  decide +kernel

theorem K4.cube0_cubeF_exact :
    ∃ Q, interPolyhedronPolyhedron K4.cube0 K4.cubeF = .ok (some (.polygon Q)) ∧
      ∀ x, InHull Q.pts x ↔ (InHull K4.cube0.verts x ∧ InHull K4.cubeF.verts x) := by
  obtain ⟨Q, hQ, _⟩ := K4.of_gonPts _ _ K4.cube0_cubeF_eval
  exact ⟨Q, hQ,
    ((interPolyhedronPolyhedron_exact_of_ok K4.cube0 K4.cubeF K4.cube0_exactHyp K4.cubeF_exactHyp).1 _ hQ).2⟩

/-- cubes sharing part of an edge: a Segment (not "Bug detected"), exactly the common part -/
theorem K4.cube0_cubeEd_eval :
    (interPolyhedronPolyhedron K4.cube0 K4.cubeEd).isSeg ⟨1,1,1/2⟩ ⟨1,1,1⟩ = true := by
  decide +kernel

theorem K4.cube0_cubeEd_exact :
    ∃ s, interPolyhedronPolyhedron K4.cube0 K4.cubeEd = .ok (some (.flat (.seg s))) ∧ s.WF ∧
      ∀ x, s.den x ↔ (InHull K4.cube0.verts x ∧ InHull K4.cubeEd.verts x) := by
  obtain ⟨s, hs, _, _⟩ := ResB.of_isSeg _ _ _ K4.cube0_cubeEd_eval
  have := (interPolyhedronPolyhedron_exact_of_ok K4.cube0 K4.cubeEd K4.cube0_exactHyp K4.cubeEd_exactHyp).1 _ hs
  exact ⟨s, hs, this.1, this.2⟩

/-- cubes sharing a corner: they meet in `(1,1,1)` alone (`cube0` lies below it in every coordinate, `cubeC` beyond the plane `x + y + z = 3`),
    so the handler returns that Point (not "Bug detected"): no evaluation, `interPolyhedronPolyhedron_point_iff` read
    from right to left -/
theorem K4.cube0_cubeC_eval : K4.isPoint (interPolyhedronPolyhedron K4.cube0 K4.cubeC) ⟨1,1,1⟩ = true := by
  have h : ∀ x, (InHull K4.cube0.verts x ∧ InHull K4.cubeC.verts x) ↔ x = ⟨1,1,1⟩ := by
    refine fun x => ⟨fun ⟨h0, hC⟩ => ?_, ?_⟩
    · have a1 := h0.halfspace ⟨1,1,1⟩ ⟨1,0,0⟩ (by decide +kernel)
      have a2 := h0.halfspace ⟨1,1,1⟩ ⟨0,1,0⟩ (by decide +kernel)
      have a3 := h0.halfspace ⟨1,1,1⟩ ⟨0,0,1⟩ (by decide +kernel)
      have b := hC.halfspace ⟨1,1,1⟩ ⟨-1,-1,-1⟩ (by decide +kernel)
      simp only [dot, sub] at a1 a2 a3 b
      apply V3.ext' <;> simp only <;> linarith
    · rintro rfl
      exact ⟨vertex_in_hull _ _ (by decide +kernel), vertex_in_hull _ _ (by decide +kernel)⟩
  rw [(interPolyhedronPolyhedron_point_iff K4.cube0 K4.cubeC K4.cube0_exactHyp K4.cubeC_exactHyp _).mpr h]
  rfl

/-- disjoint cubes: the plane `x = 3/2` separates them -/
theorem K4.cube0_cubeD_disjoint : ∀ x, ¬ (InHull K4.cube0.verts x ∧ InHull K4.cubeD.verts x) := by
  intro x ⟨h0, hD⟩
  have a := h0.halfspace ⟨1,0,0⟩ ⟨1,0,0⟩ (by decide +kernel)
  have b := hD.halfspace ⟨2,0,0⟩ ⟨-1,0,0⟩ (by decide +kernel)
  simp only [dot, sub] at a b
  linarith

theorem K4.cube0_cubeD_eval : K4.isNone (interPolyhedronPolyhedron K4.cube0 K4.cubeD) = true := by
  rw [(interPolyhedronPolyhedron_none_iff K4.cube0 K4.cubeD K4.cube0_exactHyp K4.cubeD_exactHyp).mpr
    K4.cube0_cubeD_disjoint]
  rfl

#print axioms K4.cube0_cubeH_exact
#print axioms K4.cube0_cubeF_exact
#print axioms K4.cube0_cubeEd_exact
#print axioms K4.cube0_cubeD_disjoint

end G3D
