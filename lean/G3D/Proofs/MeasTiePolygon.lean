import G3D.Extracted.Mmeas
import G3D.Proofs.MeasTieBase
import G3D.Proofs.KTieKarea
/-! # mmeas, `get_triangle_area` and `ConvexPolygon.area`  (C06)
    `G3D.Extracted.m_get_triangle_area`, `m_ConvexPolygon_area` are regenerated on every run by tools/extract_mmeas.py
    from the BODIES in geometry/polygon.py.  One `section` per body: when ONE body cannot be translated the generated file
    holds `m_<..>_EXTRACTION_FAILED` for it and the theorems of that section (and of the sections that use it) stop compiling.
    * `get_triangle_area` (statement by statement) IS the term that the symbolic-execution kernel `karea` extracts by
      running the real function (`m_get_triangle_area_karea`, by unfolding only), hence ½|u × v| by `KTie.Karea.triangleArea_tie`.
    * `ConvexPolygon.area`: the index loop with the wrap-around index is the fan sum about `center_point` over the cyclic
      edge list; for a `Valid` polygon whose stored centre lies in the plane (`MeasOK`) it equals the model's
      `areaNum / (2·√(n·n))`.  Coplanarity of the fan triangles with the face normal is what turns Heron's ½|u × v| into
      `|n·(u × v)| / (2|n|)`. -/
namespace G3D.MeasTie.Polygon
open G3D G3D.MeasRt G3D.KTie G3D.Extracted G3D.MeasTie Real

section get_triangle_area
/-- the AST translation of the body and the symbolic execution of the real function (kernel `karea`) give the same term -/
theorem m_get_triangle_area_karea (pa pb pc : RVec) :
    m_get_triangle_area pa pb pc = impl_triangleArea pa pb pc := by
  simp only [m_get_triangle_area, pointDistance, impl_triangleArea]

/-- **Heron's value is half the length of the cross product** (reusing the kernel tie) -/
theorem m_get_triangle_area_tie (pa pb pc : RVec) :
    m_get_triangle_area pa pb pc = (1 / 2) * √(RVec.normSq (RVec.cross (RVec.sub pb pa) (RVec.sub pc pa))) :=
  (m_get_triangle_area_karea pa pb pc).trans (Karea.triangleArea_tie pa pb pc)
end get_triangle_area

section area
/-- the loop of `ConvexPolygon.area` (index arithmetic with wrap-around, accumulator) is the fan sum over the cyclic edges -/
theorem m_ConvexPolygon_area_cyc (M : MPolygon) :
    m_ConvexPolygon_area M
      = ((cycPairs M.points).map (fun e => m_get_triangle_area M.center_point e.1 e.2)).sum := by
  set_option linter.unusedSimpArgs false in
  simp only [m_ConvexPolygon_area, ne_eq, ite_not]
  refine (cyc_fold M.points RVec.zero (fun a b => m_get_triangle_area M.center_point a b) 0).trans ?_
  rw [zero_add]

/-- **`ConvexPolygon.area()` = `areaNum / (2·√(n·n))`** for every `Valid` polygon whose stored centre lies in its plane -/
theorem m_ConvexPolygon_area_tie (P : Polygon) (h : MeasOK P) :
    m_ConvexPolygon_area (polyToM P) = ((P.areaNum : ℚ) : ℝ) / (2 * √((V3.normSq P.plane.n : ℚ) : ℝ)) := by
  obtain ⟨hv, hc⟩ := h
  have hn : P.plane.n ≠ V3.zero := Polygon.plane_WF P hv
  obtain ⟨_, _, _, _, _, hpl, _⟩ := hv
  rw [m_ConvexPolygon_area_cyc]
  simp only [polyToM]
  rw [cycPairs_map, List.map_map, ← closedPairs_eq_cycPairs]
  unfold Polygon.areaNum
  rw [cast_sum_map, ← sum_map_div_const]
  refine congrArg List.sum (List.map_congr_left fun e he => ?_)
  obtain ⟨h1, h2⟩ := closedPairs_mem P.pts e he
  simp only [Function.comp, Prod.map]
  rw [m_get_triangle_area_tie]
  exact tri_half_cross P.plane.n P.center e.1 e.2 hn
    (inPlane_diff hc (hpl _ h1)) (inPlane_diff hc (hpl _ h2))

/-- the same with the hypothesis in the constructor's terms: the stored centre is the vertex mean -/
theorem m_ConvexPolygon_area_of_mean (P : Polygon) (hv : P.Valid) (hc : P.center = meanV P.pts) :
    m_ConvexPolygon_area (polyToM P) = ((P.areaNum : ℚ) : ℝ) / (2 * √((V3.normSq P.plane.n : ℚ) : ℝ)) :=
  m_ConvexPolygon_area_tie P (MeasOK.of_mean hv hc)

/-- the value does not depend on the stored plane at all (the body never reads it) -/
theorem m_ConvexPolygon_area_plane_irrelevant (M : MPolygon) (pl : MPlane) :
    m_ConvexPolygon_area ⟨M.points, M.center_point, pl⟩ = m_ConvexPolygon_area M := by
  rw [m_ConvexPolygon_area_cyc, m_ConvexPolygon_area_cyc]
end area

#print axioms m_get_triangle_area_karea
#print axioms m_get_triangle_area_tie
#print axioms m_ConvexPolygon_area_cyc
#print axioms m_ConvexPolygon_area_tie
#print axioms m_ConvexPolygon_area_of_mean
#print axioms m_ConvexPolygon_area_plane_irrelevant
end G3D.MeasTie.Polygon
