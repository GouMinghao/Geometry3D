import G3D.Proofs.K5
import G3D.Proofs.SortCycle
import G3D.Proofs.BodySoundAll
import G3D.Proofs.Move2
import G3D.Proofs.Xf2

/-! C09 (polyhedron constructor), list level: `collectVerts` / `collectEdges` as sets, cyclic edge lists under
    rotation and reversal, counting of classes of `Seg.same`, and the explicit form of a successful
    `Polyhedron.mk?`. -/
namespace G3D
open V3

/-! ### `collectVerts`: a duplicate-free list of exactly the face vertices -/
theorem addPt_nodup (l : List V3) (p : V3) (h : l.Nodup) : (addPt l p).Nodup := by
  unfold addPt
  split
  · exact h
  · rw [← List.concat_eq_append]; exact h.concat ‹_›

theorem foldl_preserves {α β : Type} (P : β → Prop) (f : β → α → β) (h : ∀ b a, P b → P (f b a)) :
    ∀ (l : List α) (b : β), P b → P (l.foldl f b)
  | [], _, hb => hb
  | a :: l, b, hb => foldl_preserves P f h l (f b a) (h b a hb)

theorem collectVerts_eq_foldl (input : List Polygon) :
    collectVerts input = (input.flatMap (·.pts)).foldl addPt [] := List.foldl_flatMap.symm

/-- the vertex list of the constructor contains exactly the vertices of the input polygons -/
theorem mem_collectVerts (input : List Polygon) (v : V3) :
    v ∈ collectVerts input ↔ ∃ f ∈ input, v ∈ f.pts := by
  rw [collectVerts_eq_foldl, mem_foldl_addPt, List.mem_flatMap, or_iff_right List.not_mem_nil]

/-- … each exactly once -/
theorem collectVerts_nodup (input : List Polygon) : (collectVerts input).Nodup := by
  rw [collectVerts_eq_foldl]; exact foldl_preserves _ _ addPt_nodup _ _ List.nodup_nil

/-- two inputs with the same set of vertices give the same vertex list up to order -/
theorem collectVerts_perm (i1 i2 : List Polygon)
    (h : ∀ v, (∃ f ∈ i1, v ∈ f.pts) ↔ (∃ f ∈ i2, v ∈ f.pts)) :
    List.Perm (collectVerts i1) (collectVerts i2) := by
  rw [List.perm_ext_iff_of_nodup (collectVerts_nodup i1) (collectVerts_nodup i2)]
  intro v
  rw [mem_collectVerts, mem_collectVerts]; exact h v

/-! ### cyclic edge lists under rotation and reversal of the cycle -/
theorem closedPairs_rotate1 (a : V3) (l : List V3) :
    List.Perm (closedPairs (l ++ [a])) (closedPairs (a :: l)) := by
  cases l with
  | nil => exact List.Perm.refl _
  | cons b m =>
    have e1 : closedPairs (b :: m ++ [a]) = consec ((b :: m) ++ [a]) ++ [(a, b)] :=
      consec_append_singleton' (b :: m) a b
    have e2 : closedPairs (a :: b :: m) = (a, b) :: consec ((b :: m) ++ [a]) := rfl
    rw [e1, e2]
    exact List.perm_append_singleton _ _

/-- rotating the vertex cycle permutes the directed edges -/
theorem closedPairs_rotate : ∀ (l1 l2 : List V3),
    List.Perm (closedPairs (l1 ++ l2)) (closedPairs (l2 ++ l1)) := by
  intro l1
  induction l1 with
  | nil => intro l2; simp
  | cons a l1 ih =>
    intro l2
    have h1 : List.Perm (closedPairs (a :: (l1 ++ l2))) (closedPairs (l1 ++ (l2 ++ [a]))) := by
      rw [← List.append_assoc]; exact (closedPairs_rotate1 a (l1 ++ l2)).symm
    have h2 := ih (l2 ++ [a])
    have e : l2 ++ [a] ++ l1 = l2 ++ a :: l1 := by simp
    rw [e] at h2
    exact h1.trans h2

/-- `q0 :: rest.reverse` (the cycle stored by `-polygon`) has the reversed directed edges -/
theorem closedPairs_cons_reverse (q0 : V3) (rest : List V3) :
    List.Perm (closedPairs (q0 :: rest.reverse)) ((closedPairs (q0 :: rest)).map Prod.swap) := by
  have h1 := closedPairs_reverse_perm (q0 :: rest)
  rw [List.reverse_cons] at h1
  exact (closedPairs_rotate1 q0 rest.reverse).symm.trans h1

/-! ### `Seg.same` is an equivalence relation -/
theorem Seg.same_iff (s o : Seg) :
    s.same o = true ↔ (s.a = o.a ∧ s.b = o.b) ∨ (s.b = o.a ∧ s.a = o.b) := by
  simp [Seg.same]

theorem Seg.same_refl (s : Seg) : s.same s = true := by rw [Seg.same_iff]; exact Or.inl ⟨rfl, rfl⟩

theorem Seg.same_symm {s o : Seg} (h : s.same o = true) : o.same s = true := by
  rw [Seg.same_iff] at h ⊢
  rcases h with ⟨h1, h2⟩ | ⟨h1, h2⟩
  · exact Or.inl ⟨h1.symm, h2.symm⟩
  · exact Or.inr ⟨h2.symm, h1.symm⟩

theorem Seg.same_trans {s o r : Seg} (h1 : s.same o = true) (h2 : o.same r = true) : s.same r = true := by
  rw [Seg.same_iff] at h1 h2 ⊢
  rcases h1 with ⟨a1, b1⟩ | ⟨a1, b1⟩ <;> rcases h2 with ⟨a2, b2⟩ | ⟨a2, b2⟩
  · exact Or.inl ⟨a1.trans a2, b1.trans b2⟩
  · exact Or.inr ⟨b1.trans a2, a1.trans b2⟩
  · exact Or.inr ⟨a1.trans a2, b1.trans b2⟩
  · exact Or.inl ⟨b1.trans a2, a1.trans b2⟩

theorem Seg.same_mk'_swap (a b : V3) : (Seg.mk' a b).same (Seg.mk' b a) = true := by
  rw [Seg.same_iff]; exact Or.inr ⟨rfl, rfl⟩

/-- no two entries are the same undirected segment -/
def NoSame (l : List Seg) : Prop := l.Pairwise (fun s o => ¬ s.same o = true)

theorem length_le_of_classes {α : Type} (R : α → α → Prop) (hs : ∀ a b, R a b → R b a)
    (ht : ∀ a b c, R a b → R b c → R a c) :
    ∀ l1 l2 : List α, l1.Pairwise (fun a b => ¬ R a b) → (∀ a ∈ l1, ∃ b ∈ l2, R a b) →
      l1.length ≤ l2.length := by
  intro l1
  induction l1 with
  | nil => intro l2 _ _; exact Nat.zero_le _
  | cons a t ih =>
    intro l2 p1 h1
    obtain ⟨b, hb, hab⟩ := h1 a (by simp)
    obtain ⟨s, u, rfl⟩ := List.append_of_mem hb
    rw [List.pairwise_cons] at p1
    -- the representative of `a` is not needed for the others
    have := ih (s ++ u) p1.2 (fun a' ha' => by
      obtain ⟨b', hb', hab'⟩ := h1 a' (List.mem_cons_of_mem _ ha')
      refine ⟨b', ?_, hab'⟩
      rcases List.mem_append.mp hb' with h | h
      · exact List.mem_append_left _ h
      · rcases List.mem_cons.mp h with rfl | h
        · exact absurd (ht _ _ _ hab (hs _ _ hab')) (p1.1 a' ha')
        · exact List.mem_append_right _ h)
    simp only [List.length_append, List.length_cons] at this ⊢
    omega

theorem length_eq_of_classes {α : Type} (R : α → α → Prop) (hs : ∀ a b, R a b → R b a)
    (ht : ∀ a b c, R a b → R b c → R a c) :
    ∀ l1 l2 : List α, l1.Pairwise (fun a b => ¬ R a b) → l2.Pairwise (fun a b => ¬ R a b) →
      (∀ a ∈ l1, ∃ b ∈ l2, R a b) → (∀ b ∈ l2, ∃ a ∈ l1, R a b) → l1.length = l2.length :=
  fun l1 l2 p1 p2 h1 h2 => Nat.le_antisymm (length_le_of_classes R hs ht l1 l2 p1 h1)
    (length_le_of_classes R hs ht l2 l1 p2 fun b hb => let ⟨a, ha, hab⟩ := h2 b hb; ⟨a, ha, hs _ _ hab⟩)

/-! ### `addSeg` / `collectEdges`: one representative of every undirected edge -/
theorem addSeg_noSame (l : List Seg) (s : Seg) (h : NoSame l) : NoSame (addSeg l s) := by
  unfold addSeg
  split
  · exact h
  · rename_i hn
    unfold NoSame
    rw [List.pairwise_append]
    refine ⟨h, List.pairwise_singleton _ _, ?_⟩
    intro x hx y hy
    simp only [List.mem_singleton] at hy
    subst hy
    intro hxy
    exact hn (List.any_eq_true.mpr ⟨x, hx, hxy⟩)

theorem mem_addSeg_of_mem (l : List Seg) (s x : Seg) (h : x ∈ l) : x ∈ addSeg l s := by
  unfold addSeg; split
  · exact h
  · exact List.mem_append_left _ h

theorem addSeg_covers (l : List Seg) (s : Seg) : ∃ x ∈ addSeg l s, x.same s = true := by
  unfold addSeg
  split
  · rename_i h
    obtain ⟨x, hx, hxs⟩ := List.any_eq_true.mp h
    exact ⟨x, hx, hxs⟩
  · exact ⟨s, by simp, s.same_refl⟩

theorem foldl_addSeg_covers : ∀ (ss acc : List Seg) (s : Seg), s ∈ ss → ∃ x ∈ ss.foldl addSeg acc, x.same s = true := by
  intro ss
  induction ss with
  | nil => intro acc s h; cases h
  | cons s0 ss ih =>
    intro acc s h
    rw [List.foldl_cons]
    rcases List.mem_cons.mp h with rfl | h
    · obtain ⟨x, hx, hxs⟩ := addSeg_covers acc s
      exact ⟨x, foldl_preserves (x ∈ ·) _ (fun l s h => mem_addSeg_of_mem l s x h) _ _ hx, hxs⟩
    · exact ih _ s h

/-- the segments of one face, as a pure function -/
def Polygon.segs (P : Polygon) : List Seg := (closedPairs P.pts).map (fun e => Seg.mk' e.1 e.2)

theorem Polygon.segments?_ok_iff (P : Polygon) (ss : List Seg) :
    P.segments? = .ok ss ↔ ss = P.segs ∧ ∀ e ∈ closedPairs P.pts, e.1 ≠ e.2 := by
  unfold Polygon.segments? Polygon.segs
  simp only [mapM_ok_iff_forall₂, ite_error_ok_iff, Except.ok.injEq, List.forall₂_and_left, forall₂_eq_map_iff]
  exact ⟨fun ⟨h1, h2⟩ => ⟨h2.symm, h1⟩, fun ⟨h1, h2⟩ => ⟨h2, h1.symm⟩⟩

/-- the edge list of the constructor as a pure function -/
def edgesOf (fs : List Polygon) (acc : List Seg) : List Seg :=
  fs.foldl (fun acc f => f.segs.foldl addSeg acc) acc

theorem collectEdges_ok_iff : ∀ (fs : List Polygon) (acc out : List Seg),
    collectEdges fs acc = .ok out ↔
      out = edgesOf fs acc ∧ ∀ f ∈ fs, ∀ e ∈ closedPairs f.pts, e.1 ≠ e.2 := by
  intro fs
  induction fs with
  | nil =>
    intro acc out
    simp only [collectEdges, edgesOf, List.foldl_nil, Except.ok.injEq, List.not_mem_nil, false_imp_iff, implies_true,
      and_true, eq_comm]
  | cons f fs ih =>
    intro acc out
    simp only [collectEdges, bind_ok_iff, Polygon.segments?_ok_iff, ih, edgesOf, List.foldl_cons, List.forall_mem_cons]
    exact ⟨fun ⟨_, ⟨rfl, h1⟩, h2, h3⟩ => ⟨h2, h1, h3⟩, fun ⟨h2, h1, h3⟩ => ⟨_, ⟨rfl, h1⟩, h2, h3⟩⟩

theorem edgesOf_eq_foldl (fs : List Polygon) (acc : List Seg) :
    edgesOf fs acc = (fs.flatMap Polygon.segs).foldl addSeg acc := List.foldl_flatMap.symm

theorem edgesOf_noSame (fs : List Polygon) (acc : List Seg) (h : NoSame acc) : NoSame (edgesOf fs acc) := by
  rw [edgesOf_eq_foldl]; exact foldl_preserves _ _ addSeg_noSame _ _ h

/-- every stored edge is an edge `Segment(p_i, p_{i+1})` of some input polygon -/
theorem edgesOf_mem (fs : List Polygon) (acc : List Seg) (x : Seg) (h : x ∈ edgesOf fs acc) :
    x ∈ acc ∨ ∃ f ∈ fs, ∃ e ∈ closedPairs f.pts, x = Seg.mk' e.1 e.2 := by
  rw [edgesOf_eq_foldl] at h
  refine (BS.mem_foldl_addSeg _ _ _ h).imp_right fun h' => ?_
  obtain ⟨f, hf, hx⟩ := List.mem_flatMap.mp h'
  obtain ⟨e, he, rfl⟩ := List.mem_map.mp hx
  exact ⟨f, hf, e, he, rfl⟩

/-- every edge of every input polygon is represented (possibly by its reverse) -/
theorem edgesOf_covers (fs : List Polygon) (acc : List Seg) (f : Polygon) (hf : f ∈ fs) (e : V3 × V3)
    (he : e ∈ closedPairs f.pts) : ∃ x ∈ edgesOf fs acc, x.same (Seg.mk' e.1 e.2) = true := by
  rw [edgesOf_eq_foldl]
  exact foldl_addSeg_covers _ acc _ (List.mem_flatMap.mpr ⟨f, hf, List.mem_map.mpr ⟨e, he, rfl⟩⟩)

/-- two face lists have the same undirected edges -/
def SameUEdges (i1 i2 : List Polygon) : Prop :=
  (∀ f ∈ i1, ∀ e ∈ closedPairs f.pts, ∃ g ∈ i2, e ∈ closedPairs g.pts ∨ (e.2, e.1) ∈ closedPairs g.pts) ∧
  (∀ g ∈ i2, ∀ e ∈ closedPairs g.pts, ∃ f ∈ i1, e ∈ closedPairs f.pts ∨ (e.2, e.1) ∈ closedPairs f.pts)

theorem edgesOf_class_sub (i1 i2 : List Polygon)
    (h : ∀ f ∈ i1, ∀ e ∈ closedPairs f.pts, ∃ g ∈ i2, e ∈ closedPairs g.pts ∨ (e.2, e.1) ∈ closedPairs g.pts) :
    ∀ a ∈ edgesOf i1 [], ∃ b ∈ edgesOf i2 [], a.same b = true := by
  intro a ha
  rcases edgesOf_mem i1 [] a ha with h' | ⟨f, hf, e, he, rfl⟩
  · cases h'
  · obtain ⟨g, hg, hge⟩ := h f hf e he
    rcases hge with hge | hge
    · obtain ⟨x, hx, hxs⟩ := edgesOf_covers i2 [] g hg e hge
      exact ⟨x, hx, Seg.same_symm hxs⟩
    · obtain ⟨x, hx, hxs⟩ := edgesOf_covers i2 [] g hg _ hge
      exact ⟨x, hx, Seg.same_trans (Seg.same_mk'_swap e.1 e.2) (Seg.same_symm hxs)⟩

theorem edgesOf_classes {i1 i2 : List Polygon} (h : SameUEdges i1 i2) :
    (∀ a ∈ edgesOf i1 [], ∃ b ∈ edgesOf i2 [], a.same b = true) ∧
    (∀ b ∈ edgesOf i2 [], ∃ a ∈ edgesOf i1 [], a.same b = true) :=
  ⟨edgesOf_class_sub i1 i2 h.1, fun b hb =>
    let ⟨a, ha, hab⟩ := edgesOf_class_sub i2 i1 h.2 b hb; ⟨a, ha, Seg.same_symm hab⟩⟩

/-- **edge count is canonical**: inputs with the same undirected edges give edge lists (one representative per
    `Seg.same` class) of the same length -/
theorem edgesOf_length_eq (i1 i2 : List Polygon) (h : SameUEdges i1 i2) :
    (edgesOf i1 []).length = (edgesOf i2 []).length :=
  length_eq_of_classes (fun a b : Seg => a.same b = true) (fun _ _ => Seg.same_symm)
    (fun _ _ _ => Seg.same_trans) _ _ (edgesOf_noSame i1 [] List.Pairwise.nil)
    (edgesOf_noSame i2 [] List.Pairwise.nil) (edgesOf_classes h).1 (edgesOf_classes h).2

/-! ### the explicit form of a successful `ConvexPolyhedron(...)` -/
/-- the face the constructor stores for the input polygon `g` (centre `c`): `-g` when `g` looks towards `c` -/
def flipOf (c : V3) (g : Polygon) : Polygon :=
  if dot (sub g.plane.p c) g.plane.n < 0 then (match g.neg? with | .ok q => q | .error _ => g) else g

/-- the constructor loop on one face succeeds iff the centre is off the face plane and `-g` does not raise when it is
    needed; it then yields `flipOf c g` and the pyramid over the ORIGINAL polygon -/
theorem orientFace_ok_iff (c : V3) (g : Polygon) (pr : Polygon × (Polygon × V3)) :
    orientFace c g = .ok pr ↔ ¬ g.plane.contains c = true ∧
      (dot (sub g.plane.p c) g.plane.n < 0 → ∃ q, g.neg? = .ok q) ∧ (flipOf c g, (g, c)) = pr := by
  unfold orientFace flipOf
  by_cases hd : dot (sub g.plane.p c) g.plane.n < 0
  · simp only [if_pos hd, bind_ok_iff, ite_error_ok_iff, pure, Except.pure, Except.ok.injEq]
    constructor
    · rintro ⟨q, hq, hc, e⟩
      exact ⟨hc, fun _ => ⟨q, hq⟩, by rw [hq]; exact e⟩
    · rintro ⟨hc, hq, e⟩
      obtain ⟨q, hq⟩ := hq hd
      exact ⟨q, hq, hc, by rw [hq] at e; exact e⟩
  · simp only [if_neg hd, bind_ok_iff, ite_error_ok_iff, pure, Except.pure, Except.ok.injEq, exists_eq_left']
    exact ⟨fun ⟨h1, h2⟩ => ⟨h1, fun h => absurd h hd, h2⟩, fun ⟨h1, _, h2⟩ => ⟨h1, h2⟩⟩

theorem orientFace_intro (c : V3) (g : Polygon) (hc : ¬ g.plane.contains c = true)
    (hn : dot (sub g.plane.p c) g.plane.n < 0 → ∃ q, g.neg? = .ok q) :
    orientFace c g = .ok (flipOf c g, (g, c)) :=
  (orientFace_ok_iff c g _).mpr ⟨hc, hn, rfl⟩

/-- a successful constructor call, read backwards and forwards: the checks that passed, and every stored field as a
    function of the input -/
theorem Polyhedron.mk?_ok_iff (input : List Polygon) (B : Polyhedron) :
    Polyhedron.mk? input = .ok B ↔
      (∀ f ∈ input, ∀ e ∈ closedPairs f.pts, e.1 ≠ e.2) ∧ collectVerts input ≠ [] ∧
      (∀ g ∈ input, orientFace (meanV (collectVerts input)) g =
        .ok (flipOf (meanV (collectVerts input)) g, (g, meanV (collectVerts input)))) ∧
      (∀ g ∈ input, 0 ≤ dot (sub (flipOf (meanV (collectVerts input)) g).plane.p (meanV (collectVerts input)))
        (flipOf (meanV (collectVerts input)) g).plane.n) ∧
      ((collectVerts input).length : Int) - (edgesOf input []).length + input.length = 2 ∧
      B = ⟨input.map (flipOf (meanV (collectVerts input))), collectVerts input, edgesOf input [],
        input.map (fun g => (g, meanV (collectVerts input))), meanV (collectVerts input)⟩ := by
  have hor : ∀ fp, List.Forall₂ (fun g pr => orientFace (meanV (collectVerts input)) g = .ok pr) input fp ↔
      (∀ g ∈ input, orientFace (meanV (collectVerts input)) g =
        .ok (flipOf (meanV (collectVerts input)) g, (g, meanV (collectVerts input)))) ∧
      input.map (fun g => (flipOf (meanV (collectVerts input)) g, (g, meanV (collectVerts input)))) = fp := by
    intro fp
    simp only [orientFace_ok_iff, List.forall₂_and_left, forall₂_eq_map_iff, and_true, forall_and, and_assoc]
  unfold Polyhedron.mk?
  simp only [bind_ok_iff, ite_error_ok_iff, collectEdges_ok_iff, mapM_ok_iff_forall₂, hor, pure, Except.pure,
    Except.ok.injEq, List.length_eq_zero_iff, Bool.not_eq_true', Bool.not_eq_false, List.all_eq_true,
    decide_eq_true_eq, bne_iff_ne, ne_eq, not_not]
  constructor
  · rintro ⟨_, ⟨rfl, hd⟩, hne, _, ⟨ho, rfl⟩, hn, he, rfl⟩
    simp only [List.map_map, Function.comp_def, List.length_map, List.mem_map, forall_exists_index, and_imp,
      forall_apply_eq_imp_iff₂] at hn he ⊢
    exact ⟨hd, hne, ho, hn, he, trivial⟩
  · rintro ⟨hd, hne, ho, hn, he, rfl⟩
    refine ⟨_, ⟨rfl, hd⟩, hne, _, ⟨ho, rfl⟩, ?_⟩
    simp only [List.map_map, Function.comp_def, List.length_map, List.mem_map, forall_exists_index, and_imp,
      forall_apply_eq_imp_iff₂]
    exact ⟨hn, he, trivial⟩

/-- everything a successful constructor call stores, as functions of the input -/
theorem Polyhedron.mk?_eq (input : List Polygon) (B : Polyhedron) (h : Polyhedron.mk? input = .ok B) :
    B.verts = collectVerts input ∧ B.edges = edgesOf input [] ∧
    (∀ f ∈ input, ∀ e ∈ closedPairs f.pts, e.1 ≠ e.2) ∧
    B.center = meanV (collectVerts input) ∧
    B.faces = input.map (flipOf B.center) ∧ B.pyramids = input.map (fun g => (g, B.center)) ∧
    (∀ g ∈ input, orientFace B.center g = .ok (flipOf B.center g, (g, B.center))) ∧
    (∀ g ∈ input, 0 ≤ dot (sub (flipOf B.center g).plane.p B.center) (flipOf B.center g).plane.n) ∧
    ((collectVerts input).length : Int) - (edgesOf input []).length + input.length = 2 ∧
    collectVerts input ≠ [] := by
  obtain ⟨hd, hne, ho, hn, he, rfl⟩ := (Polyhedron.mk?_ok_iff input B).mp h
  exact ⟨rfl, rfl, hd, rfl, rfl, rfl, ho, hn, he, hne⟩

/-- conversely: when the edge endpoints are distinct, there is a vertex, every face passes `orientFace`, the
    stored faces look away from the centre and Euler's formula holds, the constructor succeeds with these fields -/
theorem Polyhedron.mk?_intro (input : List Polygon)
    (hdist : ∀ f ∈ input, ∀ e ∈ closedPairs f.pts, e.1 ≠ e.2) (hne : collectVerts input ≠ [])
    (hor : ∀ g ∈ input, orientFace (meanV (collectVerts input)) g =
      .ok (flipOf (meanV (collectVerts input)) g, (g, meanV (collectVerts input))))
    (hnorm : ∀ g ∈ input, 0 ≤ dot (sub (flipOf (meanV (collectVerts input)) g).plane.p (meanV (collectVerts input)))
      (flipOf (meanV (collectVerts input)) g).plane.n)
    (heul : ((collectVerts input).length : Int) - (edgesOf input []).length + input.length = 2) :
    Polyhedron.mk? input = .ok ⟨input.map (flipOf (meanV (collectVerts input))), collectVerts input,
      edgesOf input [], input.map (fun g => (g, meanV (collectVerts input))), meanV (collectVerts input)⟩ :=
  (Polyhedron.mk?_ok_iff input _).mpr ⟨hdist, hne, hor, hnorm, heul, rfl⟩

#print axioms collectVerts_perm
#print axioms edgesOf_length_eq
#print axioms closedPairs_rotate
#print axioms Polyhedron.mk?_eq
#print axioms Polyhedron.mk?_intro
end G3D
