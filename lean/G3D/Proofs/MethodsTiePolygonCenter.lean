import G3D.Extracted.Mpolygon
import G3D.Proofs.MethodsTiePolygonShared
/-! # Tie, group `mpolygon`: `ConvexPolygon._get_center_point` = `meanV` (C09).  Own module because BOTH `__init__` (`MethodsTiePolygonCtor`) and `move` (`MethodsTiePolygonMove`) call this method: that coupling is real. -/
set_option linter.style.nameCheck false
namespace G3D.Tie
open V3 PyRt Extracted

theorem m_ConvexPolygon__get_center_point_eq (self : Self) (ps : List V3) (h : self.f_points = some (Val.ptSeq ps)) :
    m_ConvexPolygon__get_center_point self =
      if ps = [] then .error (.ctor .zeroDiv) else .ok (.obj (ptObj (meanV ps))) := by
  unfold m_ConvexPolygon__get_center_point
  rw [h]
  simp only [pyrt, Val.ptSeq, List.map_map, List.length_map]
  rw [centerLoop_eq ps _ (fun p o => by cases o <;> simp [pyrt, ctrRepr, ctrAdd, add])]
  cases ps with
  | nil => simp [pyrt, ctrRepr]
  | cons p ps =>
    have hn : ((ps.length : Rat) + 1) ≠ 0 := by positivity
    simp [pyrt, ctrRepr, hn, meanV, sumV, zero_add', smul]
    refine ⟨?_, ?_, ?_⟩ <;> ring

/-- `_get_center_point()` on a polygon object (the constructor and `move` call it on the record under construction) -/
theorem m_ConvexPolygon__get_center_point_eq' (P : Polygon) :
    m_ConvexPolygon__get_center_point (Self.ofPolygon P) =
      if P.pts = [] then .error (.ctor .zeroDiv) else .ok (.obj (ptObj (meanV P.pts))) :=
  m_ConvexPolygon__get_center_point_eq _ P.pts rfl

end G3D.Tie
