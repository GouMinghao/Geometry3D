import G3D.Model.Forms2
import G3D.Proofs.PlaneForms
import G3D.Proofs.InterFlat
import Mathlib.Tactic.Ring
import Mathlib.Tactic.Linarith
import Mathlib.Tactic.LinearCombination
import Mathlib.Tactic.FieldSimp

/-! Read-back forms: `Plane.parametric`, `Plane.point_normal`, `Line.parametric`, and the agreement of
    the two `Line` constructor forms. -/
namespace G3D
open V3 Solver2

/-! ### elimination of a two-row system -/

/-- the elimination of a two-row system either finds no pivot at all (every coefficient column of
    both rows is zero) or keeps one row as pivot row and eliminates the other one with it -/
theorem gaussRec_pair (nc : Nat) (r1 r2 : Row) : ∀ (f j : Nat), nc ≤ f + j →
    (gaussRec f nc j [r1, r2] = [r1, r2] ∧
        ∀ i, j ≤ i → i + 1 < nc → r1.getD i 0 = 0 ∧ r2.getD i 0 = 0) ∨
    ∃ c, (r1.getD c 0 ≠ 0 ∧ gaussRec f nc j [r1, r2] = [r1, elimRow r1 c r2]) ∨
         (r2.getD c 0 ≠ 0 ∧ gaussRec f nc j [r1, r2] = [r2, elimRow r2 c r1]) := by
  intro f
  induction f with
  | zero => intro j hj; left; exact ⟨rfl, fun i h1 h2 => by omega⟩
  | succ f ih =>
    intro j hj
    unfold gaussRec
    by_cases hjn : j + 1 ≥ nc
    · simp only [hjn, if_true]; left; exact ⟨trivial, fun i h1 h2 => by omega⟩
    · simp only [hjn, if_false]
      cases hp : pivotIdx [r1, r2] j with
      | none =>
        simp only
        have hz := pivotIdx_none hp
        rcases ih (j+1) (by omega) with ⟨he, hz'⟩ | h
        · left
          refine ⟨he, fun i h1 h2 => ?_⟩
          by_cases hij : i = j
          · subst hij; exact ⟨hz r1 (by simp), hz r2 (by simp)⟩
          · exact hz' i (by omega) h2
        · right; exact h
      | some k =>
        simp only
        obtain ⟨hk, hne⟩ := pivotIdx_some hp
        right
        refine ⟨j, ?_⟩
        have hk2 : k = 0 ∨ k = 1 := by
          have : k < 2 := by simpa using hk
          omega
        rcases hk2 with rfl | rfl
        · left
          refine ⟨by simpa using hne, ?_⟩
          simp [takePivot, gaussRec_single]
        · right
          refine ⟨by simpa using hne, ?_⟩
          simp [takePivot, gaussRec_single]

theorem solve_pair4 (a b c d x y z e : Rat) :
    (solve [[a, b, c, d], [x, y, z, e]] = [[a, b, c, d], [x, y, z, e]] ∧
        (⟨a, b, c⟩ : V3) = zero ∧ (⟨x, y, z⟩ : V3) = zero) ∨
    ∃ j, ([a, b, c, d].getD j 0 ≠ 0 ∧
            solve [[a, b, c, d], [x, y, z, e]] = [[a, b, c, d], elimRow [a, b, c, d] j [x, y, z, e]]) ∨
         ([x, y, z, e].getD j 0 ≠ 0 ∧
            solve [[a, b, c, d], [x, y, z, e]] = [[x, y, z, e], elimRow [x, y, z, e] j [a, b, c, d]]) := by
  have h := gaussRec_pair 4 [a, b, c, d] [x, y, z, e] 4 0 (by omega)
  have hs : solve [[a, b, c, d], [x, y, z, e]] = gaussRec 4 4 0 [[a, b, c, d], [x, y, z, e]] := rfl
  rw [hs]
  rcases h with ⟨he, hz⟩ | h
  · left
    have h0 := hz 0 (by omega) (by omega)
    have h1 := hz 1 (by omega) (by omega)
    have h2 := hz 2 (by omega) (by omega)
    simp at h0 h1 h2
    refine ⟨he, ?_, ?_⟩
    · rw [h0.1, h1.1, h2.1]; rfl
    · rw [h0.2, h1.2, h2.2]; rfl
  · right; exact h

/-! ### vector algebra -/

theorem cross_ne_zero_of_orth {u v : V3} (hu : u ≠ zero) (hv : v ≠ zero) (h : dot u v = 0) :
    cross u v ≠ zero := by
  intro hc
  have hl := lagrange u v
  rw [hc, h] at hl
  have h1 := normSq_pos hu
  have h2 := normSq_pos hv
  have h3 : normSq zero = 0 := by simp [normSq, dot, zero]
  rw [h3] at hl
  nlinarith [mul_pos h1 h2]

/-- a row `q + k p` is not null when the coefficient vectors of `p` and `q` are independent -/
theorem addMul_nonnull (a b c x y z k : Rat) (h : cross ⟨a, b, c⟩ ⟨x, y, z⟩ ≠ zero) :
    nullRow (addMul k [a, b, c, 0] [x, y, z, 0]) = false := by
  by_contra hn
  simp only [Bool.not_eq_false] at hn
  rw [nullRow_iff] at hn
  simp only [addMul, List.zipWith_cons_cons, List.zipWith_nil_right] at hn
  have hx := hn (x + k * a) (by simp)
  have hy := hn (y + k * b) (by simp)
  have hz := hn (z + k * c) (by simp)
  apply h
  apply V3.ext' <;> simp only [cross, zero]
  · linear_combination b * hz - c * hy
  · linear_combination c * hx - a * hz
  · linear_combination a * hy - b * hx

/-! ### the two solver calls of `Plane.parametric` -/

/-- a homogeneous system in three unknowns, called with the expected (positive) number of free
    values the first of which is 1: the call returns a non-zero vector solving the system -/
theorem homog_call (m : Mat) (hu : Uniform (3+1) m) (hne : m ≠ []) (hz : Sat m [0, 0, 0])
    (v : List Rat) (hv : v.length = varargs 3 (solve m)) (hpos : 0 < v.length)
    (h1 : v.getD 0 0 = 1) :
    ∃ u : V3, vecOfVals (call 3 (solve m) v) = .ok u ∧ Sat m [u.x, u.y, u.z] ∧ u ≠ zero := by
  have hs : solvable (solve m) = true := (solvable_iff_consistent 3 m hu hne).mpr ⟨_, rfl, hz⟩
  obtain ⟨x, hlen, hcall, hsat, hrb⟩ := call_values 3 m hu hne hs v hv
  have hrb := hrb 0 hpos
  rw [h1] at hrb
  generalize (freeCols (pivotCols (solve m)) 3).getD 0 0 = k at hrb
  obtain ⟨x0, y0, z0, rfl⟩ := List.length_eq_three.mp hlen
  refine ⟨⟨x0, y0, z0⟩, by rw [hcall]; rfl, hsat, fun h0 => ?_⟩
  -- the first free unknown carries the value 1
  cases h0
  rcases k with _ | _ | _ | k <;> simp at hrb

theorem sat_row3 (a b c x y z : Rat) : rowSat [a, b, c, 0] [x, y, z] ↔ a * x + b * y + c * z = 0 := by
  simp [rowSat, rowDot, add_assoc]

theorem varargs_two_rows (n v : V3) (hn : n ≠ zero) (hc : cross n v ≠ zero) :
    varargs 3 (solve [[n.x, n.y, n.z, 0], [v.x, v.y, v.z, 0]]) = 1 := by
  have hc' : cross v n ≠ zero := by
    intro h; apply hc; rw [cross_anticomm, h]; rfl
  rcases solve_pair4 n.x n.y n.z 0 v.x v.y v.z 0 with ⟨_, h0, _⟩ | ⟨j, ⟨hj, he⟩ | ⟨hj, he⟩⟩
  · exact absurd h0 hn
  · rw [he]
    have p1 := not_nullRow_of_ne hj
    have p2 : nullRow (elimRow [n.x, n.y, n.z, 0] j [v.x, v.y, v.z, 0]) = false :=
      addMul_nonnull _ _ _ _ _ _ _ hc
    simp [varargs, nonNullRows, p1, p2]
  · rw [he]
    have p1 := not_nullRow_of_ne hj
    have p2 : nullRow (elimRow [v.x, v.y, v.z, 0] j [n.x, n.y, n.z, 0]) = false :=
      addMul_nonnull _ _ _ _ _ _ _ hc'
    simp [varargs, nonNullRows, p1, p2]

/-- the two solver calls of `Plane.parametric` succeed: `v` is a non-zero vector orthogonal to `n`,
    `w` a non-zero vector orthogonal to both -/
theorem plane_param_calls (P : Plane) (hP : P.WF) :
    ∃ v w : V3, P.parametric = .ok (P.p, v, w) ∧ v ≠ zero ∧ w ≠ zero ∧
      dot v P.n = 0 ∧ dot w P.n = 0 ∧ dot v w = 0 := by
  have hn : (⟨P.n.x, P.n.y, P.n.z⟩ : V3) ≠ zero := hP
  -- first call
  have hu1 : Uniform (3+1) [[P.n.x, P.n.y, P.n.z, 0]] := by
    intro r hr; simp at hr; subst hr; rfl
  obtain ⟨v, hv, hsv, hv0⟩ := homog_call [[P.n.x, P.n.y, P.n.z, 0]] hu1 (by simp)
    (by intro r hr; simp at hr; subst hr; simp [rowSat, rowDot])
    [1, 1] (by rw [varargs_one_row _ _ _ _ hn]; rfl) (by simp) rfl
  have hnv : P.n.x * v.x + P.n.y * v.y + P.n.z * v.z = 0 :=
    (sat_row3 _ _ _ _ _ _).mp (hsv _ (by simp))
  have hdnv : dot P.n v = 0 := hnv
  have hcr : cross P.n v ≠ zero := cross_ne_zero_of_orth hP hv0 hdnv
  -- second call
  have hu2 : Uniform (3+1) [[P.n.x, P.n.y, P.n.z, 0], [v.x, v.y, v.z, 0]] := by
    intro r hr; simp at hr; rcases hr with rfl | rfl <;> rfl
  obtain ⟨w, hw, hsw, hw0⟩ := homog_call [[P.n.x, P.n.y, P.n.z, 0], [v.x, v.y, v.z, 0]] hu2 (by simp)
    (by intro r hr; simp at hr; rcases hr with rfl | rfl <;> simp [rowSat, rowDot])
    [1] (by rw [varargs_two_rows P.n v hP hcr]; rfl) (by simp) rfl
  have hnw : P.n.x * w.x + P.n.y * w.y + P.n.z * w.z = 0 :=
    (sat_row3 _ _ _ _ _ _).mp (hsw _ (by simp))
  have hvw : v.x * w.x + v.y * w.y + v.z * w.z = 0 :=
    (sat_row3 _ _ _ _ _ _).mp (hsw _ (by simp))
  refine ⟨v, w, ?_, hv0, hw0, ?_, ?_, hvw⟩
  · unfold Plane.parametric
    rw [hv]
    simp only [bind, Except.bind]
    rw [hw]
    rfl
  · simp only [dot]; linarith
  · simp only [dot]; linarith

/-- `Plane(*P.parametric()) == P`: the parametric form is a point of the plane and two orthogonal,
    independent directions of the plane, and rebuilding the plane from it gives the same plane -/
theorem plane_param_roundtrip (P : Plane) (hP : P.WF) :
    ∃ u v w, P.parametric = .ok (u, v, w) ∧ u = P.p ∧ dot v P.n = 0 ∧ dot w P.n = 0 ∧ dot v w = 0 ∧
      cross v w ≠ zero ∧
      ∃ Q, Plane.ofPVV u v w = .ok Q ∧ Q.eqv P = true ∧ ∀ x, Q.den x ↔ P.den x := by
  obtain ⟨v, w, hpar, hv0, hw0, hvn, hwn, hvw⟩ := plane_param_calls P hP
  have hc : cross v w ≠ zero := cross_ne_zero_of_orth hv0 hw0 hvw
  refine ⟨P.p, v, w, hpar, rfl, hvn, hwn, hvw, hc, ⟨P.p, cross v w⟩, ?_, ?_⟩
  · unfold Plane.ofPVV; simp only; rw [if_neg hc]
  · have hQ : (⟨P.p, cross v w⟩ : Plane).WF := hc
    have hpar : cross (cross v w) P.n = zero := by
      simp only [dot] at hvn hwn
      apply V3.ext' <;> simp only [cross, zero]
      · linear_combination w.x * hvn - v.x * hwn
      · linear_combination w.y * hvn - v.y * hwn
      · linear_combination w.z * hvn - v.z * hwn
    have he : (⟨P.p, cross v w⟩ : Plane).eqv P = true :=
      Plane.eqv_of_parallel_common _ P hQ hP ((parallel_iff_cross _ _).mpr hpar) P.p
        (by simp [Plane.den, dot, sub]) (by simp [Plane.den, dot, sub])
    exact ⟨he, Plane.eqv_den _ P hQ hP he⟩

/-- `Plane(*P.point_normal()) == P` (structurally, with the unnormalised normal) -/
theorem plane_pn_roundtrip (P : Plane) (hP : P.WF) :
    ∃ Q, Plane.ofPN P.pointNormal.1 P.pointNormal.2 = .ok Q ∧ Q = P := by
  refine ⟨P, ?_, rfl⟩
  unfold Plane.ofPN Plane.pointNormal
  simp only
  rw [if_neg hP]

/-- `Line(Point, Point)` and `Line(Point, Vector)` with the difference vector build the same line,
    which passes through both points -/
theorem line_forms_agree (p q : V3) (h : p ≠ q) :
    ∃ l1 l2, Line.ofPoints? p q = .ok l1 ∧ Line.mk? p (sub q p) = .ok l2 ∧ l1 = l2 ∧ l1.WF ∧
      l1.den p ∧ l1.den q := by
  have hd : sub q p ≠ zero := fun h0 => h (sub_eq_zero_iff.mp h0).symm
  have hm : Line.mk? p (sub q p) = .ok ⟨p, sub q p⟩ := by unfold Line.mk?; rw [if_neg hd]
  refine ⟨⟨p, sub q p⟩, ⟨p, sub q p⟩, hm, hm, rfl, hd, ⟨0, ?_⟩, ⟨1, ?_⟩⟩
  · apply V3.ext' <;> simp [add, smul]
  · apply V3.ext' <;> simp [add, smul, sub]

/-- `Line(*l.parametric()) == l` (structurally) -/
theorem line_param_roundtrip (l : Line) (hl : l.WF) :
    Line.mk? l.parametric.1 l.parametric.2 = .ok l := by
  unfold Line.mk? Line.parametric
  simp only
  rw [if_neg hl]

/-! ### non-vacuity: concrete planes whose normal has zero leading components -/

example : Plane.parametric ⟨⟨1, 2, 3⟩, ⟨0, 1, 1⟩⟩ = .ok (⟨1, 2, 3⟩, ⟨1, -1, 1⟩, ⟨-2, -1, 1⟩) := by
  decide +kernel
example : Plane.parametric ⟨⟨1, 2, 3⟩, ⟨0, 0, 2⟩⟩ = .ok (⟨1, 2, 3⟩, ⟨1, 1, 0⟩, ⟨-1, 1, 0⟩) := by
  decide +kernel
example : Plane.parametric ⟨⟨1, 2, 3⟩, ⟨2, 0, 0⟩⟩ = .ok (⟨1, 2, 3⟩, ⟨0, 1, 1⟩, ⟨0, -1, 1⟩) := by
  decide +kernel
example : Plane.parametric ⟨⟨1, 2, 3⟩, ⟨1, -5, 3⟩⟩ = .ok (⟨1, 2, 3⟩, ⟨2, 1, 1⟩, ⟨-8/11, 5/11, 1⟩) := by
  decide +kernel
/-- the degenerate normal is rejected (the first call has three free unknowns, not two) -/
example : Plane.parametric ⟨⟨1, 2, 3⟩, ⟨0, 0, 0⟩⟩ = .error .value := by decide +kernel

#print axioms gaussRec_pair
#print axioms plane_param_calls
#print axioms plane_param_roundtrip
#print axioms plane_pn_roundtrip
#print axioms line_forms_agree
#print axioms line_param_roundtrip
end G3D
