import G3D.Model.Vec
import Mathlib.Tactic.Ring
import Mathlib.Tactic.Linarith
import Mathlib.Tactic.FieldSimp
import Mathlib.Tactic.LinearCombination
import Mathlib.Algebra.Order.Field.Rat

namespace G3D
open V3

@[ext] theorem V3.ext' {a b : V3} (hx : a.x = b.x) (hy : a.y = b.y) (hz : a.z = b.z) : a = b := by
  cases a; cases b; simp_all

theorem cross_anticomm (a b : V3) : cross a b = neg (cross b a) := by
  apply V3.ext' <;> simp only [cross, neg] <;> ring

theorem dot_comm (a b : V3) : dot a b = dot b a := by
  simp only [dot]; ring

theorem dot_cross_self (a b : V3) : dot a (cross a b) = 0 := by
  simp only [dot, cross]; ring

theorem lagrange (a b : V3) : normSq (cross a b) = normSq a * normSq b - (dot a b)^2 := by
  simp only [normSq, dot, cross]; ring

theorem add_zero' (a : V3) : add a zero = a := by
  apply V3.ext' <;> simp [add, zero]

theorem zero_add' (a : V3) : add zero a = a := by
  apply V3.ext' <;> simp [add, zero]

theorem add_sub_same (a b : V3) : add a (sub b a) = b := by
  apply V3.ext' <;> simp only [add, sub] <;> ring

theorem sub_eq_zero_iff {a b : V3} : sub a b = zero ↔ a = b := by
  constructor
  · intro h; rw [← add_sub_same b a, h]; apply V3.ext' <;> simp only [add, zero] <;> ring
  · rintro rfl; apply V3.ext' <;> simp only [sub, zero] <;> ring

theorem normSq_nonneg (v : V3) : 0 ≤ normSq v :=
  add_nonneg (add_nonneg (mul_self_nonneg v.x) (mul_self_nonneg v.y)) (mul_self_nonneg v.z)

theorem normSq_eq_zero {v : V3} : normSq v = 0 ↔ v = zero := by
  constructor
  · intro h
    have hx := mul_self_nonneg v.x; have hy := mul_self_nonneg v.y; have hz := mul_self_nonneg v.z
    simp only [normSq, dot] at h
    apply V3.ext' <;> exact mul_self_eq_zero.mp (by linarith)
  · rintro rfl; simp only [normSq, dot, zero]; ring

theorem normSq_pos {v : V3} (h : v ≠ zero) : 0 < normSq v :=
  lt_of_le_of_ne (normSq_nonneg v) (fun e => h (normSq_eq_zero.mp e.symm))

theorem parallel_iff_cross (u v : V3) : parallel u v = true ↔ cross u v = zero := by
  rw [← normSq_eq_zero, lagrange, parallel, beq_iff_eq, sub_eq_zero, eq_comm]

theorem eq_smul_of_cross_eq_zero {u v : V3} (hv : v ≠ zero) (h : cross u v = zero) :
    u = smul (dot u v / normSq v) v := by
  have hn : normSq v ≠ 0 := ne_of_gt (normSq_pos hv)
  have hx := congrArg V3.x h; have hy := congrArg V3.y h; have hz := congrArg V3.z h
  simp only [cross, zero] at hx hy hz
  apply V3.ext' <;> simp only [smul] <;> rw [div_mul_eq_mul_div, eq_div_iff hn] <;> simp only [normSq, dot]
  · linear_combination v.y * hz - v.z * hy
  · linear_combination v.z * hx - v.x * hz
  · linear_combination v.x * hy - v.y * hx

/-- point on line iff parametrised -/
theorem Line.contains_iff (l : Line) (hd : l.dv ≠ zero) (p : V3) :
    l.contains p = true ↔ ∃ t : Rat, p = add l.sv (smul t l.dv) := by
  unfold Line.contains
  rw [parallel_iff_cross]
  constructor
  · intro h
    exact ⟨_, by rw [← eq_smul_of_cross_eq_zero hd h, add_sub_same]⟩
  · rintro ⟨t, rfl⟩
    apply V3.ext' <;> simp only [cross, sub, add, smul, zero] <;> ring

#print axioms Line.contains_iff
end G3D
