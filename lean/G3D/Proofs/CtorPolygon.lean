import G3D.Proofs.Construct

/-! Successful calls read backwards: three rewriting lemmas turn `do`-block = `.ok r` into the list of checks that
    passed and the values that were bound; `ConvexPolygon(points)` in that form. -/
namespace G3D
open V3

theorem bind_ok_iff {ε α β : Type} (x : Except ε α) (g : α → Except ε β) (b : β) :
    x >>= g = .ok b ↔ ∃ a, x = .ok a ∧ g a = .ok b := by
  cases x with
  | error e => exact ⟨fun h => (nomatch h), fun ⟨_, h, _⟩ => (nomatch h)⟩
  | ok a => exact ⟨fun h => ⟨a, rfl, h⟩, fun ⟨_, h, hg⟩ => by cases h; exact hg⟩

theorem ite_error_ok_iff {ε α : Type} (c : Prop) [Decidable c] (e : ε) (x : Except ε α) (a : α) :
    (if c then .error e else x) = .ok a ↔ ¬ c ∧ x = .ok a := by
  split
  · exact ⟨fun h => (nomatch h), fun h => absurd ‹c› h.1⟩
  · exact ⟨fun h => ⟨‹¬ c›, h⟩, fun h => h.2⟩

theorem mapM_ok_iff_forall₂ {α β ε : Type} (f : α → Except ε β) (l : List α) (out : List β) :
    l.mapM f = .ok out ↔ List.Forall₂ (fun a b => f a = .ok b) l out := by
  induction l generalizing out with
  | nil =>
    rw [List.mapM_nil, List.forall₂_nil_left_iff]
    exact ⟨fun h => (Except.ok.inj h).symm, fun h => h ▸ rfl⟩
  | cons a l ih =>
    simp only [List.mapM_cons, bind_ok_iff, List.forall₂_cons_left_iff, ih, pure, Except.pure, Except.ok.injEq]
    exact ⟨fun ⟨b, hb, bs, hbs, e⟩ => ⟨b, bs, hb, hbs, e.symm⟩, fun ⟨b, bs, hb, hbs, e⟩ => ⟨b, hb, bs, hbs, e.symm⟩⟩

theorem mapM_ok_of_forall {α β ε : Type} (f : α → Except ε β) (g : α → β) (l : List α)
    (h : ∀ a ∈ l, f a = .ok (g a)) : l.mapM f = .ok (l.map g) :=
  (mapM_ok_iff_forall₂ f l _).mpr (List.forall₂_map_right_iff.mpr (List.forall₂_same.mpr h))

theorem forall₂_eq_map_iff {α β : Type} (g : α → β) (l : List α) (out : List β) :
    List.Forall₂ (fun a b => g a = b) l out ↔ l.map g = out := by
  rw [← List.forall₂_eq_eq_eq, List.forall₂_map_left_iff]

/-- the vertex cycle the constructor stores: the duplicate-free points sorted by angle about `c`, measured from
    `v0` in the plane with normal `n` (one point kept per angle) -/
def angSorted (c v0 n : V3) (ded : List V3) : List V3 :=
  (ded.foldl (fun acc p => angInsert (dot (sub p c) v0, dot (sub p c) (cross n v0)) p acc) []).map (·.2)

theorem mem_of_mem_angSorted {c v0 n : V3} {ded : List V3} {s : V3} (h : s ∈ angSorted c v0 n ded) : s ∈ ded :=
  (foldl_angInsert_mem _ ded [] s h).resolve_right List.not_mem_nil

theorem Polygon.mk?_ok_iff (input : List V3) (rev : Bool) (P : Polygon) :
    Polygon.mk? input rev = .ok P ↔ ¬ input.length < 3 ∧
      ∃ p0 p1 p2 rest, dedupV input = p0 :: p1 :: p2 :: rest ∧ cross (sub p1 p0) (sub p2 p0) ≠ zero ∧
        sub p0 (meanV (dedupV input)) ≠ zero ∧
        ∃ n, n = (if rev = true then neg (cross (sub p1 p0) (sub p2 p0)) else cross (sub p1 p0) (sub p2 p0)) ∧
        (∀ p ∈ dedupV input, (⟨p0, n⟩ : Plane).contains p = true) ∧
        P = ⟨angSorted (meanV (dedupV input)) (sub p0 (meanV (dedupV input))) n (dedupV input), ⟨p0, n⟩,
          meanV (dedupV input)⟩ := by
  unfold Polygon.mk?
  rw [ite_error_ok_iff]
  refine and_congr_right fun _ => ?_
  split
  · rename_i p0 p1 p2 rest hd
    simp only [ite_error_ok_iff, Except.ok.injEq, Bool.not_eq_true', Bool.not_eq_false, List.all_eq_true, hd,
      List.cons.injEq, angSorted, ne_eq, exists_eq_left, eq_comm (a := P)]
    constructor
    · rintro ⟨h1, h2, h3, rfl⟩
      exact ⟨p0, p1, p2, rest, ⟨rfl, rfl, rfl, rfl⟩, h1, h2, h3, rfl⟩
    · rintro ⟨_, _, _, _, ⟨rfl, rfl, rfl, rfl⟩, h1, h2, h3, rfl⟩
      exact ⟨h1, h2, h3, rfl⟩
  · rename_i hne
    exact ⟨fun h => (nomatch h), fun ⟨p0, p1, p2, rest, hd, _⟩ => absurd hd (hne p0 p1 p2 rest)⟩

end G3D
