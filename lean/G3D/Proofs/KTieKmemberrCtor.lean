import G3D.Extracted.Kmemberr
import G3D.Proofs.KTieKmemberr
/-! # kmember (real part), constructor pins: `Segment(Point, Point)`, `HalfLine(Point, Vector)`  (C19)
    `G3D.Extracted.impl_*` are regenerated on every run (tools/extract_kmemberr.py, engine tools/kernels_engine.py): the REAL code is run on
    symbolic numbers, every comparison against the tolerance is recorded (operands and shape) and answered from a scripted
    path.  Each kernel has its own `section`: when the walk of ONE kernel fails the generated file holds only the marker
    `impl_<kernel>_EXTRACTION_FAILED` for it and exactly the theorems of that section stop compiling. -/
namespace G3D.KTie.Kmember
open G3D G3D.Extracted Real

section segCtor
theorem segCtor_path : impl_segCtor_path = [("abs(R) < eps", false), ("abs(R) < eps", false)] := rfl
end segCtor

section halfLineCtorLength
/-- the constructor's rejection test `|v| < eps` is on the length of `v` -/
theorem halfLineCtor_length_tie (p v : RVec) : impl_halfLineCtor_length p v = √(RVec.normSq v) := by
  simp only [impl_halfLineCtor_length, sum0]

theorem halfLineCtor_iff (p v : V3) : impl_halfLineCtor_length p.toR v.toR = 0 ↔ ¬ (HalfLine.mk' p v).WF := by
  rw [halfLineCtor_length_tie, toR_normSq]
  have hnn : (0 : ℝ) ≤ ((V3.normSq v : ℚ) : ℝ) := by exact_mod_cast G3D.normSq_nonneg v
  rw [Real.sqrt_eq_zero hnn]
  simp only [HalfLine.WF, HalfLine.mk', and_true, ne_eq, not_not, Rat.cast_eq_zero]
  exact G3D.normSq_eq_zero
end halfLineCtorLength

section combined
theorem segContains_paths :
    impl_segContains_path = [("abs(R) < eps", false), ("abs(R) < eps", false), ("abs(R) < eps", false), ("abs(R) < (eps * S)", true), ("R < eps", false), ("R > -eps", true), ("R < (1 + eps)", true)] ∧
    impl_segContainsStart_path = [("abs(R) < eps", false), ("abs(R) < eps", false), ("abs(R) < eps", false), ("abs(R) < (eps * S)", false), ("R < eps", true)] ∧
    impl_segContainsOffLine_path = [("abs(R) < eps", false), ("abs(R) < eps", false), ("abs(R) < eps", false), ("abs(R) < (eps * S)", false), ("R < eps", false)] ∧
    impl_segCtor_path = [("abs(R) < eps", false), ("abs(R) < eps", false)] :=
  ⟨segContains_paths_main.1, segContains_paths_main.2.1, segContains_paths_main.2.2, segCtor_path⟩

theorem halfLine_parts_tie (p v x : RVec) :
    impl_halfLineContains_lineResidual p v x = impl_lineContains_residual p v x ∧
    impl_halfLineCtor_length p v = √(RVec.normSq v) := ⟨halfLineCarrier_tie p v x, halfLineCtor_length_tie p v⟩
end combined

end G3D.KTie.Kmember
