import G3D.Extracted.Mflat
import G3D.Proofs.MethodsTieBase
import G3D.Proofs.Move
/-! # Tie, group `mflat`, role MOVE (C07; `*_move_reject` C15): `move` of Line, Plane, Segment, HalfLine = `Model.Move` (receiver', returned).
    `*_raw` = exact behaviour incl. the exceptions of the re-run constructors, `*_eq` under well-formedness.  Conventions, trusted readings and the deviations found: `G3D.Proofs.MethodsTie`, header of `G3D.Model.PyRtM`. -/
set_option linter.style.nameCheck false
namespace G3D.Tie
open V3 PyRt Extracted

theorem m_Line_move_raw (l : Line) (v : V3) :
    m_Line_move (Self.ofLine l) (.vec v) =
      if l.dv = zero then .error (.ctor .value)
      else .ok (Self.ofLine (l.move v).1, .obj (lnObj (l.move v).2)) := by
  unfold m_Line_move
  simp [pyrt, Line.move, Line.mk?, add]

theorem m_Plane_move_raw (a : Plane) (v : V3) :
    m_Plane_move (Self.ofPlane a) (.vec v) =
      if a.n = zero then .error (.ctor .zeroDiv) else .ok (Self.ofPlane (a.move v).1, .obj (plObj (a.move v).2)) := by
  unfold m_Plane_move
  simp [pyrt, Plane.ofPN, Plane.move]

theorem m_Segment_move_raw (s : Seg) (v : V3) :
    m_Segment_move (Self.ofSeg s) (.vec v) =
      if s.a = s.b then .error (.ctor .value) else .ok (Self.ofSeg (s.move v).1, .obj (sgObj (s.move v).2)) := by
  unfold m_Segment_move
  simp [pyrt, Seg.move, Seg.mk', Seg.mk?, Line.ofPoints?, Line.mk?, sub_add_add, sub_eq_zero_iff, add_right_inj']
  by_cases h : s.a = s.b
  · simp [h]
  · have h' : ¬ s.b = s.a := fun e => h e.symm
    simp [h, h']

theorem m_HalfLine_move_raw (h : HalfLine) (v : V3) :
    m_HalfLine_move (Self.ofHalfLine h) (.vec v) =
      if h.v = zero then .error (.ctor .value)
      else .ok (Self.ofHalfLine (h.move v).1, .obj (.flat (.halfline (h.move v).2))) := by
  unfold m_HalfLine_move
  simp [pyrt, HalfLine.move, HalfLine.mk', HalfLine.ofVec?, Line.mk?, normSq_eq_zero]
  by_cases hz : h.v = zero <;> simp [hz]

theorem m_Line_move_eq (l : Line) (v : V3) (h : l.WF) :
    m_Line_move (Self.ofLine l) (.vec v) = .ok (Self.ofLine (l.move v).1, .obj (lnObj (l.move v).2)) := by
  rw [m_Line_move_raw, if_neg h]

theorem m_Plane_move_eq (a : Plane) (v : V3) (h : a.WF) :
    m_Plane_move (Self.ofPlane a) (.vec v) = .ok (Self.ofPlane (a.move v).1, .obj (plObj (a.move v).2)) := by
  rw [m_Plane_move_raw, if_neg h]

theorem m_Segment_move_eq (s : Seg) (v : V3) (h : s.a ≠ s.b) :
    m_Segment_move (Self.ofSeg s) (.vec v) = .ok (Self.ofSeg (s.move v).1, .obj (sgObj (s.move v).2)) := by
  rw [m_Segment_move_raw, if_neg h]

theorem m_HalfLine_move_eq (h : HalfLine) (v : V3) (hh : h.v ≠ zero) :
    m_HalfLine_move (Self.ofHalfLine h) (.vec v) = .ok (Self.ofHalfLine (h.move v).1, .obj (.flat (.halfline (h.move v).2))) := by
  rw [m_HalfLine_move_raw, if_neg hh]

theorem m_Line_move_reject (self : Self) (o : Obj) : m_Line_move self (.obj o) = .error .notImpl := by
  unfold m_Line_move; simp [pyrt]

theorem m_Plane_move_reject (self : Self) (o : Obj) : m_Plane_move self (.obj o) = .error .notImpl := by
  unfold m_Plane_move; simp [pyrt]

theorem m_Segment_move_reject (self : Self) (o : Obj) : m_Segment_move self (.obj o) = .error .notImpl := by
  unfold m_Segment_move; simp [pyrt]

theorem m_HalfLine_move_reject (self : Self) (o : Obj) : m_HalfLine_move self (.obj o) = .error .notImpl := by
  unfold m_HalfLine_move; simp [pyrt]

end G3D.Tie
