import G3D.Extracted.Builders
import G3D.Proofs.BuildersSphere
import G3D.Proofs.SmallAngle
/-! C14, tie of the shape builders: the face lists EXTRACTED from polygon.py / polyhedron.py
    (G3D/Extracted/Builders.lean, generated by tools/extract_builders.py) ARE the hand-transcribed skeletons of
    G3D/Model/Builders.lean placed on the real vertices of G3D/Proofs/BuildersReal.lean / BuildersSphere.lean:

      get_circle_point_list   `gcpl_tie`, `gcpl_x`, `gcpl_y`, `gcpl_small`, `gcpl_bug`, `gcpl_bug_dead`, `gcpl_z`
      Circle                  `circle_tie`
      Cylinder                `cylinder_tie`        = (cylinderFaces n).map (List.map (cylinderPlace ..))
      Cone                    `cone_tie`            = (coneFaces n).map (List.map (conePlace ..))
      Sphere                  `sphere_tie`          = (sphereFaces n1 n2).map (List.map (BA.spherePlace ..))
      Parallelogram           `parallelogram_tie`   tuple `[p, p+a, p+b, (p+a)+b]`; its constructor cycle is `parallelogramPts`
      Parallelepiped          `parallelepiped_tie`  = parallelepipedTuples placed; `.map ctorCycle4` = parallelepipedFaces placed

    All of this is BEFORE the constructors run: the duplicate removal / angular sort of `ConvexPolygon.__init__`
    (here only `ctorCycle4`, the sort of a parallelogram's tuple, which the hand model proves in `parallelogram_mk`)
    and the orientation repair of `ConvexPolyhedron.__init__` (`cylinderFlips`, `coneFlips`, `sphereFlips`,
    `parallelepipedFlips`) stay part of the hand model of the constructors.

    The frame selection is extracted literally (`Vector.angle` = arccos of the clamped cosine, compared with
    SMALL_ANGLE); `nearAxis_iff_cosSq` turns the two comparisons into the model's `cos²(SMALL_ANGLE) < cos²`
    (`Builders.nearAxis`), `not_near_both` / `cross_pos_of_not_near` are the real-number version of
    `Props.C14.frame_always_defined`. -/
namespace G3D.BuildersTie
open Real G3D.Builders G3D.BuildersReal G3D.BuildersReal.R3 G3D.BuildersRt G3D.Extracted

/-! ### loops: a fold that only appends is a map / flatMap -/
theorem foldl_append_flatMap {α ι : Type} (F : ι → List α) (l : List ι) (init : List α) :
    l.foldl (fun acc i => acc ++ F i) init = init ++ l.flatMap F := by
  induction l generalizing init with
  | nil => simp
  | cons a l ih => simp [List.foldl_cons, ih, List.append_assoc]

theorem foldl_append_map {α ι : Type} (f : ι → α) (l : List ι) (init : List α) :
    l.foldl (fun acc i => acc ++ [f i]) init = init ++ l.map f := by
  rw [List.map_eq_flatMap]; exact foldl_append_flatMap _ l init

theorem foldl_pair_append {α β ι : Type} (F : ι → α) (G : ι → β) (l : List ι) (a : List α) (b : List β) :
    l.foldl (fun (st : List α × List β) i => (st.1 ++ [F i], st.2 ++ [G i])) (a, b) = (a ++ l.map F, b ++ l.map G) := by
  induction l generalizing a b with
  | nil => simp
  | cons x l ih => simp [List.foldl_cons, ih, List.append_assoc]

theorem ok_bind {α β : Type} (a : α) (f : α → PyE β) : (Except.ok a : PyE α) >>= f = f a := rfl

theorem getD_map_range {α : Type} (f : ℕ → α) (n i : ℕ) (d : α) (h : i < n) :
    ((List.range n).map f).getD i d = f i := by
  simp [List.getD_eq_getElem?_getD, h]

/-! ### `get_circle_point_list`: the frame -/
/-- the test of the code: `angle < SMALL_ANGLE or angle > math.pi - SMALL_ANGLE` -/
def nearAxis (a e : R3) : Prop := vAngle a e < smallAngleR ∨ vAngle a e > π - smallAngleR

/-- the base vector the code selects (the third outcome, both tests true, raises: `gcpl_bug`) -/
noncomputable def baseOf (nrm : R3) : R3 := by
  classical exact if nearAxis nrm xUnit then yUnit else xUnit

/-- the hand model's point list for the base vector `b` -/
noncomputable def gcplPts (c nrm b : R3) (r : ℝ) (n : ℕ) : List R3 :=
  (List.range n).map (fun i => circlePoint c (frameU nrm b r) (frameV nrm b r) (stepAngle n i))

@[simp] theorem gcplPts_length (c nrm b : R3) (r : ℝ) (n : ℕ) : (gcplPts c nrm b r n).length = n := by
  simp [gcplPts]

theorem gcplPts_getD {c nrm b : R3} {r : ℝ} {n i : ℕ} {d : R3} (h : i < n) :
    (gcplPts c nrm b r n).getD i d = circlePoint c (frameU nrm b r) (frameV nrm b r) (stepAngle n i) :=
  getD_map_range _ n i d h

theorem vLength_smul (k : ℝ) (w : R3) : vLength (smul k w) = |k| * vLength w := by
  unfold vLength
  rw [show dot (smul k w) (smul k w) = k ^ 2 * dot w w from normSq_smul k w, sqrt_mul (sq_nonneg k), sqrt_sq_eq_abs]

theorem vNormalized_smul (k : ℝ) (w : R3) (hk : 0 < k) (hw : 0 < normSq w) :
    vNormalized (smul k w) = vNormalized w := by
  have : 0 < √(normSq w) := sqrt_pos.mpr hw
  unfold vNormalized
  rw [vLength_smul, abs_of_pos hk, BuildersReal.smul_smul]
  congr 1
  change 1 / (k * √(normSq w)) * k = 1 / √(normSq w)
  field_simp

/-- `v1 = n̂.cross(b).normalized() * radius`, `v2 = n̂.cross(v1 before scaling) * radius` are `frameU`, `frameV` -/
theorem frame_ext (nrm b : R3) (r : ℝ) (hn : 0 < normSq nrm) (hb : 0 < normSq (cross nrm b)) :
    smul r (vNormalized (cross (vNormalized nrm) b)) = frameU nrm b r ∧
    smul r (cross (vNormalized nrm) (vNormalized (cross (vNormalized nrm) b))) = frameV nrm b r := by
  have e1 : cross (vNormalized nrm) b = smul (1 / √(normSq nrm)) (cross nrm b) := by
    apply R3.ext' <;> simp only [vNormalized, vLength, normSq, cross, smul] <;> ring
  rw [e1, vNormalized_smul _ _ (one_div_pos.mpr (sqrt_pos.mpr hn)) hb]
  unfold vNormalized frameU frameV vLength
  constructor
  · rw [BuildersReal.smul_smul, mul_one_div]; rfl
  · rw [cross_smul, BuildersReal.smul_smul]
    congr 1
    change r * (1 / √(normSq nrm) * (1 / √(normSq (cross nrm b)))) = r / (√(normSq nrm) * √(normSq (cross nrm b)))
    ring

/-- the loop of `get_circle_point_list` for the base vector `b` -/
theorem gcpl_of_base (c nrm b : R3) (r : ℝ) (n : ℕ) (hn : 0 < normSq nrm) (hb : 0 < normSq (cross nrm b)) :
    (List.range n).foldl (fun (point_list : List R3) (i : ℕ) =>
        point_list ++ [(R3.add c (R3.add (R3.smul (Real.cos (Real.pi * 2 / (n : ℝ) * (i : ℝ))) (R3.smul r (vNormalized (R3.cross (vNormalized nrm) b))))
          (R3.smul (Real.sin (Real.pi * 2 / (n : ℝ) * (i : ℝ))) (R3.smul r (R3.cross (vNormalized nrm) (vNormalized (R3.cross (vNormalized nrm) b)))))))]) [] =
      gcplPts c nrm b r n := by
  rw [foldl_append_map, (frame_ext nrm b r hn hb).1, (frame_ext nrm b r hn hb).2]
  rfl

/-- branch `else: base_vector = x_unit_vector()` -/
theorem gcpl_x (c nrm : R3) (r : ℝ) (n : ℕ) (h3 : 3 ≤ n) (hx : ¬ nearAxis nrm xUnit)
    (hn : 0 < normSq nrm) (hb : 0 < normSq (cross nrm xUnit)) :
    b_get_circle_point_list c nrm r n = .ok (gcplPts c nrm xUnit r n) := by
  unfold b_get_circle_point_list
  rw [if_neg (by omega)]
  unfold nearAxis at hx
  simp only [if_neg hx, pure_bind]
  rw [gcpl_of_base c nrm xUnit r n hn hb]; rfl

/-- branch `base_vector = y_unit_vector()` with the second test false -/
theorem gcpl_y (c nrm : R3) (r : ℝ) (n : ℕ) (h3 : 3 ≤ n) (hx : nearAxis nrm xUnit) (hy : ¬ nearAxis nrm yUnit)
    (hn : 0 < normSq nrm) (hb : 0 < normSq (cross nrm yUnit)) :
    b_get_circle_point_list c nrm r n = .ok (gcplPts c nrm yUnit r n) := by
  unfold b_get_circle_point_list
  rw [if_neg (by omega)]
  unfold nearAxis at hx hy
  simp only [if_pos hx, if_neg hy, pure_bind]
  rw [gcpl_of_base c nrm yUnit r n hn hb]; rfl

/-- `if n <= 2: raise ValueError` -/
theorem gcpl_small (c nrm : R3) (r : ℝ) (n : ℕ) (h : n ≤ 2) :
    b_get_circle_point_list c nrm r n = .error "ValueError" := by
  unfold b_get_circle_point_list
  rw [if_pos h]; rfl

/-- both tests true: `raise ValueError("Bug detected! ..")` -/
theorem gcpl_bug (c nrm : R3) (r : ℝ) (n : ℕ) (h3 : 3 ≤ n) (hx : nearAxis nrm xUnit) (hy : nearAxis nrm yUnit) :
    b_get_circle_point_list c nrm r n = .error "ValueError" := by
  unfold b_get_circle_point_list
  rw [if_neg (by omega)]
  unfold nearAxis at hx hy
  simp only [if_pos hx, if_pos hy]
  rfl

/-! ### the two comparisons with SMALL_ANGLE in terms of cos² (the hand model's `nearAxis c n e := c < cosSqVec n e`) -/
/-- the clamped cosine of `Vector.angle` -/
noncomputable def clampCos (a e : R3) : ℝ := max (-1) (min 1 (dot a e / (vLength a * vLength e)))

theorem clampCos_range (a e : R3) : -1 ≤ clampCos a e ∧ clampCos a e ≤ 1 := by
  unfold clampCos
  exact ⟨le_max_left _ _, max_le (by norm_num) (min_le_left _ _)⟩

theorem smallAngleR_eq : smallAngleR = 1 / 10 := by
  unfold smallAngleR; rw [smallAngle_value]; norm_num

theorem cosSA_pos : 0 < cos smallAngleR := by
  rw [smallAngleR_eq]
  apply cos_pos_of_mem_Ioo
  constructor <;> linarith [two_le_pi]

/-- the threshold `cos²(SMALL_ANGLE)` lies in [1/2, 1) (`Props.C14.threshold_in_range`) -/
theorem cosSA_sq : 1 / 2 ≤ cos smallAngleR ^ 2 ∧ cos smallAngleR ^ 2 < 1 := cos_sq_smallAngle_range

theorem nearAxis_iff (a e : R3) :
    nearAxis a e ↔ cos smallAngleR < clampCos a e ∨ clampCos a e < - cos smallAngleR := by
  obtain ⟨h1, h2⟩ := clampCos_range a e
  have hsa : smallAngleR ∈ Set.Icc 0 π := by rw [smallAngleR_eq]; constructor <;> linarith [two_le_pi]
  have hps : π - smallAngleR ∈ Set.Icc 0 π := by rw [smallAngleR_eq]; constructor <;> linarith [two_le_pi]
  have hac : arccos (clampCos a e) ∈ Set.Icc 0 π := ⟨arccos_nonneg _, arccos_le_pi _⟩
  have e1 := strictAntiOn_cos.lt_iff_gt hsa hac
  have e2 := strictAntiOn_cos.lt_iff_gt hac hps
  rw [cos_arccos h1 h2] at e1 e2
  rw [cos_pi_sub] at e2
  unfold nearAxis vAngle
  change arccos (clampCos a e) < smallAngleR ∨ arccos (clampCos a e) > π - smallAngleR ↔ _
  rw [e1, e2]

theorem nearAxis_iff_sq (a e : R3) : nearAxis a e ↔ cos smallAngleR ^ 2 < clampCos a e ^ 2 := by
  rw [nearAxis_iff, sq_lt_sq, abs_of_pos cosSA_pos, lt_abs, lt_neg]

theorem clamp_sq_le (q : ℝ) : (max (-1) (min 1 q)) ^ 2 ≤ q ^ 2 := by
  rcases le_total q 1 with h | h
  · rw [min_eq_right h]
    rcases le_total (-1) q with h' | h'
    · rw [max_eq_right h']
    · rw [max_eq_left h']; nlinarith
  · rw [min_eq_left h, max_eq_right (by norm_num)]; nlinarith

theorem clamp_id (q : ℝ) (h : q ^ 2 ≤ 1) : max (-1) (min 1 q) = q := by
  have hq := abs_le.mp ((sq_le_one_iff_abs_le_one q).mp h)
  rw [min_eq_right hq.2, max_eq_right hq.1]

theorem vLength_xUnit : vLength xUnit = 1 := by simp [vLength, dot, xUnit]
theorem vLength_yUnit : vLength yUnit = 1 := by simp [vLength, dot, yUnit]
theorem vLength_zUnit : vLength zUnit = 1 := by simp [vLength, dot, zUnit]

theorem normSq_of_vLength_one (e : R3) (he : vLength e = 1) : normSq e = 1 := by
  have h : √(normSq e) = 1 := he
  have := congrArg (· ^ 2) h
  simpa only [sq_sqrt (BuildersReal.normSq_nonneg e), one_pow] using this

/-- the cosine of `Vector.angle` squared is the model's `cosSqVec` -/
theorem cosine_sq (a e : R3) :
    (dot a e / (vLength a * vLength e)) ^ 2 = (dot a e) ^ 2 / (normSq a * normSq e) := by
  unfold vLength
  rw [div_pow, mul_pow, sq_sqrt (show 0 ≤ dot a a from BuildersReal.normSq_nonneg a),
    sq_sqrt (show 0 ≤ dot e e from BuildersReal.normSq_nonneg e)]
  rfl

/-- **the frame test as the hand model states it** (`Builders.nearAxis c n e := c < cosSqVec n e` with
    `c = cos²(SMALL_ANGLE)`): for a non-zero normal and a unit axis,
    `angle < SMALL_ANGLE or angle > π − SMALL_ANGLE  ⇔  cos²(SMALL_ANGLE) < (n·e)² / (|n|²|e|²)` -/
theorem nearAxis_iff_cosSq (a e : R3) (ha : 0 < normSq a) (he : vLength e = 1) :
    nearAxis a e ↔ cos smallAngleR ^ 2 < (dot a e) ^ 2 / (normSq a * normSq e) := by
  have hq := cosine_sq a e
  have hle : (dot a e / (vLength a * vLength e)) ^ 2 ≤ 1 := by
    rw [hq, normSq_of_vLength_one e he, mul_one, div_le_one ha]
    have := normSq_cross a e
    rw [normSq_of_vLength_one e he, mul_one] at this
    linarith [BuildersReal.normSq_nonneg (cross a e)]
  have hcl : clampCos a e = dot a e / (vLength a * vLength e) := clamp_id _ hle
  rw [← hq, ← hcl, nearAxis_iff_sq]

theorem nearAxis_unit (a e : R3) (ha : 0 < normSq a) (he : vLength e = 1) :
    nearAxis a e ↔ cos smallAngleR ^ 2 * normSq a < (dot a e) ^ 2 := by
  rw [nearAxis_iff_cosSq a e ha he, normSq_of_vLength_one e he, mul_one, lt_div_iff₀ ha]

/-- not near the axis ⇒ not parallel to it: the selected base vector spans a frame -/
theorem cross_pos_of_not_near (nrm e : R3) (he : vLength e = 1) (hn : 0 < normSq nrm) (h : ¬ nearAxis nrm e) :
    0 < normSq (cross nrm e) := by
  rw [nearAxis_unit nrm e hn he, not_lt] at h
  rw [normSq_cross, normSq_of_vLength_one e he, mul_one, sub_pos]
  exact h.trans_lt (mul_lt_of_lt_one_left hn cosSA_sq.2)

/-- a non-zero direction is not within SMALL_ANGLE of both the x and the y axis: the `raise ValueError("Bug detected")`
    of `get_circle_point_list` is dead -/
theorem not_near_both (nrm : R3) (hn : 0 < normSq nrm) : ¬ (nearAxis nrm xUnit ∧ nearAxis nrm yUnit) := by
  rintro ⟨hx, hy⟩
  rw [nearAxis_unit nrm _ hn vLength_xUnit] at hx
  rw [nearAxis_unit nrm _ hn vLength_yUnit] at hy
  -- `x² + y² > 2·cos²(SMALL_ANGLE)·|n|² ≥ |n|² ≥ x² + y²`
  have hc := mul_le_mul_of_nonneg_right cosSA_sq.1 hn.le
  simp only [normSq, dot, xUnit, yUnit] at hx hy hc
  linarith [mul_self_nonneg nrm.z]

theorem gcpl_bug_dead (nrm : R3) (hn : 0 < normSq nrm) (hx : nearAxis nrm xUnit) : ¬ nearAxis nrm yUnit :=
  fun hy => not_near_both nrm hn ⟨hx, hy⟩

theorem baseOf_near (nrm : R3) (h : nearAxis nrm xUnit) : baseOf nrm = yUnit := if_pos h

theorem baseOf_not_near (nrm : R3) (h : ¬ nearAxis nrm xUnit) : baseOf nrm = xUnit := if_neg h

/-- **`get_circle_point_list`, every non-zero normal, every n ≥ 3** (the real-number `frame_always_defined`): the
    code does not raise, the base vector it selects is not parallel to the normal, and the returned list is the hand
    model's `circlePoint c (frameU nrm b r) (frameV nrm b r) (stepAngle n i)`, `i = 0 .. n−1` -/
theorem gcpl_tie (c nrm : R3) (r : ℝ) (n : ℕ) (h3 : 3 ≤ n) (hn : 0 < normSq nrm) :
    b_get_circle_point_list c nrm r n = .ok (gcplPts c nrm (baseOf nrm) r n) ∧
      (baseOf nrm = xUnit ∨ baseOf nrm = yUnit) ∧ 0 < normSq (cross nrm (baseOf nrm)) := by
  by_cases hx : nearAxis nrm xUnit
  · have hy := gcpl_bug_dead nrm hn hx
    have hc := cross_pos_of_not_near nrm yUnit vLength_yUnit hn hy
    rw [baseOf_near nrm hx]; exact ⟨gcpl_y c nrm r n h3 hx hy hn hc, Or.inr rfl, hc⟩
  · have hc := cross_pos_of_not_near nrm xUnit vLength_xUnit hn hx
    rw [baseOf_not_near nrm hx]; exact ⟨gcpl_x c nrm r n h3 hx hn hc, Or.inl rfl, hc⟩

/-- the points in the task's form -/
theorem gcpl_points (c nrm : R3) (r : ℝ) (n : ℕ) (h3 : 3 ≤ n) (hn : 0 < normSq nrm) :
    b_get_circle_point_list c nrm r n =
      .ok ((List.range n).map (fun i =>
        circlePoint c (frameU nrm (baseOf nrm) r) (frameV nrm (baseOf nrm) r) (stepAngle n i))) :=
  (gcpl_tie c nrm r n h3 hn).1

/-! ### the z normal (Sphere) -/
theorem normSq_zUnit : normSq zUnit = 1 := by simp [normSq, dot, zUnit]

theorem not_near_z_x : ¬ nearAxis zUnit xUnit := by
  rw [nearAxis_unit zUnit xUnit (one_pos.trans_eq normSq_zUnit.symm) vLength_xUnit, not_lt,
    show dot zUnit xUnit = 0 by simp [dot, zUnit, xUnit], zero_pow two_ne_zero]
  exact mul_nonneg (sq_nonneg _) (BuildersReal.normSq_nonneg _)

theorem baseOf_z : baseOf zUnit = xUnit := baseOf_not_near zUnit not_near_z_x

/-- the frame of the z normal: `u = r·y`, `v = −r·x` -/
theorem frame_z (r : ℝ) : frameU zUnit xUnit r = ⟨0, r, 0⟩ ∧ frameV zUnit xUnit r = ⟨-r, 0, 0⟩ := by
  have c1 : cross zUnit xUnit = ⟨0, 1, 0⟩ := by apply R3.ext' <;> simp [cross, zUnit, xUnit]
  have n1 : normSq (⟨0, 1, 0⟩ : R3) = 1 := by simp [normSq, dot]
  constructor
  · unfold frameU; rw [c1, n1]; apply R3.ext' <;> simp [smul]
  · unfold frameV; rw [c1, n1, normSq_zUnit]; apply R3.ext' <;> simp [smul, cross, zUnit]

theorem gcpl_z (c : R3) (r : ℝ) (n : ℕ) (h3 : 3 ≤ n) :
    b_get_circle_point_list c zUnit r n = .ok (gcplPts c zUnit xUnit r n) := by
  have := (gcpl_tie c zUnit r n h3 (one_pos.trans_eq normSq_zUnit.symm)).1
  rwa [baseOf_z] at this

/-! ### Circle -/
/-- `Circle(center, normal, radius, n)` passes exactly the list of `get_circle_point_list` to the constructor: the one
    face of `circleFaces n`, placed -/
theorem circle_tie (c nrm : R3) (r : ℝ) (n : ℕ) (h3 : 3 ≤ n) (hn : 0 < normSq nrm) :
    (b_Circle c nrm r n).map (fun f => [f]) = .ok ((circleFaces n).map (List.map (fun i =>
      circlePoint c (frameU nrm (baseOf nrm) r) (frameV nrm (baseOf nrm) r) (stepAngle n i)))) := by
  unfold b_Circle
  rw [(gcpl_tie c nrm r n h3 hn).1]
  rfl

theorem circle_eq (c nrm : R3) (r : ℝ) (n : ℕ) : b_Circle c nrm r n = b_get_circle_point_list c nrm r n := by
  unfold b_Circle
  cases b_get_circle_point_list c nrm r n <;> rfl

/-! ### Cylinder, Cone -/
/-- **Cylinder**: `cpg_list = [top_circle, bottom_circle] + [(t_s, t_e, b_e, b_s) ..]` is `cylinderFaces n` placed by
    `cylinderPlace` (top ring = ids `i` = bottom points moved by the height vector; bottom ring = ids `n + i`) -/
theorem cylinder_tie (c h : R3) (r : ℝ) (n : ℕ) (h3 : 3 ≤ n) (hh : 0 < normSq h) :
    b_Cylinder c r h n = .ok ((cylinderFaces n).map
      (List.map (cylinderPlace c h (frameU h (baseOf h) r) (frameV h (baseOf h) r) n))) := by
  unfold b_Cylinder
  simp only [circle_eq, (gcpl_tie _ h r n h3 hh).1, ok_bind, gcplPts_length]
  rw [foldl_append_map]
  congr 1
  unfold cylinderFaces
  simp only [List.map_cons, List.map_map, List.cons_append, List.nil_append]
  have hn0 : 0 < n := by omega
  congr 1
  · -- top circle
    apply List.map_congr_left
    intro i hi
    simp only [cylinderPlace, if_pos (List.mem_range.mp hi), cylinder_top]
  congr 1
  · -- bottom circle
    apply List.map_congr_left
    intro i _
    simp [cylinderPlace]
  · apply List.map_congr_left
    intro i hi
    have hi' := List.mem_range.mp hi
    have hm : (i + 1) % n < n := Nat.mod_lt _ hn0
    simp (disch := assumption) only [Function.comp, List.map_cons, List.map_nil, gcplPts_getD]
    simp [cylinderPlace, hi', hm, cylinder_top]

/-- **Cone**: `cpg_list = [circle] + [(top_point, c_s, c_e) ..]` is `coneFaces n` placed by `conePlace`
    (base circle = ids `i`, apex `center + height_vector` = id `n`) -/
theorem cone_tie (c h : R3) (r : ℝ) (n : ℕ) (h3 : 3 ≤ n) (hh : 0 < normSq h) :
    b_Cone c r h n = .ok ((coneFaces n).map
      (List.map (conePlace c h (frameU h (baseOf h) r) (frameV h (baseOf h) r) n))) := by
  unfold b_Cone
  simp only [circle_eq, (gcpl_tie _ h r n h3 hh).1, ok_bind, gcplPts_length]
  rw [foldl_append_map]
  congr 1
  unfold coneFaces
  simp only [List.map_cons, List.map_map, List.cons_append, List.nil_append]
  have hn0 : 0 < n := by omega
  congr 1
  · apply List.map_congr_left
    intro i hi
    simp only [conePlace, if_pos (List.mem_range.mp hi)]
  · apply List.map_congr_left
    intro i hi
    have hi' := List.mem_range.mp hi
    have hm : (i + 1) % n < n := Nat.mod_lt _ hn0
    simp (disch := assumption) only [Function.comp, List.map_cons, List.map_nil, gcplPts_getD]
    simp [conePlace, hi', hm]

/-! ### Sphere -/
/-- the unit frame of the z normal that all rings of the Sphere share -/
noncomputable abbrev zU : R3 := frameU zUnit xUnit 1
noncomputable abbrev zV : R3 := frameV zUnit xUnit 1

/-- `mc[i]` (the equator) is the vertex of the id `sMc n1 i` -/
theorem look_mc (c : R3) (r : ℝ) (n1 n2 i : ℕ) (h2 : 0 < n2) (hi : i < n1) :
    (gcplPts c zUnit xUnit r n1).getD i zero = BA.spherePlace c zUnit zU zV r n1 n2 (sMc n1 i) := by
  rw [gcplPts_getD hi, BA.place_mc _ _ _ _ _ _ _ _ h2 hi, (BA.frame_scale_eq zUnit xUnit r).1,
    (BA.frame_scale_eq zUnit xUnit r).2]
  unfold BA.up BA.sphPt
  rw [BA.lat_zero, sin_zero, cos_zero, mul_zero, mul_one]
  congr 1
  apply R3.ext' <;> simp [add, smul]

/-- `tc[j][i]`, the ring at latitude `π/2/n2·(j+1)`, is the vertex of the id `sTc n1 j i` -/
theorem look_tc (c : R3) (r : ℝ) (n1 n2 j i : ℕ) (hj : j + 1 < n2) (hi : i < n1) :
    (((List.range (n2 - 1)).map (fun j => gcplPts (add c (smul (r * sin (π / 2 / (n2 : ℝ) * ((j + 1 : ℕ) : ℝ))) zUnit))
      zUnit xUnit (r * cos (π / 2 / (n2 : ℝ) * ((j + 1 : ℕ) : ℝ))) n1)).getD j []).getD i zero =
    BA.spherePlace c zUnit zU zV r n1 n2 (sTc n1 j i) := by
  rw [getD_map_range _ _ j [] (by omega), gcplPts_getD hi, BA.place_tc _ _ _ _ _ _ _ _ _ hj hi,
    (BA.frame_scale_eq zUnit xUnit _).1, (BA.frame_scale_eq zUnit xUnit _).2]
  rfl

/-- `bc[j][i]`, the same ring below the equator, is the vertex of the id `sBc n1 n2 j i` -/
theorem look_bc (c : R3) (r : ℝ) (n1 n2 j i : ℕ) (hj : j + 1 < n2) (hi : i < n1) :
    (((List.range (n2 - 1)).map (fun j => gcplPts (add c (smul (-(r * sin (π / 2 / (n2 : ℝ) * ((j + 1 : ℕ) : ℝ)))) zUnit))
      zUnit xUnit (r * cos (π / 2 / (n2 : ℝ) * ((j + 1 : ℕ) : ℝ))) n1)).getD j []).getD i zero =
    BA.spherePlace c zUnit zU zV r n1 n2 (sBc n1 n2 j i) := by
  rw [getD_map_range _ _ j [] (by omega), gcplPts_getD hi, BA.place_bc _ _ _ _ _ _ _ _ _ hj hi,
    (BA.frame_scale_eq zUnit xUnit _).1, (BA.frame_scale_eq zUnit xUnit _).2]
  exact BA.sphPt_neg c zUnit zU zV r _ _

/-- **Sphere**: the extracted `cpg_list` (per sector `i`: the two equatorial quads, the `n2 − 2` pairs of band quads,
    the two cap triangles, exactly in the order appended) is `sphereFaces n1 n2` placed by `BA.spherePlace` with
    `k = z`, and `(u, v)` the unit frame `get_circle_point_list` selects for the z normal (base vector x: `frame_z`,
    `u = y`, `v = −x`) -/
theorem sphere_tie (c : R3) (r : ℝ) (n1 n2 : ℕ) (h3 : 3 ≤ n1) (h2 : 2 ≤ n2) :
    b_Sphere c r n1 n2 = .ok ((sphereFaces n1 n2).map (List.map (BA.spherePlace c zUnit zU zV r n1 n2))) := by
  unfold b_Sphere
  simp only [gcpl_z _ _ n1 h3, ok_bind, pure_bind, List.foldlM_pure]
  rw [foldl_pair_append]
  simp only [List.append_assoc, foldl_append_flatMap, List.nil_append, List.cons_append]
  congr 1
  unfold sphereFaces
  rw [List.map_flatMap]
  apply List.flatMap_congr
  intro i hi
  have hi' : i < n1 := List.mem_range.mp hi
  have hm : (i + 1) % n1 < n1 := Nat.mod_lt _ (by omega)
  rw [show n2 - 1 - 1 = n2 - 2 by omega]
  simp only [List.map_append, List.map_cons, List.map_nil, List.map_flatMap, List.cons_append, List.nil_append]
  -- every entry read from `mc`, `tc`, `bc` is the vertex of its id; what is left to check are the index bounds
  simp (disch := omega) only [look_mc c r n1 n2, look_tc, look_bc, BA.place_top, BA.place_bot]
  congr 3
  apply List.flatMap_congr
  intro j hj
  obtain ⟨hj1, hj2⟩ := List.mem_range'_1.mp hj
  simp (disch := omega) only [look_tc, look_bc]

/-! ### Parallelogram, Parallelepiped -/
/-- **Parallelogram**: when the two checks pass, the tuple handed to the constructor is `(p, p+a, p+b, (p+a)+b)` -/
theorem parallelogram_tie (eps : ℝ) (p a b : R3) (ha : vLength a ≠ 0) (hp : ¬ vParallel eps a b) :
    b_Parallelogram eps p a b = .ok [p, add p a, add p b, add (add p a) b] := by
  unfold b_Parallelogram
  simp only [and_self, if_true, or_false, ha, hp, if_false]
  rfl

/-- `v1.length() == 0` raises; `v2.length == 0` compares a bound method with 0 and is never true (reported) -/
theorem parallelogram_zero (eps : ℝ) (p a b : R3) (ha : vLength a = 0) :
    b_Parallelogram eps p a b = .error "ValueError" := by
  unfold b_Parallelogram
  simp only [and_self, if_true, or_false, ha]
  rfl

theorem parallelogram_parallel (eps : ℝ) (p a b : R3) (ha : vLength a ≠ 0) (hp : vParallel eps a b) :
    b_Parallelogram eps p a b = .error "ValueError" := by
  unfold b_Parallelogram
  simp only [and_self, if_true, or_false, ha, hp, if_false]
  rfl

/-- what `ConvexPolygon.__init__` makes of a parallelogram's tuple: the angular sort about `a × b` exchanges the last
    two points (hand model of the constructor: `Builders.parallelogram_mk`, cycle `parallelogramPts`) -/
def ctorCycle4 {α : Type} : List α → List α
  | [a, b, c, d] => [a, b, d, c]
  | l => l

/-- `Builders.parallelogramPts` over ℝ -/
def parallelogramPtsR (p a b : R3) : List R3 := [p, add p a, add (add p a) b, add p b]

theorem parallelogram_cycle (eps : ℝ) (p a b : R3) (ha : vLength a ≠ 0) (hp : ¬ vParallel eps a b) :
    (b_Parallelogram eps p a b).map ctorCycle4 = .ok (parallelogramPtsR p a b) := by
  rw [parallelogram_tie eps p a b ha hp]; rfl

/-- the six tuples as `Parallelepiped` passes them on (ids `a + 2b + 4c` ↦ `p + a·v1 + b·v2 + c·v3`) -/
def parallelepipedTuples : List Face :=
  [[0, 1, 2, 3], [0, 2, 4, 6], [0, 1, 4, 5], [7, 6, 5, 4], [7, 5, 3, 1], [7, 6, 3, 2]]

/-- the hand model's `parallelepipedFaces` are these tuples after the constructor's sort -/
theorem parallelepipedTuples_cycle : parallelepipedTuples.map ctorCycle4 = parallelepipedFaces := by decide

/-- `Builders.ppVertex` over ℝ -/
def ppVertexR (p v1 v2 v3 : R3) (i : ℕ) : R3 :=
  add (add (add p (if i % 2 = 1 then v1 else zero)) (if (i / 2) % 2 = 1 then v2 else zero))
    (if (i / 4) % 2 = 1 then v3 else zero)

/-- `(-a).parallel(-b)` is `a.parallel(b)` -/
theorem vParallel_neg (eps : ℝ) (a b : R3) : vParallel eps (smul (-1) a) (smul (-1) b) ↔ vParallel eps a b := by
  have hd : dot (smul (-1) a) (smul (-1) b) = dot a b := by simp only [dot, smul]; ring
  have h : ∀ x y : ℝ, |-1 * x - -1 * y| = |x - y| := fun x y => by
    rw [show -1 * x - -1 * y = -(x - y) by ring, abs_neg]
  have h0 : ∀ x : ℝ, |-1 * x - 0| = |x - 0| := fun x => by rw [show -1 * x - 0 = -(x - 0) by ring, abs_neg]
  unfold vParallel
  rw [hd, vLength_smul, vLength_smul, abs_neg, abs_one, one_mul, one_mul]
  simp only [vEq, smul, zero, h, h0]

/-- the calls `Parallelogram(p_diag, -a, -b)` pass the same two checks as `Parallelogram(p, a, b)` -/
theorem parallelogram_tie_neg (eps : ℝ) (p a b : R3) (ha : vLength a ≠ 0) (hp : ¬ vParallel eps a b) :
    b_Parallelogram eps p (smul (-1) a) (smul (-1) b) =
      .ok [p, add p (smul (-1) a), add p (smul (-1) b), add (add p (smul (-1) a)) (smul (-1) b)] :=
  parallelogram_tie eps p _ _ (by rwa [vLength_smul, abs_neg, abs_one, one_mul]) (by rwa [vParallel_neg])

theorem add_zero_right (a : R3) : add a zero = a := by
  apply R3.ext' <;> simp only [add, zero, add_zero]

/-- **Parallelepiped**: when all checks pass (those of the function and those of its six `Parallelogram` calls) the
    six tuples are `parallelepipedTuples` placed by `ppVertexR`; after the constructor's sort of each tuple
    (`ctorCycle4`) they are the hand model's `parallelepipedFaces` placed -/
theorem parallelepiped_tie (eps : ℝ) (p v1 v2 v3 : R3) (h1 : vLength v1 ≠ 0) (h2 : vLength v2 ≠ 0)
    (h12 : ¬ vParallel eps v1 v2) (h13 : ¬ vParallel eps v1 v3) (h23 : ¬ vParallel eps v2 v3) :
    b_Parallelepiped eps p v1 v2 v3 = .ok (parallelepipedTuples.map (List.map (ppVertexR p v1 v2 v3))) := by
  unfold b_Parallelepiped
  simp only [and_self, if_true, or_self, h1, h12, h13, h23, if_false, ok_bind,
    parallelogram_tie eps _ _ _ h1 h12, parallelogram_tie eps _ _ _ h2 h23, parallelogram_tie eps _ _ _ h1 h13,
    parallelogram_tie_neg eps _ _ _ h1 h12, parallelogram_tie_neg eps _ _ _ h2 h23,
    parallelogram_tie_neg eps _ _ _ h1 h13]
  refine congrArg Except.ok ?_
  simp only [parallelepipedTuples, List.map_cons, List.map_nil, List.cons.injEq, and_true, ppVertexR, Nat.reduceMod,
    Nat.reduceDiv, ↓reduceIte, Nat.reduceEqDiff, true_and, add_zero_right]
  -- the three faces at `p` are read off; those at the opposite corner `p + v1 + v2 + v3` cancel the negated vectors
  and_intros <;> apply R3.ext' <;> simp only [add, smul] <;> ring

theorem parallelepiped_faces (eps : ℝ) (p v1 v2 v3 : R3) (h1 : vLength v1 ≠ 0) (h2 : vLength v2 ≠ 0)
    (h12 : ¬ vParallel eps v1 v2) (h13 : ¬ vParallel eps v1 v3) (h23 : ¬ vParallel eps v2 v3) :
    (b_Parallelepiped eps p v1 v2 v3).map (List.map ctorCycle4) =
      .ok (parallelepipedFaces.map (List.map (ppVertexR p v1 v2 v3))) := by
  rw [parallelepiped_tie eps p v1 v2 v3 h1 h2 h12 h13 h23, ← parallelepipedTuples_cycle]
  rfl

/-! ### what the ties buy: the closed-form volumes of the hand model hold for the EXTRACTED face lists
    (after the orientation repair of `ConvexPolyhedron.__init__`, which stays the hand model `…Flips`) -/
theorem cylinder_volume_extracted (c h q : R3) (r : ℝ) (n : ℕ) (h3 : 3 ≤ n) (hh : 0 < normSq h) (hr : 0 < r) :
    ∃ fs, b_Cylinder c r h n = .ok fs ∧
      vol6R (applyFlips (cylinderFlips n) fs) q = 6 * ((n / 2 * r ^ 2 * sin (2 * π / n)) * √(normSq h)) := by
  refine ⟨_, cylinder_tie c h r n h3 hh, ?_⟩
  rw [applyFlips_map]
  exact cylinder_volume_closed_form c h (baseOf h) q r n (by omega) hr hh (gcpl_tie c h r n h3 hh).2.2

theorem cone_volume_extracted (c h q : R3) (r : ℝ) (n : ℕ) (h3 : 3 ≤ n) (hh : 0 < normSq h) (hr : 0 < r) :
    ∃ fs, b_Cone c r h n = .ok fs ∧
      vol6R (applyFlips (coneFlips n) fs) q = 6 * ((n / 2 * r ^ 2 * sin (2 * π / n)) * √(normSq h) / 3) := by
  refine ⟨_, cone_tie c h r n h3 hh, ?_⟩
  rw [applyFlips_map]
  exact cone_volume_closed_form c h (baseOf h) q r n (by omega) hr hh (gcpl_tie c h r n h3 hh).2.2

theorem sphere_volume_extracted (c q : R3) (r : ℝ) (n1 n2 : ℕ) (h3 : 3 ≤ n1) (h2 : 2 ≤ n2) :
    ∃ fs, b_Sphere c r n1 n2 = .ok fs ∧
      vol6R (applyFlips (sphereFlips n1 n2) fs) q =
        6 * (n1 / 3 * r ^ 3 * sin (2 * π / n1) * (1 + cos (π / 2 / n2))) := by
  refine ⟨_, sphere_tie c r n1 n2 h3 h2, ?_⟩
  rw [applyFlips_map]
  exact BA.sphere_volume_closed_form c zUnit xUnit q r n1 n2 (by omega) h2 normSq_zUnit
    (cross_pos_of_not_near zUnit xUnit vLength_xUnit (one_pos.trans_eq normSq_zUnit.symm) not_near_z_x)

#print axioms cylinder_volume_extracted
#print axioms cone_volume_extracted
#print axioms sphere_volume_extracted
#print axioms foldl_append_flatMap
#print axioms frame_ext
#print axioms gcpl_x
#print axioms gcpl_y
#print axioms gcpl_small
#print axioms gcpl_bug
#print axioms nearAxis_iff_cosSq
#print axioms cross_pos_of_not_near
#print axioms not_near_both
#print axioms gcpl_tie
#print axioms gcpl_points
#print axioms gcpl_z
#print axioms frame_z
#print axioms circle_tie
#print axioms cylinder_tie
#print axioms cone_tie
#print axioms sphere_tie
#print axioms parallelogram_tie
#print axioms parallelogram_zero
#print axioms parallelogram_parallel
#print axioms parallelogram_cycle
#print axioms parallelepipedTuples_cycle
#print axioms parallelepiped_tie
#print axioms parallelepiped_faces
end G3D.BuildersTie
