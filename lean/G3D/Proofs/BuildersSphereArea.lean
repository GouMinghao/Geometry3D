import Mathlib.Analysis.SpecialFunctions.Trigonometric.Basic
import Mathlib.Tactic.Ring
import Mathlib.Tactic.Linarith
import Mathlib.Tactic.LinearCombination
import Mathlib.Tactic.FieldSimp
import Mathlib.Tactic.Positivity
import Mathlib.Algebra.BigOperators.Group.Finset.Basic
import G3D.Proofs.BuildersArea
import G3D.Proofs.BuildersSphere

/-! C14 over ℝ, surface AREA of the inscribed Sphere solid, every n1 ≥ 1, n2 ≥ 2: the faces of one latitude band are
    congruent isosceles trapezoids (the polar caps: isosceles triangles) of area
      `½·(chord_j + chord_{j+1})·slant_j`, `chord_j = 2·ρ_j·sin(π/n1)`,
      `slant_j = √((z_{j+1} − z_j)² + ((ρ_j − ρ_{j+1})·cos(π/n1))²)`,
    and the surface area is `n1·2·Σ_{j<n2}` of these (both hemispheres).  Face area = half the length of the shoelace
    vector area of the face cycle (`BA.faceArea`), summed over `sphereOriented n1 n2` placed by `BA.spherePlace`. -/
namespace G3D
namespace BuildersReal
open Real Builders R3

/-! ### vector algebra -/
/-- a cap triangle is a band quadrilateral with a ring of radius 0 -/
theorem BA.triVA (a p e e' : R3) (ρ : ℝ) :
    vecArea2R [p, add a (smul ρ e), add a (smul ρ e')] =
      add (smul (ρ + 0) (cross (sub p a) (sub e e'))) (smul (ρ ^ 2 - 0 ^ 2) (cross e e')) := by
  rw [tri_vecArea2]
  apply R3.ext' <;> simp only [cross, add, sub, smul] <;> ring

/-- `|P·(H·k)×(e−e') + M·e×e'|²` for unit vectors `k`, `e`, `e'`, the last two orthogonal to `k` and at an angle of
    cosine `c` (Lagrange / Binet–Cauchy, then the scalar products put in) -/
theorem BA.VA_normSq (k e e' : R3) (P H M c : ℝ) (hk : normSq k = 1) (he : dot e e = 1) (he' : dot e' e' = 1)
    (hc : dot e e' = c) (hd : dot e k = 0) (hd' : dot e' k = 0) :
    normSq (add (smul P (cross (smul H k) (sub e e'))) (smul M (cross e e'))) =
      P ^ 2 * H ^ 2 * (2 - 2 * c) + M ^ 2 * (1 - c ^ 2) := by
  have : normSq (add (smul P (cross (smul H k) (sub e e'))) (smul M (cross e e'))) =
      P ^ 2 * H ^ 2 * (normSq k * (dot e e - 2 * dot e e' + dot e' e') - (dot e k - dot e' k) ^ 2) +
        2 * P * M * H * (dot e k * (dot e e' - dot e' e') - dot e' k * (dot e e - dot e e')) +
        M ^ 2 * (dot e e * dot e' e' - (dot e e') ^ 2) := by
    simp only [normSq, dot, cross, add, sub, smul]; ring
  rw [this, hk, he, he', hc, hd, hd']; ring

/-- the norm of the vector area of a band face of one angular step `2π/n` between two rings at axial distance `H`
    (unit frame, unit axis) -/
theorem BA.bandVA_norm (k u v : R3) (H ρ1 ρ2 : ℝ) (n i : ℕ) (F : Frame k u v 1) (hk : normSq k = 1) (hn : 1 ≤ n)
    (hρ : 0 ≤ ρ1 + ρ2) :
    BA.norm (add (smul (ρ1 + ρ2) (cross (smul H k) (sub (rad u v (stepAngle n i)) (rad u v (stepAngle n (i + 1))))))
        (smul (ρ1 ^ 2 - ρ2 ^ 2) (cross (rad u v (stepAngle n i)) (rad u v (stepAngle n (i + 1)))))) =
      2 * (sin (π / n) * (ρ1 + ρ2) * √(H ^ 2 + (ρ1 - ρ2) ^ 2 * cos (π / n) ^ 2)) := by
  have hs := BA.sin_pi_div_nonneg n hn
  have hX : 0 ≤ H ^ 2 + (ρ1 - ρ2) ^ 2 * cos (π / n) ^ 2 := by positivity
  have rf := fun α β => BA.rad_facts k u v 1 α β F
  have he : ∀ α, dot (rad u v α) (rad u v α) = 1 := fun α => by rw [(rf α α).1, sub_self, cos_zero, one_pow, one_mul]
  have hc : dot (rad u v (stepAngle n i)) (rad u v (stepAngle n (i + 1))) = cos (2 * (π / n)) := by
    rw [(rf _ _).1, stepAngle_succ, one_pow, one_mul]; congr 1; ring
  apply BA.norm_of_sq _ _ (by positivity)
  rw [BA.VA_normSq _ _ _ _ _ _ _ hk (he _) (he _) hc (rf _ 0).2 (rf _ 0).2, cos_two_mul, mul_pow, mul_pow, mul_pow,
    sq_sqrt hX]
  linear_combination (-4 * ((ρ1 + ρ2) ^ 2 * (H ^ 2 + (ρ1 - ρ2) ^ 2 * cos (π / n) ^ 2))) * cos_sq_add_sin_sq (π / n)

theorem BA.axis_sub (c k : R3) (z1 z2 : ℝ) : sub (add c (smul z2 k)) (add c (smul z1 k)) = smul (z2 - z1) k := by
  apply R3.ext' <;> simp only [add, sub, smul] <;> ring

/-- area of the band trapezoid between the (signed) latitudes `φ`, `φ'`, one angular step:
    `½·(chord + chord')·slant = sin(π/n)·(ρ + ρ')·√((z' − z)² + ((ρ − ρ')·cos(π/n))²)` -/
theorem BA.band_faceArea (c k u v : R3) (r φ φ' : ℝ) (n i : ℕ) (F : Frame k u v 1) (hk : normSq k = 1)
    (hn : 1 ≤ n) (hρ : 0 ≤ r * cos φ + r * cos φ') :
    BA.faceArea [BA.sphPt c k u v r φ (stepAngle n i), BA.sphPt c k u v r φ (stepAngle n (i + 1)),
        BA.sphPt c k u v r φ' (stepAngle n (i + 1)), BA.sphPt c k u v r φ' (stepAngle n i)] =
      sin (π / n) * (r * cos φ + r * cos φ') *
        √((r * sin φ' - r * sin φ) ^ 2 + (r * cos φ - r * cos φ') ^ 2 * cos (π / n) ^ 2) := by
  unfold BA.faceArea
  simp only [BA.sphPt_eq]
  rw [BA.quadVA, BA.axis_sub, BA.bandVA_norm k u v _ _ _ n i F hk hn hρ]
  ring

/-- area of a cap triangle `(pole, A_s, A_e)`, the pole `c + z2·k` on the axis -/
theorem BA.cap_faceArea (c k u v : R3) (r z2 φ : ℝ) (n i : ℕ) (F : Frame k u v 1) (hk : normSq k = 1)
    (hn : 1 ≤ n) (hρ : 0 ≤ r * cos φ) :
    BA.faceArea [add c (smul z2 k), BA.sphPt c k u v r φ (stepAngle n i),
        BA.sphPt c k u v r φ (stepAngle n (i + 1))] =
      sin (π / n) * (r * cos φ + 0) * √((z2 - r * sin φ) ^ 2 + (r * cos φ - 0) ^ 2 * cos (π / n) ^ 2) := by
  unfold BA.faceArea
  simp only [BA.sphPt_eq]
  rw [BA.triVA, BA.axis_sub, BA.bandVA_norm k u v _ _ _ n i F hk hn (by linarith)]
  ring

/-! ### the solid -/
theorem BA.surfArea_append (f g : List (List R3)) : BA.surfArea (f ++ g) = BA.surfArea f + BA.surfArea g := by
  simp [BA.surfArea]

theorem BA.surfArea_flatMap {ι : Type} (g : ι → List (List R3)) (L : List ι) :
    BA.surfArea (L.flatMap g) = (L.map (fun i => BA.surfArea (g i))).sum :=
  sum_map_flatMap BA.faceArea g L

/-- area of one face of band `j`: `½·(chord_j + chord_{j+1})·slant_j` -/
noncomputable def BA.bandArea (r : ℝ) (n1 n2 j : ℕ) : ℝ :=
  sin (π / n1) * (r * cos (BA.lat n2 j) + r * cos (BA.lat n2 (j + 1))) *
    √((r * sin (BA.lat n2 (j + 1)) - r * sin (BA.lat n2 j)) ^ 2 +
      (r * cos (BA.lat n2 j) - r * cos (BA.lat n2 (j + 1))) ^ 2 * cos (π / n1) ^ 2)

/-- the two faces of band `j` in a sector, the upper one and its mirror image -/
theorem BA.band_faceAreas (c k u v : R3) (r : ℝ) (n1 n2 j i : ℕ) (F : Frame k u v 1) (hk : normSq k = 1)
    (hn : 1 ≤ n1) (hr : 0 ≤ r) (hj : j < n2) :
    BA.faceArea (BA.qUp c k u v r n1 n2 j i) = BA.bandArea r n1 n2 j ∧
      BA.faceArea (BA.qLo c k u v r n1 n2 j i) = BA.bandArea r n1 n2 j := by
  have hρ := add_nonneg (mul_nonneg hr (BA.cos_lat_nonneg n2 j (by omega) (by omega)))
    (mul_nonneg hr (BA.cos_lat_nonneg n2 (j + 1) (by omega) (by omega)))
  unfold BA.qUp BA.qLo BA.up BA.lo BA.bandArea
  refine ⟨BA.band_faceArea c k u v r _ _ n1 i F hk hn hρ, ?_⟩
  rw [BA.band_faceArea c k u v r _ _ n1 i F hk hn (by rwa [cos_neg, cos_neg])]
  simp only [cos_neg, sin_neg]
  congr 2
  ring

/-- the two cap triangles of a sector: band `n2 − 1`, whose upper ring is the pole -/
theorem BA.cap_faceAreas (c k u v : R3) (r : ℝ) (n1 n2 i : ℕ) (F : Frame k u v 1) (hk : normSq k = 1)
    (hn : 1 ≤ n1) (hr : 0 ≤ r) (h2 : 1 ≤ n2) :
    BA.faceArea (BA.capT c k u v r n1 n2 i) = BA.bandArea r n1 n2 (n2 - 1) ∧
      BA.faceArea (BA.capB c k u v r n1 n2 i) = BA.bandArea r n1 n2 (n2 - 1) := by
  have en : n2 - 1 + 1 = n2 := by omega
  have hρ := mul_nonneg hr (BA.cos_lat_nonneg n2 (n2 - 1) (by omega) (by omega))
  rw [BA.capT_eq, BA.capB_eq, BA.faceArea_flip, BA.faceArea_flip]
  unfold BA.up BA.lo BA.bandArea
  rw [BA.cap_faceArea c k u v r r _ n1 i F hk hn hρ, BA.cap_faceArea c k u v r (-r) _ n1 i F hk hn (by rwa [cos_neg]),
    en, BA.lat_pole n2 (by omega), cos_pi_div_two, sin_pi_div_two]
  simp only [cos_neg, sin_neg, mul_zero, mul_one, add_zero, sub_zero, true_and]
  congr 2
  ring

/-- the faces of one sector: two of each band (n2 = m + 2) -/
theorem BA.block_area (c k u v : R3) (r : ℝ) (n1 m i : ℕ) (F : Frame k u v 1) (hk : normSq k = 1)
    (hn : 1 ≤ n1) (hr : 0 ≤ r) :
    BA.surfArea (BA.sphereBlock c k u v r n1 (m + 2) i) =
      2 * ∑ j ∈ Finset.range (m + 2), BA.bandArea r n1 (m + 2) j := by
  have band := fun j hj => BA.band_faceAreas c k u v r n1 (m + 2) j i F hk hn hr hj
  obtain ⟨capT, capB⟩ := BA.cap_faceAreas c k u v r n1 (m + 2) i F hk hn hr (by omega)
  unfold BA.sphereBlock
  rw [BA.surfArea_append, BA.surfArea_append]
  have e : m + 2 - 2 = m := by omega
  have e1 : m + 2 - 1 = m + 1 := by omega
  rw [e]
  unfold BA.surfArea
  rw [BA.sum_flatMap_pair]
  simp only [List.map_cons, List.map_nil, List.sum_cons, List.sum_nil, BA.faceArea_flip, add_zero]
  rw [(band 0 (by omega)).1, (band 0 (by omega)).2, capT, capB, e1]
  have hsum : ∑ j ∈ Finset.range m, (BA.faceArea (BA.qUp c k u v r n1 (m + 2) (1 + j) i) +
      BA.faceArea (BA.qLo c k u v r n1 (m + 2) (1 + j) i)) =
      ∑ j ∈ Finset.range m, 2 * BA.bandArea r n1 (m + 2) (j + 1) := by
    apply Finset.sum_congr rfl
    intro j hj
    have hj' := Finset.mem_range.mp hj
    rw [(band (1 + j) (by omega)).1, (band (1 + j) (by omega)).2, Nat.add_comm 1 j]
    ring
  rw [hsum, Finset.sum_range_succ _ (m + 1), Finset.sum_range_succ' _ m, ← Finset.mul_sum]
  ring

/-- C14, Sphere surface AREA, every n1 ≥ 1, n2 ≥ 2: the faces of `Sphere(center, radius, n1, n2)` (`sphereOriented`
    placed by `BA.spherePlace`; unit axis `k`, unit frame `(u, v)`) have total area
      `n1·2·Σ_{j<n2} sin(π/n1)·(ρ_j + ρ_{j+1})·√((z_{j+1} − z_j)² + ((ρ_j − ρ_{j+1})·cos(π/n1))²)`,
    `ρ_j = r·cos(π/2/n2·j)`, `z_j = r·sin(π/2/n2·j)` — n1 trapezoids `½·(chord_j + chord_{j+1})·slant_j` per band
    and hemisphere (`j = n2−1`: the cap triangles, `ρ_{n2} = 0`) -/
theorem BA.sphere_area (c k u v : R3) (r : ℝ) (n1 n2 : ℕ) (hn1 : 1 ≤ n1) (h2 : 2 ≤ n2) (hr : 0 ≤ r)
    (F : Frame k u v 1) (hk : normSq k = 1) :
    BA.surfArea ((sphereOriented n1 n2).map (List.map (BA.spherePlace c k u v r n1 n2))) =
      n1 * (2 * ∑ j ∈ Finset.range n2, BA.bandArea r n1 n2 j) := by
  rw [BA.sphere_placed c k u v r n1 n2 h2]
  obtain ⟨m, rfl⟩ : ∃ m, n2 = m + 2 := ⟨n2 - 2, by omega⟩
  unfold BA.sphereSolid
  rw [BA.surfArea_flatMap]
  simp only [BA.block_area c k u v r n1 m _ F hk hn1 hr]
  simp

/-- … with the frame of `get_circle_point_list` for a unit normal `k` and a base vector `b` not parallel to it -/
theorem BA.sphere_area_closed_form (c k b : R3) (r : ℝ) (n1 n2 : ℕ) (hn1 : 1 ≤ n1) (h2 : 2 ≤ n2) (hr : 0 ≤ r)
    (hk : normSq k = 1) (hb : 0 < normSq (cross k b)) :
    BA.surfArea ((sphereOriented n1 n2).map (List.map (BA.spherePlace c k (frameU k b 1) (frameV k b 1) r n1 n2))) =
      n1 * (2 * ∑ j ∈ Finset.range n2,
        sin (π / n1) * (r * cos (BA.lat n2 j) + r * cos (BA.lat n2 (j + 1))) *
          √((r * sin (BA.lat n2 (j + 1)) - r * sin (BA.lat n2 j)) ^ 2 +
            (r * cos (BA.lat n2 j) - r * cos (BA.lat n2 (j + 1))) ^ 2 * cos (π / n1) ^ 2)) :=
  BA.sphere_area c k _ _ r n1 n2 hn1 h2 hr (frame_real k b 1 (by rw [hk]; exact one_pos) hb) hk

#print axioms BA.band_faceArea
#print axioms BA.cap_faceArea
#print axioms BA.sphere_area
#print axioms BA.sphere_area_closed_form
end BuildersReal
end G3D
