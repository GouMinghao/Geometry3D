import G3D.Proofs.TolGeoPolygon
import Mathlib.Tactic.FinCases
import Mathlib.Tactic.NormNum

/-! Non-vacuity of the polygon theorems: the unit square with corner (1/8, 2, −3) in the plane z = −3, every vertex
    moved by ±eps/1000 per coordinate; the centre and a vertex are accepted, a point 3·eps outside an edge is rejected. -/
namespace G3D.TolGeo
open R3

noncomputable def sqPts : Fin 4 → R3
  | ⟨0, _⟩ => ⟨1 / 8, 2, -3⟩
  | ⟨1, _⟩ => ⟨9 / 8, 2, -3⟩
  | ⟨2, _⟩ => ⟨9 / 8, 3, -3⟩
  | ⟨3, _⟩ => ⟨1 / 8, 3, -3⟩

/-- perturbed vertices, `d = eps/1000` -/
noncomputable def sqPts' (d : ℝ) : Fin 4 → R3
  | ⟨0, _⟩ => ⟨1 / 8 + d, 2 - d, -3 + d⟩
  | ⟨1, _⟩ => ⟨9 / 8 - d, 2 + d, -3 - d⟩
  | ⟨2, _⟩ => ⟨9 / 8 + d, 3 + d, -3 + d⟩
  | ⟨3, _⟩ => ⟨1 / 8 - d, 3 - d, -3 - d⟩

theorem sq_close {d : ℝ} (hd : 0 ≤ d) : ∀ i, closeBy d (sqPts i) (sqPts' d i) := by
  intro i
  fin_cases i <;>
    simp only [closeBy, sqPts, sqPts', add_sub_cancel_left, sub_sub_cancel_left, abs_neg, abs_of_nonneg hd, le_refl,
      and_self]

/-- the part `lo ≤ y` of the square's plane `z = −3` over the square's `x`-range; the exact square is `lo = 2` -/
def InStrip (lo : ℝ) (p : R3) : Prop := (1 / 8 ≤ p.x ∧ p.x ≤ 9 / 8) ∧ (lo ≤ p.y ∧ p.y ≤ 3) ∧ p.z = -3

theorem InStrip.mono {lo lo' : ℝ} (h : lo' ≤ lo) {p : R3} (hp : InStrip lo p) : InStrip lo' p :=
  ⟨hp.1, ⟨h.trans hp.2.1.1, hp.2.1.2⟩, hp.2.2⟩

theorem sq_mem (i : Fin 4) : InStrip 2 (sqPts i) := by
  fin_cases i <;> norm_num [InStrip, sqPts]

theorem strip_dist {lo w : ℝ} (h1 : 1 ≤ w) (hw : 3 - lo ≤ w) {p q : R3} (hp : InStrip lo p) (hq : InStrip lo q) :
    |(sub p q).x| ≤ w ∧ |(sub p q).y| ≤ w ∧ |(sub p q).z| ≤ w := by
  have h : ∀ {a b s t : ℝ}, a ≤ s ∧ s ≤ b → a ≤ t ∧ t ≤ b → b - a ≤ w → |s - t| ≤ w :=
    fun hs ht hab => abs_sub_le_iff.mpr ⟨by linarith, by linarith⟩
  exact ⟨h hp.1 hq.1 (by linarith), h hp.2.1 hq.2.1 hw, by simp only [sub, hp.2.2, hq.2.2, sub_self, abs_zero]; linarith⟩

theorem sq_dist {p q : R3} (hp : InStrip 2 p) (hq : InStrip 2 q) :
    |(sub p q).x| ≤ 1 ∧ |(sub p q).y| ≤ 1 ∧ |(sub p q).z| ≤ 1 := strip_dist le_rfl (by norm_num) hp hq

theorem sq_normal : cross (sub (sqPts 1) (sqPts 0)) (sub (sqPts 2) (sqPts 0)) = ⟨0, 0, 1⟩ := by
  ext <;> norm_num [cross, sub, sqPts]

/-- the edge quantities of the exact square are the distances of `x` from the lines through its four sides -/
theorem sq_edgeVal (x : R3) :
    let G := Polygon.ofPoints (sqPts 0) (sqPts 1) (sqPts 2) sqPts
    G.edgeVal 0 x = x.y - 2 ∧ G.edgeVal 1 x = 9 / 8 - x.x ∧ G.edgeVal 2 x = 3 - x.y ∧ G.edgeVal 3 x = x.x - 1 / 8 := by
  have h1 : dot (⟨0, 0, 1⟩ : R3) ⟨0, 0, 1⟩ = 1 := by norm_num [dot]
  have hn : nextIdx (0 : Fin 4) = 1 ∧ nextIdx (1 : Fin 4) = 2 ∧ nextIdx (2 : Fin 4) = 3 ∧ nextIdx (3 : Fin 4) = 0 := by
    decide
  simp only [Polygon.edgeVal, Polygon.ofPoints, Plane.ofPoints, Plane.ofPN, sq_normal, normalized_of_unit h1, hn]
  simp only [dot, cross, sub, sqPts]
  refine ⟨?_, ?_, ?_, ?_⟩ <;> ring

/-- the whole closed unit square is accepted by EVERY copy whose vertices are within eps/1000 per coordinate -/
theorem sq_accepts_of_close {eps : ℝ} (heps : 0 < eps) (heps1 : eps ≤ 1) {P' : Fin 4 → R3}
    (hc : ∀ i, closeBy (eps / 1000) (sqPts i) (P' i)) {x : R3} (hx : InStrip 2 x) :
    Polygon.containsT eps (Polygon.ofPoints (P' 0) (P' 1) (P' 2) P') x := by
  obtain ⟨e0, e1, e2, e3⟩ := sq_edgeVal x
  refine Polygon.containsT_ofPoints (E := 1) (R := 1) (ρ := 1) (P := sqPts) heps heps1 (hc 0) (hc 1) (hc 2) hc
    (sq_dist (sq_mem 1) (sq_mem 0)) (sq_dist (sq_mem 2) (sq_mem 0)) (by norm_num) ?_ (by linarith) ?_
    (sq_dist hx (sq_mem 0)) (fun i => sq_dist hx (sq_mem i)) (fun i => sq_dist (sq_mem _) (sq_mem i)) ?_
    (by norm_num) (by norm_num)
  · rw [sq_normal]; norm_num [dot]
  · rw [sq_normal]; simp only [dot, sub, sqPts]; rw [hx.2.2]; ring
  · intro i
    fin_cases i
    · exact (sub_nonneg.2 hx.2.1.1).trans e0.ge
    · exact (sub_nonneg.2 hx.1.2).trans e1.ge
    · exact (sub_nonneg.2 hx.2.1.2).trans e2.ge
    · exact (sub_nonneg.2 hx.1.1).trans e3.ge

/-- **the whole closed unit square is accepted by the eps/1000-perturbed copy `sqPts'`**, for every `0 < eps ≤ 1`
    (in particular the four vertices and the centre; eps = 1e-5 and eps = 1e-12 below) -/
theorem sq_accepts {eps : ℝ} (heps : 0 < eps) (heps1 : eps ≤ 1) {x : R3}
    (hx : 1 / 8 ≤ x.x ∧ x.x ≤ 9 / 8) (hy : 2 ≤ x.y ∧ x.y ≤ 3) (hz : x.z = -3) :
    Polygon.containsT eps
      (Polygon.ofPoints (sqPts' (eps / 1000) 0) (sqPts' (eps / 1000) 1) (sqPts' (eps / 1000) 2)
        (sqPts' (eps / 1000))) x :=
  sq_accepts_of_close heps heps1 (sq_close (by linarith)) ⟨hx, hy, hz⟩

/-- centre, eps = 1e-5 -/
example : Polygon.containsT (1 / 100000)
    (Polygon.ofPoints (sqPts' (1 / 100000 / 1000) 0) (sqPts' (1 / 100000 / 1000) 1) (sqPts' (1 / 100000 / 1000) 2)
      (sqPts' (1 / 100000 / 1000))) ⟨5 / 8, 5 / 2, -3⟩ :=
  sq_accepts (by norm_num) (by norm_num) (by norm_num) (by norm_num) rfl

/-- a vertex of the exact square, eps = 1e-12 -/
example : Polygon.containsT (1 / 1000000000000)
    (Polygon.ofPoints (sqPts' (1 / 1000000000000 / 1000) 0) (sqPts' (1 / 1000000000000 / 1000) 1)
      (sqPts' (1 / 1000000000000 / 1000) 2) (sqPts' (1 / 1000000000000 / 1000))) ⟨9 / 8, 3, -3⟩ :=
  sq_accepts (by norm_num) (by norm_num) (by norm_num) (by norm_num) rfl

/-- the point `3·eps` outside the edge `y = 2` (below the middle of the edge) is rejected by EVERY copy whose vertices are
    within eps/1000 per coordinate -/
theorem sq_rejects_of_close {eps : ℝ} (heps : 0 < eps) (heps1 : eps ≤ 1 / 10) {P' : Fin 4 → R3}
    (hc : ∀ i, closeBy (eps / 1000) (sqPts i) (P' i)) :
    ¬ Polygon.containsT eps (Polygon.ofPoints (P' 0) (P' 1) (P' 2) P') ⟨5 / 8, 2 - 3 * eps, -3⟩ := by
  refine Polygon.not_containsT_ofPoints (E := 1) (R := 2) (ρ := 1) (P := sqPts) heps (by linarith)
    (hc 0) (hc 1) (hc 2) hc (sq_dist (sq_mem 1) (sq_mem 0)) (sq_dist (sq_mem 2) (sq_mem 0)) (by norm_num) ?_
    (by linarith)
    (fun i => strip_dist (lo := 1) (by norm_num) (by norm_num) ⟨?_, ?_, rfl⟩ ((sq_mem i).mono (by norm_num)))
    (fun i => sq_dist (sq_mem _) (sq_mem i)) (by norm_num) ⟨0, ?_⟩
  · rw [sq_normal]; norm_num [dot]
  · constructor <;> norm_num
  · constructor <;> simp only <;> linarith
  · rw [(sq_edgeVal _).1]
    simp only
    linarith

/-- **rejection**: the point `3·eps` outside the edge `y = 2` (below the middle of the edge) is rejected by the perturbed copy `sqPts'` -/
theorem sq_rejects {eps : ℝ} (heps : 0 < eps) (heps1 : eps ≤ 1 / 10) :
    ¬ Polygon.containsT eps
      (Polygon.ofPoints (sqPts' (eps / 1000) 0) (sqPts' (eps / 1000) 1) (sqPts' (eps / 1000) 2)
        (sqPts' (eps / 1000))) ⟨5 / 8, 2 - 3 * eps, -3⟩ :=
  sq_rejects_of_close heps heps1 (sq_close (by linarith))

example : ¬ Polygon.containsT (1 / 100000)
    (Polygon.ofPoints (sqPts' (1 / 100000 / 1000) 0) (sqPts' (1 / 100000 / 1000) 1) (sqPts' (1 / 100000 / 1000) 2)
      (sqPts' (1 / 100000 / 1000))) ⟨5 / 8, 2 - 3 * (1 / 100000), -3⟩ :=
  sq_rejects (by norm_num) (by norm_num)

end G3D.TolGeo
