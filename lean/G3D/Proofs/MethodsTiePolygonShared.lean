import G3D.Proofs.MethodsTieBase
/-! # group `mpolygon`: helper lemmas about the runtime only (NO extracted definition occurs here, so this module never breaks when a method changes) -/
set_option linter.style.nameCheck false
namespace G3D.Tie
open V3 PyRt 

def segOf (e : V3 × V3) : Except CErr Seg := if e.1 = e.2 then .error .value else .ok (Seg.mk' e.1 e.2)

theorem pyPack_ConvexPolygon_of (P : Polygon) : pyPack_ConvexPolygon (Self.ofPolygon P) = .ok (.obj (.polygon P)) := by
  simp [pyPack_ConvexPolygon, Self.ofPolygon, Val.ptSeq, plObj, ptObj]

/-- `Plane(points[0], points[1], points[2])` followed by the rest of the method -/
theorem plane3_seq {β : Type} (pts : List V3) (k : Val → PyM β) :
    (do let a ← pyIndexM (.seq (pts.map ptObj)) (.int 0)
        let b ← pyIndexM (.seq (pts.map ptObj)) (.int 1)
        let c ← pyIndexM (.seq (pts.map ptObj)) (.int 2)
        let pl ← pyPlane3 a b c
        k pl) =
      match pts with
      | p0 :: p1 :: p2 :: _ => ofCtor plObj (Plane.ofPoints p0 p1 p2) >>= k
      | _ => .error (.ctor .index) := by
  match pts with
  | [] => rfl
  | [_] => rfl
  | [_, _] => rfl
  | _ :: _ :: _ :: _ => rfl
theorem foldl_snoc_map {α β : Type} (f : α → β) (xs : List α) (acc : List β) :
    xs.foldl (fun acc x => acc ++ [f x]) acc = acc ++ xs.map f := by
  induction xs generalizing acc with
  | nil => simp
  | cons x xs ih => simp [ih]

/-- a sum of square roots, represented by its radicands (`0` while empty) -/
def sqrtSumRepr (l : List Rat) : Val := if l = [] then .int 0 else .nums l

theorem mapM_segOf_lenSq : ∀ (cp : List (V3 × V3)) (ss : List Seg), cp.mapM segOf = .ok ss →
    ss.map Seg.lenSq = cp.map (fun e => normSq (sub e.2 e.1))
  | [], ss, h => by cases h; rfl
  | e :: cp, ss, h => by
    rw [List.mapM_cons] at h
    by_cases he : e.1 = e.2 <;> cases hm : cp.mapM segOf <;> simp [segOf, he, hm] at h
    subst h; simp [mapM_segOf_lenSq cp _ hm, Seg.lenSq, Seg.mk']

end G3D.Tie
