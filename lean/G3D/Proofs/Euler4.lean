import G3D.Proofs.Euler3

/-! # Euler's polyhedron formula, part 4: an ascending corner exists at every vertex that is neither the lowest nor
    the highest

    `d` is generic (`Eu.Generic`: injective on the face vertices).  At a vertex `v` with a higher and a lower vertex
    the horizontal plane through `v` meets the body in a point `q ≠ v`.  With `D` an exposing functional of `v`
    (`Proper.vertex_exposed`) and `u = D × d`, some face through `v` looks along `u` (else `v + ε u` would be a body
    point at the `D`-level of `v`), so the ray from `q` along `u` has a last point `z` inside the half-spaces of the
    faces through `v`, where such a face `f` is tight (`K4.exit_le`); a small step from `v` towards `z` stays in the
    body (`Polyhedron.step_in_cone`) and in `f` (`Proper.tight`); the orientation of the corner of `f` at `v` together
    with `n_f . u > 0` forces `pred` below and `succ` above `v` (`Eu.asc_of_horizontal`). -/
namespace G3D
open V3

/-- `d` separates the face vertices -/
def Eu.Generic (B : Polyhedron) (d : V3) : Prop :=
  ∀ u ∈ collectVerts B.faces, ∀ w ∈ collectVerts B.faces, u ≠ w → dot d u ≠ dot d w

theorem Eu.Generic.face {B : Polyhedron} {d : V3} (hg : Eu.Generic B d) (f : Polygon) (hf : f ∈ B.faces) :
    ∀ u ∈ f.pts, ∀ w ∈ f.pts, u ≠ w → dot d u ≠ dot d w := fun u hu w hw hne =>
  hg u ((mem_collectVerts _ u).mpr ⟨f, hf, hu⟩) w ((mem_collectVerts _ w).mpr ⟨f, hf, hw⟩) hne

/-- a face through a vertex of the body has it as a vertex -/
theorem Eu.Hyp.vertex_of_tight {B : Polyhedron} (H : Eu.Hyp B) (f0 : Polygon) (hf0 : f0 ∈ B.faces) (v : V3)
    (hv0 : v ∈ f0.pts) (f : Polygon) (hf : f ∈ B.faces) (hs : f.side v = 0) : v ∈ f.pts := by
  have hP := H.proper
  obtain ⟨D, hD⟩ := hP.vertex_exposed f0 hf0 v hv0
  have hin : InHull f.pts v := hP.tight v (H.vertex f0 hf0 v hv0).2 f hf hs
  exact SameSet.exposed_mem hD (fun m hm => vertex_in_hull _ _ (H.valid.pts_sub f hf m hm)) hin

theorem Eu.binet (a b c e : V3) : dot (cross a b) (cross c e) = dot a c * dot b e - dot a e * dot b c := by
  simp only [dot, cross]; ring

/-- among the faces through an exposed vertex `v` one looks along any direction `u ≠ 0` of the exposing plane:
    otherwise a step along `u` would stay in the body, at the `D`-level of `v` -/
theorem Eu.Hyp.tight_face_along {B : Polyhedron} (H : Eu.Hyp B) (v D u : V3) (hvB : B.contains v = true)
    (hD : ∀ x ∈ B.verts, x ≠ v → dot D x < dot D v) (hDu : dot D u = 0) (hu : u ≠ zero) :
    ∃ f ∈ B.faces, f.side v = 0 ∧ 0 < dot f.plane.n u := by
  by_contra hcon
  push Not at hcon
  obtain ⟨ε, hε, hx⟩ := B.step_in_cone v u hvB hcon
  rcases hull_exposed (H.proper.hull _ hx) hD with h | h
  · exact hε.ne' (pt_inj hu (h.trans (pt_at_zero v u).symm))
  · have : dot D (pt v u ε) = dot D v + ε * dot D u := by simp only [pt, dot, add, smul]; ring
    rw [this, hDu] at h
    linarith

theorem Eu.orient_pt1 (n v s w : V3) (ε : Rat) :
    orient n v s (pt v w ε) = ε * dot n (cross (sub s v) w) := by
  simp only [orient, pt, dot, cross, add, smul, sub]; ring

theorem Eu.orient_pt2 (n p v w : V3) (ε : Rat) :
    orient n p v (pt v w ε) = - (ε * dot n (cross (sub p v) w)) := by
  simp only [orient, pt, dot, cross, add, smul, sub]; ring

theorem Eu.nonneg_of_gram {T U Y N x : Rat} (hU : 0 < U) (hY : Y < 0) (hN : 0 < N) (hT : 0 ≤ T)
    (h : T * -U = Y * (N * x)) : 0 ≤ x := by
  by_contra hx
  have := mul_pos_of_neg_of_neg hY (mul_neg_of_pos_of_neg hN (not_le.mp hx))
  have := mul_nonneg hT hU.le
  linarith

/-- a corner `(p, v, s)` of a valid polygon ascends as soon as the polygon contains a point `v + ε w`, `ε > 0`, for
    a horizontal direction `w` of its plane and `D` with `D . w < 0 < n . (D × d)`: by `K4.triple_gram`, `s` lies on
    the upper and `p` on the lower side of the line `v + t w` -/
theorem Eu.asc_of_horizontal (f : Polygon) (hv : f.Valid) (d D w : V3) (ε : Rat) (t : V3 × V3 × V3)
    (ht : t ∈ Eu.cycTriples f.pts) (hinj : ∀ u ∈ f.pts, ∀ w ∈ f.pts, u ≠ w → dot d u ≠ dot d w)
    (nw : dot f.plane.n w = 0) (dw : dot d w = 0) (hDw : dot D w < 0) (hu : 0 < dot f.plane.n (cross D d))
    (hε : 0 < ε) (hy : InHull f.pts (pt t.2.1 w ε)) : Eu.amT d t = true := by
  have c := Eu.corner f hv t ht
  obtain ⟨_, _, _, _, _, hpl, _⟩ := id hv
  have hN := normSq_pos (Polygon.plane_WF f hv)
  have o1 := f.edge_nonneg hv _ hy _ c.outEdge
  have o2 := f.edge_nonneg hv _ hy _ c.inEdge
  rw [Eu.orient_pt1] at o1
  rw [Eu.orient_pt2] at o2
  have g1 := K4.triple_gram f.plane.n d D _ w (inPlane_diff (hpl _ c.mid) (hpl _ c.succ)) nw dw
  have g2 := K4.triple_gram f.plane.n d D _ w (inPlane_diff (hpl _ c.mid) (hpl _ c.pred)) nw dw
  rw [K4.triple_swap D] at g1 g2
  have hα := Eu.nonneg_of_gram hu hDw hN ((mul_nonneg_iff_of_pos_left hε).mp o1) g1
  have hβ := Eu.nonneg_of_gram (T := - dot f.plane.n (cross (sub t.1 t.2.1) w)) (x := - dot d (sub t.1 t.2.1))
    hu hDw hN ((mul_nonneg_iff_of_pos_left hε).mp (by linarith)) (by linear_combination -g2)
  rw [dot_sub_right] at hα hβ
  simp only [Eu.amT, decide_eq_true_iff]
  exact ⟨lt_of_le_of_ne (by linarith) (hinj _ c.pred _ c.mid c.ne_pred),
    lt_of_le_of_ne (by linarith) (hinj _ c.mid _ c.succ c.ne_succ)⟩

/-- **existence of an ascending corner** at a vertex with a higher and a lower vertex -/
theorem Eu.asc_exists {B : Polyhedron} (H : Eu.Hyp B) (d : V3) (hgen : Eu.Generic B d)
    (v a b : V3) (hv : v ∈ collectVerts B.faces) (ha : a ∈ collectVerts B.faces) (hb : b ∈ collectVerts B.faces)
    (hva : dot d v < dot d a) (hbv : dot d b < dot d v) :
    ∃ f ∈ B.faces, ∃ t ∈ Eu.cycTriples f.pts, t.2.1 = v ∧ Eu.amT d t = true := by
  have hP := H.proper
  obtain ⟨f0, hf0, hv0⟩ := (mem_collectVerts _ v).mp hv
  obtain ⟨fa, hfa, hva0⟩ := (mem_collectVerts _ a).mp ha
  obtain ⟨fb, hfb, hvb0⟩ := (mem_collectVerts _ b).mp hb
  obtain ⟨D, hD⟩ := hP.vertex_exposed f0 hf0 v hv0
  have hvB := (H.vertex f0 hf0 v hv0).2
  have hDa : dot D (sub a v) < 0 := by
    rw [dot_sub_right]
    linarith [hD a (H.valid.pts_sub fa hfa a hva0) (fun h => hva.ne' (congrArg (dot d) h))]
  have hDb : dot D (sub b v) < 0 := by
    rw [dot_sub_right]
    linarith [hD b (H.valid.pts_sub fb hfb b hvb0) (fun h => hbv.ne (congrArg (dot d) h))]
  -- the point `q` of `[b, a]` at the height of `v`
  obtain ⟨σ, hσ0, hσ1, hq, hdq⟩ :=
    Eu.level_point d b a v (by rw [dot_sub_right]; linarith) (by rw [dot_sub_right]; linarith)
  have hqB : B.contains (add b (smul σ (sub a b))) = true :=
    B.contains_between (H.vertex fb hfb b hvb0).2 (H.vertex fa hfa a hva0).2 ⟨σ, hσ0.le, hσ1.le, rfl⟩
  generalize add b (smul σ (sub a b)) = q at hq hdq hqB
  have hDq : dot D (sub q v) < 0 := by
    rw [hq]
    have := mul_neg_of_pos_of_neg (by linarith : 0 < 1 - σ) hDb
    have := mul_neg_of_pos_of_neg hσ0 hDa
    linarith
  -- `u = D × d ≠ 0` spans the horizontal directions of the exposing plane
  have hdu : dot d (cross D d) = 0 := by simp only [dot, cross]; ring
  have hu0 : cross D d ≠ zero := by
    intro hz
    have e := Eu.binet D d (sub q v) d
    rw [hz, hdq, mul_zero, sub_zero] at e
    have hd : 0 < dot d d := normSq_pos (fun h => by rw [h] at hva; simp [dot, zero] at hva)
    have : dot zero (cross (sub q v) d) = 0 := by simp [dot, zero]
    rw [this] at e
    have := mul_neg_of_neg_of_pos hDq hd
    linarith
  obtain ⟨f1, hf1, hf1v, hf1u⟩ := H.tight_face_along v D _ hvB hD (dot_cross_self D d) hu0
  -- from `q` along `u` up to the last point `z` inside the half-spaces of the faces through `v`
  obtain ⟨θ, _, hin, f, hfFv, hfu, hfz⟩ := K4.exit_le (B.faces.filter (fun f => decide (f.side v = 0))) q (cross D d)
    (fun f hf => H.side_le f (List.mem_filter.mp hf).1 q hqB)
    ⟨f1, List.mem_filter.mpr ⟨hf1, by simpa using hf1v⟩, hf1u⟩
  obtain ⟨hf, hfv⟩ := List.mem_filter.mp hfFv
  simp only [decide_eq_true_iff] at hfv
  have hz : ∀ m, dot m (sub (pt q (cross D d) θ) v) = dot m (sub q v) + θ * dot m (cross D d) := by
    intro m; simp only [pt, dot, add, smul, sub]; ring
  generalize pt q (cross D d) θ = z at hin hfz hz
  -- a step from `v` towards `z` stays in the body, hence in `f`
  obtain ⟨ε, hε, hyB⟩ := B.step_in_cone v (sub z v) hvB (fun g hg hgv => by
    rw [K4.side_diff, hgv, sub_zero]
    exact hin g (List.mem_filter.mpr ⟨hg, by simpa using hgv⟩))
  have hfw : dot f.plane.n (sub z v) = 0 := by rw [K4.side_diff, hfz, hfv]; ring
  have hyf : InHull f.pts (pt v (sub z v) ε) :=
    hP.tight _ hyB f hf (by rw [f.side_pt, hfv, hfw]; ring)
  have hvf : v ∈ f.pts := H.vertex_of_tight f0 hf0 v hv0 f hf hfv
  have hfval := H.valid.faces_valid f hf
  obtain ⟨t, ht, rfl⟩ := Eu.cycTriples_exists f.pts (by
    obtain ⟨_, _, _, _, hp, _, _⟩ := hfval; rw [hp]; simp) v hvf
  exact ⟨f, hf, t, ht, rfl, Eu.asc_of_horizontal f hfval d D _ ε t ht (hgen.face f hf) hfw
    (by rw [hz, hdq, hdu]; ring) (by rw [hz, dot_cross_self]; linarith) hfu hε hyf⟩
#print axioms Eu.asc_exists

end G3D
