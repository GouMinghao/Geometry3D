import G3D.Proofs.ChainHull
import G3D.Proofs.Sort

/-! # Every constructed ConvexPolygon has three non-collinear vertices

    `ConvexPolygon(points)` checks that the first three distinct input points are not collinear, but its
    angular sort about the centroid keeps only ONE point per direction (`angle_point_dict[angle] = point`).
    Here: three of the points it keeps are still not collinear.  With `Polygon.contains_sub_hull`
    (ChainHull.lean) this gives `P.contains x → InHull P.pts x` for EVERY successfully constructed polygon,
    with no hypothesis on the input (no convexity, no assumption that the sort is right). -/
namespace G3D
open V3

/-! "Same angle" on sort keys `(y, z)`: the relation that `angEq` decides (`angEq_iff_bs`). -/
def AngSame (k k' : Rat × Rat) : Prop :=
  (k.2 = 0 ∧ k'.2 = 0 ∧ ((0 ≤ k.1 ∧ 0 ≤ k'.1) ∨ (k.1 < 0 ∧ k'.1 < 0))) ∨
  (k.1 * k'.2 - k.2 * k'.1 = 0 ∧ ((0 < k.2 ∧ 0 < k'.2) ∨ (k.2 < 0 ∧ k'.2 < 0)))

theorem angEq_iff_bs (k k' : Rat × Rat) : angEq k k' = true ↔ AngSame k k' := by
  rw [angEq_iff]
  constructor
  · rintro ⟨hc, hd⟩
    rcases kcls_cases k with c | c | c | c <;> rw [c.1] at hc hd
    · exact .inl ⟨c.2.1, (kcls_eq_zero.mp hc.symm).1, .inl ⟨c.2.2, (kcls_eq_zero.mp hc.symm).2⟩⟩
    · exact .inr ⟨hd.resolve_left (by decide), .inl ⟨c.2, kcls_eq_one.mp hc.symm⟩⟩
    · exact .inl ⟨c.2.1, (kcls_eq_two.mp hc.symm).1, .inr ⟨c.2.2, (kcls_eq_two.mp hc.symm).2⟩⟩
    · exact .inr ⟨hd.resolve_left (by decide), .inr ⟨c.2, kcls_eq_three.mp hc.symm⟩⟩
  · rintro (⟨hz, hz', ⟨hy, hy'⟩ | ⟨hy, hy'⟩⟩ | ⟨hd, ⟨hz, hz'⟩ | ⟨hz, hz'⟩⟩)
    · rw [kcls_eq_zero.mpr ⟨hz, hy⟩, kcls_eq_zero.mpr ⟨hz', hy'⟩]; exact ⟨rfl, .inl (.inl rfl)⟩
    · rw [kcls_eq_two.mpr ⟨hz, hy⟩, kcls_eq_two.mpr ⟨hz', hy'⟩]; exact ⟨rfl, .inl (.inr rfl)⟩
    · rw [kcls_eq_one.mpr hz, kcls_eq_one.mpr hz']; exact ⟨rfl, .inr hd⟩
    · rw [kcls_eq_three.mpr hz, kcls_eq_three.mpr hz']; exact ⟨rfl, .inr hd⟩

theorem AngSame.refl (k : Rat × Rat) : AngSame k k := (angEq_iff_bs k k).mp (angEq_refl k)

/-- two keys with the same angle as a third one have the same angle -/
theorem AngSame.common {k k' k'' : Rat × Rat} (h1 : AngSame k k') (h2 : AngSame k'' k') : AngSame k k'' :=
  (angEq_iff_bs _ _).mp (angEq_trans ((angEq_iff_bs _ _).mpr h1) (angEq_symm ((angEq_iff_bs _ _).mpr h2)))

/-- a linear functional takes values of the same (weak) sign on two keys of the same angle -/
theorem AngSame.sign {k k' : Rat × Rat} (h : AngSame k k') (α β : Rat) :
    0 ≤ (α * k.1 + β * k.2) * (α * k'.1 + β * k'.2) := by
  rcases h with ⟨a1, a2, a3⟩ | ⟨a1, a2⟩
  · have hyy : 0 ≤ k.1 * k'.1 := by
      rcases a3 with ⟨c1, c2⟩ | ⟨c1, c2⟩
      · exact mul_nonneg c1 c2
      · exact (mul_pos_of_neg_of_neg c1 c2).le
    have : (α * k.1 + β * k.2) * (α * k'.1 + β * k'.2) = α ^ 2 * (k.1 * k'.1) := by rw [a1, a2]; ring
    rw [this]
    exact mul_nonneg (sq_nonneg α) hyy
  · -- `z' A = z B` for the two values `A`, `B`, so `(z z') (A B) = (z B)²`
    refine (mul_nonneg_iff_of_pos_left (mul_pos_iff.mpr a2)).mp ?_
    have : k.2 * k'.2 * ((α * k.1 + β * k.2) * (α * k'.1 + β * k'.2)) = (k.2 * (α * k'.1 + β * k'.2)) ^ 2 := by
      linear_combination (k.2 * (α * k'.1 + β * k'.2) * α) * a1
    rw [this]
    exact sq_nonneg _

/-- if the functional vanishes on `k'` it vanishes on every key of the same angle, except possibly on keys
    of angle 0 (`z = 0`, `y ≥ 0`: the code's class of the zero vector) -/
theorem AngSame.zero {k k' : Rat × Rat} (h : AngSame k k') (α β : Rat) (h0 : α * k'.1 + β * k'.2 = 0) :
    α * k.1 + β * k.2 = 0 ∨ (k.2 = 0 ∧ 0 ≤ k.1) := by
  rcases h with ⟨a1, a2, ⟨c1, _⟩ | ⟨_, c2⟩⟩ | ⟨a1, a2⟩
  · exact .inr ⟨a1, c1⟩
  · rw [a2, mul_zero, add_zero] at h0
    rw [a1, (mul_eq_zero.mp h0).resolve_right c2.ne]
    exact .inl (by ring)
  · have hz' : k'.2 ≠ 0 := a2.elim (fun c => c.2.ne') (fun c => c.2.ne)
    have e : k'.2 * (α * k.1 + β * k.2) = 0 := by linear_combination α * a1 + k.2 * h0
    exact .inl ((mul_eq_zero.mp e).resolve_left hz')

theorem BS.sum_map_lin {ι : Type} (l : List ι) (f g : ι → Rat) (a b : Rat) :
    (l.map (fun p => a * f p + b * g p)).sum = a * (l.map f).sum + b * (l.map g).sum := by
  induction l with
  | nil => simp
  | cons x l ih => simp only [List.map_cons, List.sum_cons, ih]; ring

theorem BS.all_zero_of_map_nonneg {ι : Type} (l : List ι) (f : ι → Rat) (hnn : ∀ p ∈ l, 0 ≤ f p)
    (hs : (l.map f).sum = 0) : ∀ p ∈ l, f p = 0 :=
  List.forall_mem_map.mp (all_zero_of_nonneg_sum_zero _ (List.forall_mem_map.mpr hnn) hs)

/-- `ded`: the points, with keys `k` summing to zero, one of them (`p0`) on the positive y-axis;
    `S ⊆ ded`: the kept points, one for every angle that occurs.  If a linear functional `L = (α, β)` is constant
    on the kept points then `α = 0` and `β z = 0` for every point. -/
theorem keys_line_lemma {ι : Type} (ded S : List ι) (k : ι → Rat × Rat)
    (hy : (ded.map (fun p => (k p).1)).sum = 0) (hz : (ded.map (fun p => (k p).2)).sum = 0)
    (p0 : ι) (hp0 : p0 ∈ ded) (hp0z : (k p0).2 = 0) (hp0y : 0 < (k p0).1)
    (hS : ∀ s ∈ S, s ∈ ded) (hrep : ∀ p ∈ ded, ∃ s ∈ S, AngSame (k p) (k s))
    (α β γ : Rat) (hL : ∀ s ∈ S, α * (k s).1 + β * (k s).2 = γ) :
    α = 0 ∧ ∀ p ∈ ded, β * (k p).2 = 0 := by
  have hsum : ∀ c : Rat, (ded.map (fun p => c * (α * (k p).1 + β * (k p).2))).sum = 0 := by
    intro c
    have : (fun p => c * (α * (k p).1 + β * (k p).2)) = fun p => (c * α) * (k p).1 + (c * β) * (k p).2 := by
      funext p; ring
    rw [this, BS.sum_map_lin, hy, hz]; ring
  -- `γ L ≥ 0` everywhere and sums to zero, so `γ² = 0`
  have h1 : ∀ p ∈ ded, γ * (α * (k p).1 + β * (k p).2) = 0 := by
    refine BS.all_zero_of_map_nonneg ded _ (fun p hp => ?_) (hsum γ)
    obtain ⟨s, hs, hps⟩ := hrep p hp
    have := hps.sign α β
    rwa [hL s hs, mul_comm] at this
  obtain ⟨s0, hs0, _⟩ := hrep p0 hp0
  have hγ : γ = 0 := by
    have := h1 s0 (hS s0 hs0)
    rw [hL s0 hs0] at this
    exact mul_self_eq_zero.mp this
  -- so `L` vanishes on every point that is not of angle 0
  have h2 : ∀ p ∈ ded, α * (k p).1 + β * (k p).2 = 0 ∨ ((k p).2 = 0 ∧ 0 ≤ (k p).1) := by
    intro p hp
    obtain ⟨s, hs, hps⟩ := hrep p hp
    exact hps.zero α β (by rw [hL s hs, hγ])
  -- `α L ≥ 0` everywhere (`α² y` at angle 0) and sums to zero, so `α² y₀ = 0`
  have h3 : ∀ p ∈ ded, α * (α * (k p).1 + β * (k p).2) = 0 := by
    refine BS.all_zero_of_map_nonneg ded _ (fun p hp => ?_) (hsum α)
    rcases h2 p hp with e | ⟨e1, e2⟩
    · rw [e, mul_zero]
    · rw [e1, mul_zero, add_zero, ← mul_assoc]
      exact mul_nonneg (mul_self_nonneg α) e2
  have hα : α = 0 := by
    have := h3 p0 hp0
    rw [hp0z, mul_zero, add_zero, ← mul_assoc] at this
    exact mul_self_eq_zero.mp ((mul_eq_zero.mp this).resolve_right hp0y.ne')
  refine ⟨hα, fun p hp => ?_⟩
  rcases h2 p hp with e | ⟨e1, _⟩
  · rwa [hα, zero_mul, zero_add] at e
  · rw [e1, mul_zero]

/-- three of the kept points have affinely independent keys -/
theorem keys_nondeg {ι : Type} (ded S : List ι) (k : ι → Rat × Rat)
    (hy : (ded.map (fun p => (k p).1)).sum = 0) (hz : (ded.map (fun p => (k p).2)).sum = 0)
    (p0 : ι) (hp0 : p0 ∈ ded) (hp0z : (k p0).2 = 0) (hp0y : 0 < (k p0).1)
    (hS : ∀ s ∈ S, s ∈ ded) (hrep : ∀ p ∈ ded, ∃ s ∈ S, AngSame (k p) (k s))
    (q0 q1 q2 : ι) (hq0 : q0 ∈ ded) (hq1 : q1 ∈ ded) (hq2 : q2 ∈ ded)
    (hq : ((k q1).1 - (k q0).1) * ((k q2).2 - (k q0).2) - ((k q1).2 - (k q0).2) * ((k q2).1 - (k q0).1) ≠ 0) :
    ∃ s1 ∈ S, ∃ s2 ∈ S, ∃ s3 ∈ S,
      ((k s2).1 - (k s1).1) * ((k s3).2 - (k s1).2) - ((k s2).2 - (k s1).2) * ((k s3).1 - (k s1).1) ≠ 0 := by
  by_contra hcon
  push Not at hcon
  obtain ⟨a, ha, _⟩ := hrep p0 hp0
  -- otherwise the kept keys lie on a line `α y + β z = γ`
  obtain ⟨α, β, γ, hαβ, hL⟩ : ∃ α β γ : Rat, ¬ (α = 0 ∧ β = 0) ∧ ∀ s ∈ S, α * (k s).1 + β * (k s).2 = γ := by
    by_cases hdist : ∃ b ∈ S, k b ≠ k a
    · obtain ⟨b, hb, hne⟩ := hdist
      refine ⟨(k a).2 - (k b).2, (k b).1 - (k a).1, ((k a).2 - (k b).2) * (k a).1 + ((k b).1 - (k a).1) * (k a).2,
        fun h => hne (Prod.ext (sub_eq_zero.mp h.2) (sub_eq_zero.mp h.1).symm), fun s hs => ?_⟩
      linear_combination hcon a ha b hb s hs
    · push Not at hdist
      exact ⟨1, 0, (k a).1, fun h => one_ne_zero h.1, fun s hs => by rw [hdist s hs]; ring⟩
  -- which forces `z = 0` for all points
  obtain ⟨hα, hβ⟩ := keys_line_lemma ded S k hy hz p0 hp0 hp0z hp0y hS hrep α β γ hL
  have hall : ∀ p ∈ ded, (k p).2 = 0 := fun p hp =>
    (mul_eq_zero.mp (hβ p hp)).resolve_left fun h => hαβ ⟨hα, h⟩
  apply hq
  rw [hall q0 hq0, hall q1 hq1, hall q2 hq2]; ring
#print axioms keys_nondeg

/-- `angle_point_dict[angle] = point` on the sorted association list: every earlier entry keeps its key, and its
    point unless the new point has the angle of that key; the new point is stored under a key of its angle -/
theorem angInsert_entries (k : Key) (p : V3) (l : List (Key × V3)) (hs : KSorted l) :
    (∀ e ∈ l, ∃ e' ∈ angInsert k p l, e'.1 = e.1 ∧ (e'.2 = e.2 ∨ e'.2 = p ∧ angEq k e.1 = true)) ∧
    ∃ e' ∈ angInsert k p l, e'.2 = p ∧ angEq k e'.1 = true := by
  by_cases hex : ∃ e ∈ l, angEq k e.1 = true
  · rw [angInsert_replace k p l hs hex]
    refine ⟨fun e he => ⟨_, List.mem_map_of_mem he, ?_⟩, ?_⟩
    · split
      · exact ⟨rfl, .inr ⟨rfl, ‹_›⟩⟩
      · exact ⟨rfl, .inl rfl⟩
    · obtain ⟨e0, h0, he0⟩ := hex
      exact ⟨_, List.mem_map_of_mem h0, by rw [if_pos he0]; exact ⟨rfl, he0⟩⟩
  · have hp := angInsert_perm k p l fun e he => Bool.eq_false_iff.mpr fun h => hex ⟨e, he, h⟩
    exact ⟨fun e he => ⟨e, hp.mem_iff.mpr (List.mem_cons_of_mem _ he), rfl, .inl rfl⟩,
      (k, p), hp.mem_iff.mpr List.mem_cons_self, rfl, angEq_refl k⟩

theorem angSort_rep (key : V3 → Key) (ded : List V3) :
    ∀ q ∈ ded, ∃ e ∈ angSort key ded, AngSame (key q) e.1 ∧ AngSame (key e.2) e.1 := by
  induction ded using List.reverseRecOn with
  | nil => intro q hq; cases hq
  | append_singleton ds d ih =>
    intro q hq
    rw [angSort_concat]
    obtain ⟨hold, en, hn, hn2, hnk⟩ := angInsert_entries (key d) d _ (angSort_sorted key ds)
    have hd : AngSame (key d) en.1 := (angEq_iff_bs _ _).mp hnk
    rcases List.mem_append.mp hq with hq | hq
    · obtain ⟨e, he, h1, h2⟩ := ih q hq
      obtain ⟨e', he', hk, hp'⟩ := hold e he
      refine ⟨e', he', hk ▸ h1, ?_⟩
      rcases hp' with h | ⟨h, hk'⟩
      · rw [h, hk]; exact h2
      · rw [h, hk]; exact (angEq_iff_bs _ _).mp hk'
    · rw [List.mem_singleton.mp hq]; exact ⟨en, hn, hd, hn2 ▸ hd⟩

theorem angSorted_rep (c v0 n : V3) (ded : List V3) :
    ∀ p ∈ ded, ∃ s ∈ angSorted c v0 n ded, AngSame (dot (sub p c) v0, dot (sub p c) (cross n v0))
      (dot (sub s c) v0, dot (sub s c) (cross n v0)) := by
  intro p hp
  obtain ⟨e, he, h1, h2⟩ := angSort_rep (fun p => (dot (sub p c) v0, dot (sub p c) (cross n v0))) ded p hp
  exact ⟨e.2, List.mem_map_of_mem he, h1.common h2⟩

/-- deviations from the mean sum to zero -/
theorem BS.sum_sub_mean (l : List V3) (hl : l ≠ []) (w : V3) :
    (l.map (fun p => dot (sub p (meanV l)) w)).sum = 0 := by
  have hlen : (l.length : Rat) ≠ 0 := Nat.cast_ne_zero.mpr (List.length_pos_of_ne_nil hl).ne'
  have : (fun p => dot (sub p (meanV l)) w) = fun p => 1 * dot w p + (-dot w (meanV l)) * 1 := by
    funext p; simp only [dot, sub]; ring
  rw [this, BS.sum_map_lin, List.map_const', List.sum_replicate, nsmul_eq_mul, dot_meanV, mul_one, one_mul, neg_mul,
    div_mul_cancel₀ _ hlen, add_neg_cancel]

/-- the 2×2 determinant of key differences is `|v0|²` times the orientation -/
theorem key_det_orient (n c v0 a b d : V3) (h : dot n v0 = 0) :
    (dot (sub b c) v0 - dot (sub a c) v0) * (dot (sub d c) (cross n v0) - dot (sub a c) (cross n v0)) -
      (dot (sub b c) (cross n v0) - dot (sub a c) (cross n v0)) * (dot (sub d c) v0 - dot (sub a c) v0) =
      normSq v0 * orient n a b d := by
  have e : ∀ (x y w : V3), dot (sub x c) w - dot (sub y c) w = dot (sub x y) w := by
    intro x y w; simp only [dot, sub]; ring
  rw [e, e, e, e, key_det_id, h]
  unfold orient; ring

/-- **the points kept by the angular sort of `ConvexPolygon(points)` are not all collinear**: `S` any selection
    from the points `ded` with one point for every angle about the centroid `c` that occurs -/
theorem sorted_nondeg (ded S : List V3) (p0 p1 p2 n c : V3) (hc : c = meanV ded)
    (hp0 : p0 ∈ ded) (hp1 : p1 ∈ ded) (hp2 : p2 ∈ ded)
    (hpl : ∀ p ∈ ded, (⟨p0, n⟩ : Plane).contains p = true)
    (hnd : orient n p0 p1 p2 ≠ 0) (hv0 : sub p0 c ≠ zero) (hS : ∀ s ∈ S, s ∈ ded)
    (hrep : ∀ p ∈ ded, ∃ s ∈ S, AngSame (dot (sub p c) (sub p0 c), dot (sub p c) (cross n (sub p0 c)))
      (dot (sub s c) (sub p0 c), dot (sub s c) (cross n (sub p0 c)))) :
    ∃ u ∈ S, ∃ v ∈ S, ∃ w ∈ S, orient n u v w ≠ 0 := by
  subst hc
  have hne : ded ≠ [] := List.ne_nil_of_mem hp0
  -- the centroid lies in the plane
  have hv0n : dot n (sub p0 (meanV ded)) = 0 := by
    have := meanV_inplane n p0 ded hne fun p hp => (Plane.contains_iff _ p).mp (hpl p hp)
    simp only [dot, sub] at this ⊢
    linear_combination -this
  have hq := key_det_orient n (meanV ded) _ p0 p1 p2 hv0n
  obtain ⟨s1, h1, s2, h2, s3, h3, hdet⟩ := keys_nondeg ded S
    (fun p => (dot (sub p (meanV ded)) (sub p0 (meanV ded)), dot (sub p (meanV ded)) (cross n (sub p0 (meanV ded)))))
    (BS.sum_sub_mean ded hne _) (BS.sum_sub_mean ded hne _) p0 hp0 (by simp only [dot, cross]; ring)
    (normSq_pos hv0) hS hrep p0 p1 p2 hp0 hp1 hp2 (by rw [hq]; exact mul_ne_zero (normSq_pos hv0).ne' hnd)
  rw [key_det_orient n (meanV ded) _ s1 s2 s3 hv0n] at hdet
  exact ⟨s1, h1, s2, h2, s3, h3, right_ne_zero_of_mul hdet⟩
#print axioms sorted_nondeg

/-- **every successfully constructed ConvexPolygon has three non-collinear vertices** (any input) -/
theorem Polygon.mk?_nondeg (input : List V3) (rev : Bool) (P : Polygon) (h : Polygon.mk? input rev = .ok P) :
    ∃ u ∈ P.pts, ∃ v ∈ P.pts, ∃ w ∈ P.pts, orient P.plane.n u v w ≠ 0 := by
  obtain ⟨_, p0, p1, p2, rest, hded, hn0, hv0, n, hn, hall, rfl⟩ := (Polygon.mk?_ok_iff input rev P).mp h
  have hnd : orient n p0 p1 p2 ≠ 0 := by
    rw [hn]
    split
    · have : orient (neg (cross (sub p1 p0) (sub p2 p0))) p0 p1 p2 = - normSq (cross (sub p1 p0) (sub p2 p0)) := by
        simp only [orient, normSq, dot, neg]; ring
      rw [this]
      exact neg_ne_zero.mpr (normSq_pos hn0).ne'
    · exact (normSq_pos hn0).ne'
  exact sorted_nondeg (dedupV input) _ p0 p1 p2 n _ rfl (by rw [hded]; simp) (by rw [hded]; simp)
    (by rw [hded]; simp) hall hnd hv0
    (fun s hs => mem_of_mem_angSorted hs) (angSorted_rep _ _ _ _)
#print axioms Polygon.mk?_nondeg

/-- **`__contains__` ⊆ hull for every successfully constructed ConvexPolygon**, whatever the input
    (in particular without assuming that the input points are in convex position or that the angular sort
    orders them correctly) -/
theorem Polygon.mk?_contains_sub_hull (input : List V3) (rev : Bool) (P : Polygon)
    (h : Polygon.mk? input rev = .ok P) (x : V3) (hx : P.contains x = true) : InHull P.pts x :=
  Polygon.contains_sub_hull P (Polygon.mk?_ok input rev P h).2.2.2.1 (Polygon.mk?_nondeg input rev P h) x hx
#print axioms Polygon.mk?_contains_sub_hull

end G3D
