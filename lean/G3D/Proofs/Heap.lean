import G3D.Model.Heap
import Mathlib.Tactic.Ring
import Mathlib.Tactic.Linarith

namespace G3D.Heap

def Bound (st : State) : Prop := ∀ o ∈ st.env, ∀ a ∈ o.leaves, a < st.store.length

/-- leaves of an owning object are shared with no other root -/
def Sep (st : State) : Prop :=
  ∀ (i j : Nat) (oi oj : Ob), i ≠ j → st.env[i]? = some oi → st.env[j]? = some oj → oi.owning = true →
    ∀ a, a ∈ oi.leaves → a ∉ oj.leaves

/-- aliased constructor arguments are not owning composites -/
def Op.okAlias (st : State) : Op → Prop
  | .build _ _ srcs _ => ∀ p ∈ srcs, p.2 = false → ∀ o, st.env[p.1]? = some o → o.owning = false
  | _ => True

theorem readLeaves_set_of_not_mem (s : Store) (ls : List Nat) (a : Nat) (v : Triple) (h : a ∉ ls) :
    readLeaves (s.set a v) ls = readLeaves s ls := by
  unfold readLeaves
  apply List.map_congr_left
  intro b hb
  have : a ≠ b := fun e => h (e ▸ hb)
  rw [List.getD_eq_getElem?_getD, List.getD_eq_getElem?_getD, List.getElem?_set_ne this]

theorem readLeaves_append_of_bound (s ext : Store) (ls : List Nat) (h : ∀ a ∈ ls, a < s.length) :
    readLeaves (s ++ ext) ls = readLeaves s ls := by
  unfold readLeaves
  apply List.map_congr_left
  intro b hb
  rw [List.getD_eq_getElem?_getD, List.getD_eq_getElem?_getD, List.getElem?_append_left (h b hb)]

theorem readLeaves_foldl_set (ls moved : List Nat) (g : Triple → Triple) (hd : ∀ a ∈ moved, a ∉ ls) :
    ∀ s : Store, readLeaves (moved.foldl (fun s a => s.set a (g (s.getD a (0,0,0)))) s) ls = readLeaves s ls := by
  induction moved with
  | nil => intro s; rfl
  | cons a rest ih =>
    intro s
    rw [List.foldl_cons, ih (fun b hb => hd b (by simp [hb]))]
    exact readLeaves_set_of_not_mem s ls a _ (hd a (by simp))

theorem length_foldl_set (moved : List Nat) (g : Triple → Triple) :
    ∀ s : Store, (moved.foldl (fun s a => s.set a (g (s.getD a (0,0,0)))) s).length = s.length := by
  induction moved with
  | nil => intro s; rfl
  | cons a rest ih => intro s; rw [List.foldl_cons, ih]; simp

theorem allocMany_spec (s : Store) (vs : List Triple) :
    (allocMany s vs).1 = s ++ vs ∧ s.length ≤ (allocMany s vs).1.length ∧
      ∀ a ∈ (allocMany s vs).2, s.length ≤ a ∧ a < (allocMany s vs).1.length := by
  refine ⟨rfl, ?_, fun a ha => ?_⟩ <;> simp only [allocMany, List.length_append]
  · omega
  · obtain ⟨k, hk, rfl⟩ := List.mem_map.mp ha
    rw [List.mem_range] at hk
    omega

/-- what `gather` produces: the store grows at the end, and every leaf gathered is a fresh cell or a leaf of an aliased
    source; `P` is any property that the leaves of the aliased sources have -/
theorem gather_spec (st : State) (P : Nat → Prop) : ∀ (srcs : List (Nat × Bool)) (s : Store) (acc : List Nat),
    (∀ p ∈ srcs, p.2 = false → ∀ o, st.env[p.1]? = some o → ∀ a ∈ o.leaves, P a) →
    ∃ ext ls, gather st srcs s acc = (s ++ ext, acc ++ ls) ∧
      ∀ a ∈ ls, (s.length ≤ a ∧ a < (s ++ ext).length) ∨ P a := by
  intro srcs
  induction srcs with
  | nil => exact fun s acc _ => ⟨[], [], by simp [gather], by simp⟩
  | cons p rest ih =>
    intro s acc hP
    have hrest := fun q hq => hP q (List.mem_cons_of_mem _ hq)
    obtain ⟨i, cp⟩ := p
    simp only [gather]
    cases ho : st.env[i]? with
    | none => exact ih s acc hrest
    | some o =>
      cases cp with
      | true =>
        obtain ⟨hs1, _, hs2⟩ := allocMany_spec s (readLeaves s o.leaves)
        obtain ⟨ext, ls, e, h⟩ := ih (s ++ readLeaves s o.leaves) (acc ++ (allocMany s (readLeaves s o.leaves)).2) hrest
        refine ⟨readLeaves s o.leaves ++ ext, (allocMany s (readLeaves s o.leaves)).2 ++ ls, ?_, fun a ha => ?_⟩
        · simp only [if_true, hs1, e, List.append_assoc]
        · rw [hs1] at hs2
          simp only [List.length_append] at hs2 h ⊢
          rcases List.mem_append.mp ha with ha | ha
          · exact Or.inl ⟨(hs2 a ha).1, by have := (hs2 a ha).2; omega⟩
          · exact (h a ha).imp_left fun h => ⟨by omega, by omega⟩
      | false =>
        obtain ⟨ext, ls, e, h⟩ := ih s (acc ++ o.leaves) hrest
        refine ⟨ext, o.leaves ++ ls, by simp only [Bool.false_eq_true, if_false, e, List.append_assoc], fun a ha => ?_⟩
        rcases List.mem_append.mp ha with ha | ha
        · exact Or.inr (hP (i, false) List.mem_cons_self rfl o ho a ha)
        · exact h a ha

/-- frame property of a single step: an owning object that is not the target of the operation keeps its
    identity and its observation -/
theorem step_frame (st : State) (op : Op) (hB : Bound st) (hS : Sep st) (c : Nat) (o : Ob)
    (hc : st.env[c]? = some o) (ho : o.owning = true) (ht : op.target ≠ some c) :
    (step st op).env[c]? = some o ∧ obs (step st op) o = obs st o := by
  obtain ⟨hcl, _⟩ := List.getElem?_eq_some_iff.mp hc
  have hoB : ∀ a ∈ o.leaves, a < st.store.length := hB o (List.mem_of_getElem? hc)
  have push : ∀ (x : Ob) (ext : Store), (st.env ++ [x])[c]? = some o ∧
      readLeaves (st.store ++ ext) o.leaves = readLeaves st.store o.leaves :=
    fun _ _ => ⟨by rw [List.getElem?_append_left hcl]; exact hc, readLeaves_append_of_bound _ _ _ hoB⟩
  cases op with
  | new kind v => exact push _ _
  | build kind owning srcs derive =>
    obtain ⟨ext, ls, e, _⟩ := gather_spec st (fun _ => True) srcs st.store [] (fun _ _ _ _ _ _ _ => trivial)
    simp only [step, allocMany, obs, e, List.append_assoc]
    exact push _ _
  | write root k g =>
    simp only [step]
    cases hr : st.env[root]? with
    | none => exact ⟨hc, rfl⟩
    | some r =>
      simp only
      cases hk : r.leaves[k]? with
      | none => exact ⟨hc, rfl⟩
      | some a =>
        simp only [obs]
        refine ⟨hc, readLeaves_set_of_not_mem _ _ _ _ ?_⟩
        have hne : c ≠ root := fun e => ht (by simp [Op.target, e])
        intro ha
        exact hS c root o r hne hc hr ho a ha (List.mem_of_getElem? hk)
  | move root movedIdx g derive =>
    simp only [step]
    cases hr : st.env[root]? with
    | none => exact ⟨hc, rfl⟩
    | some r =>
      simp only [allocMany, obs]
      have hne : c ≠ root := fun e => ht (by simp [Op.target, e])
      refine ⟨by rw [List.getElem?_set_ne (Ne.symm hne)]; exact hc, ?_⟩
      have hmoved : ∀ a ∈ movedIdx.filterMap (fun k => r.leaves[k]?), a ∉ o.leaves := by
        intro a ha hao
        obtain ⟨k, _, hk⟩ := List.mem_filterMap.mp ha
        exact hS c root o r hne hc hr ho a hao (List.mem_of_getElem? hk)
      rw [readLeaves_append_of_bound _ _ _ (by intro a ha; rw [length_foldl_set]; exact hoB a ha)]
      exact readLeaves_foldl_set _ _ g hmoved _
  | copy root =>
    simp only [step]
    cases hr : st.env[root]? with
    | none => exact ⟨hc, rfl⟩
    | some r => exact push _ _
  | query => exact ⟨hc, rfl⟩
#print axioms step_frame

/-- the invariants survive replacing (or adding) the one root `k` by `o'` over a store that has only grown, provided every
    leaf of `o'` is a fresh cell, or a leaf of the old root `k` (with the same ownership), or — `o'` not owning — a leaf of no
    owning root -/
theorem inv_replace (st : State) (s' : Store) (env' : List Ob) (k : Nat) (o' : Ob) (hB : Bound st) (hS : Sep st)
    (hlen : st.store.length ≤ s'.length) (hk : env'[k]? = some o') (hne : ∀ i, i ≠ k → env'[i]? = st.env[i]?)
    (hl : ∀ a ∈ o'.leaves, a < s'.length ∧ (st.store.length ≤ a ∨
      (∃ r, st.env[k]? = some r ∧ r.owning = o'.owning ∧ a ∈ r.leaves) ∨
      (o'.owning = false ∧ ∀ (i : Nat) (oi : Ob), st.env[i]? = some oi → oi.owning = true → a ∉ oi.leaves))) :
    Bound ⟨s', env'⟩ ∧ Sep ⟨s', env'⟩ := by
  have old : ∀ {i : Nat} {oi : Ob}, i ≠ k → env'[i]? = some oi →
      st.env[i]? = some oi ∧ ∀ a ∈ oi.leaves, a < st.store.length :=
    fun hi h => have h' := hne _ hi ▸ h; ⟨h', hB _ (List.mem_of_getElem? h')⟩
  constructor
  · intro o ho a ha
    obtain ⟨i, hi⟩ := List.getElem?_of_mem ho
    by_cases hik : i = k
    · subst hik; cases hk.symm.trans hi; exact (hl a ha).1
    · exact lt_of_lt_of_le ((old hik hi).2 a ha) hlen
  · intro i j oi oj hij hi hj hown a hai haj
    by_cases hik : i = k
    · subst hik; cases hk.symm.trans hi
      obtain ⟨hj', hjB⟩ := old (Ne.symm hij) hj
      rcases (hl a hai).2 with h | ⟨r, hr, hro, har⟩ | ⟨hno, _⟩
      · exact absurd (hjB a haj) (by omega)
      · exact hS i j r oj hij hr hj' (hro ▸ hown) a har haj
      · rw [hno] at hown; cases hown
    · obtain ⟨hi', hiB⟩ := old hik hi
      by_cases hjk : j = k
      · subst hjk; cases hk.symm.trans hj
        rcases (hl a haj).2 with h | ⟨r, hr, _, har⟩ | ⟨_, h⟩
        · exact absurd (hiB a hai) (by omega)
        · exact hS i j oi r hij hi' hr hown a hai har
        · exact h i oi hi' hown hai
      · exact hS i j oi oj hij hi' (old hjk hj).1 hown a hai haj

/-- adding a root whose leaves avoid every owning object, and which — if owning — is entirely fresh,
    preserves the invariants -/
theorem inv_push (st : State) (s' : Store) (o : Ob) (hB : Bound st) (hS : Sep st) (hlen : st.store.length ≤ s'.length)
    (hl : ∀ a ∈ o.leaves, a < s'.length ∧ (st.store.length ≤ a ∨
      (o.owning = false ∧ ∀ (i : Nat) (oi : Ob), st.env[i]? = some oi → oi.owning = true → a ∉ oi.leaves))) :
    Bound ⟨s', st.env ++ [o]⟩ ∧ Sep ⟨s', st.env ++ [o]⟩ := by
  refine inv_replace st s' _ st.env.length o hB hS hlen (by simp) (fun i hi => ?_)
    (fun a ha => (hl a ha).imp_right (Or.imp_right Or.inr))
  rcases Nat.lt_or_gt_of_ne hi with h | h
  · exact List.getElem?_append_left h
  · rw [List.getElem?_eq_none (by simp; omega), List.getElem?_eq_none (by omega)]

theorem step_inv (st : State) (op : Op) (hB : Bound st) (hS : Sep st)
    (hd : op.disciplined = true) (hok : op.okAlias st) : Bound (step st op) ∧ Sep (step st op) := by
  cases op with
  | new kind v =>
    obtain ⟨_, hlen, hs⟩ := allocMany_spec st.store [v]
    exact inv_push st _ _ hB hS hlen fun a ha => ⟨(hs a ha).2, Or.inl (hs a ha).1⟩
  | build kind owning srcs derive =>
    -- a leaf of an aliased source lies in the old store, and in no owning root: the source itself is not owning
    -- (`hok`), and a leaf shared with another, owning root would contradict `Sep`
    obtain ⟨ext, ls, e, h3⟩ := gather_spec st (fun a => a < st.store.length ∧ owning = false ∧
        ∀ (i : Nat) (oi : Ob), st.env[i]? = some oi → oi.owning = true → a ∉ oi.leaves) srcs st.store [] (by
      intro p hp hpf o hoe a hao
      refine ⟨hB o (List.mem_of_getElem? hoe) a hao, ?_, fun i oi hi hown hai => ?_⟩
      · simp only [Op.disciplined, Bool.or_eq_true, Bool.not_eq_true', List.all_eq_true] at hd
        rcases hd with h | h
        · exact h
        · have := h p hp; rw [hpf] at this; cases this
      · have honon : o.owning = false := hok p hp hpf o hoe
        have hne : i ≠ p.1 := by
          intro e; rw [e, hoe] at hi; cases hi; rw [honon] at hown; cases hown
        exact hS i p.1 oi o hne hi hoe hown a hai hao)
    simp only [step, e, List.nil_append]
    obtain ⟨_, hlen, hs⟩ := allocMany_spec (st.store ++ ext) (derive (readLeaves (st.store ++ ext) ls))
    rw [List.length_append] at hlen hs h3
    refine inv_push st _ _ hB hS (by omega) fun a ha => ?_
    rcases List.mem_append.mp ha with h | h
    · rcases h3 a h with h' | ⟨hb, hP⟩
      · exact ⟨by omega, Or.inl h'.1⟩
      · exact ⟨by omega, Or.inr hP⟩
    · exact ⟨(hs a h).2, Or.inl (by have := (hs a h).1; omega)⟩
  | write root k g =>
    simp only [step]
    cases hr : st.env[root]? with
    | none => exact ⟨hB, hS⟩
    | some r =>
      simp only
      cases hk : r.leaves[k]? with
      | none => exact ⟨hB, hS⟩
      | some a =>
        simp only
        exact ⟨fun o ho b hb => by simpa using hB o ho b hb, hS⟩
  | move root movedIdx g derive =>
    simp only [step]
    cases hr : st.env[root]? with
    | none => exact ⟨hB, hS⟩
    | some r =>
      simp only
      set moved := movedIdx.filterMap (fun k => r.leaves[k]?)
      set s1 := moved.foldl (fun s a => s.set a (g (s.getD a (0,0,0)))) st.store
      have hlen1 : s1.length = st.store.length := length_foldl_set moved g st.store
      obtain ⟨_, hlen, hs⟩ := allocMany_spec s1 (derive (readLeaves s1 moved))
      rw [hlen1] at hlen hs
      obtain ⟨hrl, _⟩ := List.getElem?_eq_some_iff.mp hr
      refine inv_replace st _ _ root _ hB hS hlen
        (List.getElem?_set_self hrl) (fun i hi => List.getElem?_set_ne (Ne.symm hi)) (fun a ha => ?_)
      rcases List.mem_append.mp ha with h | h
      · obtain ⟨k, _, hk⟩ := List.mem_filterMap.mp h
        have hm := List.mem_of_getElem? hk
        exact ⟨by have := hB r (List.mem_of_getElem? hr) a hm; omega, Or.inr (Or.inl ⟨r, hr, rfl, hm⟩)⟩
      · exact ⟨(hs a h).2, Or.inl (hs a h).1⟩
  | copy root =>
    simp only [step]
    cases hr : st.env[root]? with
    | none => exact ⟨hB, hS⟩
    | some r =>
      obtain ⟨_, hlen, hs⟩ := allocMany_spec st.store (readLeaves st.store r.leaves)
      exact inv_push st _ _ hB hS hlen fun a ha => ⟨(hs a ha).2, Or.inl (hs a ha).1⟩
  | query => exact ⟨hB, hS⟩

/-- a history in which no operation mutates through root `c` -/
def GoodRun (c : Nat) : State → List Op → Prop
  | _, [] => True
  | st, op :: ops => op.disciplined = true ∧ op.okAlias st ∧ op.target ≠ some c ∧ GoodRun c (step st op) ops

/-- C20 (ownership): after ANY history of constructions, mutations of other objects, deep copies and
    queries, an owning composite still has exactly the observation it had -/
theorem run_frame (c : Nat) (o : Ob) (ho : o.owning = true) : ∀ (ops : List Op) (st : State),
    Bound st → Sep st → st.env[c]? = some o → GoodRun c st ops →
    (run st ops).env[c]? = some o ∧ obs (run st ops) o = obs st o := by
  intro ops
  induction ops with
  | nil => intro st _ _ hc _; exact ⟨hc, rfl⟩
  | cons op ops ih =>
    intro st hB hS hc hg
    obtain ⟨hd, hok, ht, hrest⟩ := hg
    obtain ⟨hB', hS'⟩ := step_inv st op hB hS hd hok
    obtain ⟨hc', hobs⟩ := step_frame st op hB hS c o hc ho ht
    obtain ⟨h1, h2⟩ := ih (step st op) hB' hS' hc' hrest
    -- `run st (op :: ops)` is `run (step st op) ops` by definition
    exact ⟨h1, h2.trans hobs⟩
#print axioms run_frame
end G3D.Heap
