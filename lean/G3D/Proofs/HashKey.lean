import G3D.Model.HashKey
import G3D.Proofs.Equality
import Mathlib.Tactic.Ring
import Mathlib.Tactic.Linarith
import Mathlib.Tactic.LinearCombination
import Mathlib.Tactic.FieldSimp

/-! C09: `a == b ⇒ hash(a) == hash(b)` (and the converse for the exact keys) for the flat primitives. -/
namespace G3D
open V3

/-! ### the sign function -/
theorem rsgn_of_pos {a : Rat} (h : 0 < a) : rsgn a = 1 := if_pos h

theorem rsgn_of_neg {a : Rat} (h : a < 0) : rsgn a = -1 := by rw [rsgn, if_neg (lt_asymm h), if_pos h]

theorem rsgn_zero : rsgn 0 = 0 := rfl

theorem rsgn_cases (a : Rat) : (0 < a ∧ rsgn a = 1) ∨ (a = 0 ∧ rsgn a = 0) ∨ (a < 0 ∧ rsgn a = -1) := by
  rcases lt_trichotomy 0 a with h | h | h
  · exact Or.inl ⟨h, rsgn_of_pos h⟩
  · exact Or.inr (Or.inl ⟨h.symm, h ▸ rsgn_zero⟩)
  · exact Or.inr (Or.inr ⟨h, rsgn_of_neg h⟩)

theorem rsgn_mul_abs (a : Rat) : (rsgn a : Rat) * |a| = a := by
  rcases rsgn_cases a with ⟨h, e⟩ | ⟨h, e⟩ | ⟨h, e⟩ <;> rw [e]
  · rw [abs_of_pos h]; norm_num
  · rw [h]; norm_num
  · rw [abs_of_neg h]; norm_num

theorem rsgn_eq_mul_nonneg {a b : Rat} (h : rsgn a = rsgn b) : 0 ≤ a * b := by
  rw [← rsgn_mul_abs a, ← rsgn_mul_abs b, h, mul_mul_mul_comm]
  exact mul_nonneg (mul_self_nonneg _) (mul_nonneg (abs_nonneg a) (abs_nonneg b))

theorem rsgn_mul_pos {k : Rat} (hk : 0 < k) (a : Rat) : rsgn (k * a) = rsgn a := by
  rcases rsgn_cases a with ⟨ha, ea⟩ | ⟨ha, ea⟩ | ⟨ha, ea⟩
  · rw [ea, rsgn_of_pos (mul_pos hk ha)]
  · rw [ha, mul_zero]
  · rw [ea, rsgn_of_neg (mul_neg_of_pos_of_neg hk ha)]

theorem rsgn_neg (a : Rat) : rsgn (-a) = - rsgn a := by
  rcases rsgn_cases a with ⟨ha, ea⟩ | ⟨ha, ea⟩ | ⟨ha, ea⟩
  · rw [ea, rsgn_of_neg (neg_neg_of_pos ha)]
  · rw [ha, neg_zero]; rfl
  · rw [ea, rsgn_of_pos (neg_pos.mpr ha)]; rfl

theorem rsgn_eq_zero_iff (a : Rat) : rsgn a = 0 ↔ a = 0 :=
  ⟨fun h => by rw [← rsgn_mul_abs a, h]; simp, fun h => h ▸ rsgn_zero⟩

theorem rsgn_lt_zero_iff (a : Rat) : rsgn a < 0 ↔ a < 0 := by
  rcases rsgn_cases a with ⟨ha, ea⟩ | ⟨ha, ea⟩ | ⟨ha, ea⟩ <;> rw [ea] <;> simp [ha, not_lt_of_gt]

theorem eq_of_sq_eq_of_mul_nonneg {x y : Rat} (h : x * x = y * y) (hxy : 0 ≤ x * y) : x = y := by
  rcases mul_self_eq_mul_self_iff.mp h with e | e
  · exact e
  · rw [e, neg_mul] at hxy
    rw [e, mul_self_eq_zero.mp (le_antisymm (neg_nonneg.mp hxy) (mul_self_nonneg y)), neg_zero]

theorem cross_mul_eq {a b c d : Rat} (hab : 0 ≤ a * b) (hcd : 0 ≤ c * d)
    (h : (a * d) * (a * d) = (c * b) * (c * b)) : a * d = c * b :=
  eq_of_sq_eq_of_mul_nonneg h (by rw [show a * d * (c * b) = a * b * (c * d) by ring]; exact mul_nonneg hab hcd)

/-! ### representatives of scalars and unit vectors -/
theorem scalKey_smul {k : Rat} (hk : 0 < k) (d N : Rat) : scalKey (k * d) (k * k * N) = scalKey d N := by
  unfold scalKey
  rw [rsgn_mul_pos hk]
  congr 1
  have : k * d * (k * d) = (k * k) * (d * d) := by ring
  rw [this]
  exact mul_div_mul_left _ _ (ne_of_gt (mul_pos hk hk))

theorem scalKey_eq_iff {d e N M : Rat} (hN : 0 < N) (hM : 0 < M) :
    scalKey d N = scalKey e M ↔ rsgn d = rsgn e ∧ d * d * M = e * e * N := by
  unfold scalKey
  rw [Prod.mk.injEq, div_eq_div_iff (ne_of_gt hN) (ne_of_gt hM)]

theorem normSq_smul (k : Rat) (v : V3) : normSq (smul k v) = k * k * normSq v := by
  simp only [normSq, dot, smul]; ring

theorem smul_ne_zero {k : Rat} {v : V3} (hk : k ≠ 0) (hv : v ≠ zero) : smul k v ≠ zero :=
  fun h => hv (smul_eq_zero_of_ne hk h)

/-- the key of `v/|v|` determines `v` up to a positive factor -/
theorem unitKey_eq_iff {u v : V3} (hu : u ≠ zero) (hv : v ≠ zero) :
    unitKey u = unitKey v ↔ ∃ k : Rat, 0 < k ∧ u = smul k v := by
  constructor
  · intro h
    have hN := normSq_pos hu
    have hM := normSq_pos hv
    unfold unitKey at h
    simp only [Prod.mk.injEq, scalKey_eq_iff hN hM] at h
    obtain ⟨⟨sx, ex⟩, ⟨sy, ey⟩, ⟨sz, ez⟩⟩ := h
    have px := rsgn_eq_mul_nonneg sx
    have py := rsgn_eq_mul_nonneg sy
    have pz := rsgn_eq_mul_nonneg sz
    have cancel : ∀ p q : Rat, p * normSq v = q * normSq v → p = q :=
      fun p q hpq => mul_right_cancel₀ (ne_of_gt hM) hpq
    have hxy : u.x * v.y = u.y * v.x := cross_mul_eq px py (cancel _ _ (by
      linear_combination (v.y * v.y) * ex - (v.x * v.x) * ey))
    have hyz : u.y * v.z = u.z * v.y := cross_mul_eq py pz (cancel _ _ (by
      linear_combination (v.z * v.z) * ey - (v.y * v.y) * ez))
    have hzx : u.z * v.x = u.x * v.z := cross_mul_eq pz px (cancel _ _ (by
      linear_combination (v.x * v.x) * ez - (v.z * v.z) * ex))
    have hc : cross u v = zero := V3.ext' (sub_eq_zero.mpr hyz) (sub_eq_zero.mpr hzx) (sub_eq_zero.mpr hxy)
    have hk := eq_smul_of_cross_eq_zero hv hc
    have hk0 : dot u v / normSq v ≠ 0 := smul_ne_zero_left (by rw [← hk]; exact hu)
    refine ⟨_, ?_, hk⟩
    exact lt_of_le_of_ne (div_nonneg (add_nonneg (add_nonneg px py) pz) hM.le) (Ne.symm hk0)
  · rintro ⟨k, hk, rfl⟩
    unfold unitKey
    rw [normSq_smul]
    simp only [smul, scalKey_smul hk]
#print axioms unitKey_eq_iff

/-! ### the canonical orientation -/
theorem neg_eq_smul (v : V3) : neg v = smul (-1) v := by
  apply V3.ext' <;> simp only [neg, smul] <;> ring

theorem firstSign_smul_pos {k : Rat} (hk : 0 < k) (v : V3) : firstSign (smul k v) = firstSign v := by
  have hk0 : k ≠ 0 := ne_of_gt hk
  unfold firstSign
  simp only [smul, rsgn_mul_pos hk, ne_eq, mul_eq_zero, hk0, false_or]

theorem firstSign_neg (v : V3) : firstSign (neg v) = - firstSign v := by
  unfold firstSign
  simp only [neg, rsgn_neg, ne_eq, neg_eq_zero]
  split_ifs <;> rfl

theorem firstSign_ne_zero {v : V3} (hv : v ≠ zero) : firstSign v ≠ 0 := by
  unfold firstSign
  intro h
  apply hv
  split_ifs at h with hx hy
  · exact absurd ((rsgn_eq_zero_iff _).mp h) hx
  · exact absurd ((rsgn_eq_zero_iff _).mp h) hy
  · have hz := (rsgn_eq_zero_iff _).mp h
    simp only [ne_eq, not_not] at hx hy
    exact V3.ext' hx hy hz

theorem V3.smul_smul (a b : Rat) (v : V3) : smul a (smul b v) = smul (a * b) v :=
  V3.ext' (mul_assoc ..).symm (mul_assoc ..).symm (mul_assoc ..).symm

theorem canon_eq_smul (v : V3) : ∃ s : Rat, s * s = 1 ∧ canon v = smul s v := by
  unfold canon; split_ifs
  · exact ⟨-1, by norm_num, neg_eq_smul v⟩
  · exact ⟨1, one_mul 1, (V3.one_smul v).symm⟩

theorem negV_ne_zero {v : V3} (hv : v ≠ zero) : neg v ≠ zero := by
  rw [neg_eq_smul]; exact smul_ne_zero (by norm_num) hv

theorem canon_ne_zero {v : V3} (hv : v ≠ zero) : canon v ≠ zero := by
  obtain ⟨s, hs, e⟩ := canon_eq_smul v
  rw [e]; exact smul_ne_zero (left_ne_zero_of_mul_eq_one hs) hv

theorem normSq_canon (v : V3) : normSq (canon v) = normSq v := by
  obtain ⟨s, hs, e⟩ := canon_eq_smul v
  rw [e, normSq_smul, hs, one_mul]

theorem canon_smul_pos {k : Rat} (hk : 0 < k) (v : V3) : canon (smul k v) = smul k (canon v) := by
  unfold canon
  rw [firstSign_smul_pos hk]
  split_ifs
  · apply V3.ext' <;> simp only [neg, smul] <;> ring
  · rfl

theorem canon_neg {v : V3} (hv : v ≠ zero) : canon (neg v) = canon v := by
  have h0 := firstSign_ne_zero hv
  unfold canon
  rw [firstSign_neg]
  by_cases h : firstSign v < 0
  · rw [if_pos h, if_neg (by omega)]
  · rw [if_neg h, if_pos (by omega)]
    apply V3.ext' <;> simp only [neg] <;> ring

/-- a non-zero multiple has the same canonical orientation up to the positive factor `|k|` -/
theorem canon_smul {k : Rat} (hk : k ≠ 0) {v : V3} (hv : v ≠ zero) :
    ∃ m : Rat, 0 < m ∧ m * m = k * k ∧ canon (smul k v) = smul m (canon v) := by
  rcases lt_or_gt_of_ne hk with h | h
  · have hk' := neg_pos.mpr h
    refine ⟨-k, hk', neg_mul_neg k k, ?_⟩
    have : smul k v = neg (smul (-k) v) := by apply V3.ext' <;> simp only [neg, smul] <;> ring
    rw [this, canon_neg (smul_ne_zero hk'.ne' hv), canon_smul_pos hk']
  · exact ⟨k, h, rfl, canon_smul_pos h v⟩

/-- the key of the canonical unit direction determines `v` up to a non-zero factor -/
theorem canonKey_eq_iff {u v : V3} (hu : u ≠ zero) (hv : v ≠ zero) :
    unitKey (canon u) = unitKey (canon v) ↔ ∃ k : Rat, k ≠ 0 ∧ u = smul k v := by
  rw [unitKey_eq_iff (canon_ne_zero hu) (canon_ne_zero hv)]
  constructor
  · rintro ⟨k, hk, h⟩
    obtain ⟨s1, h1, e1⟩ := canon_eq_smul u
    obtain ⟨s2, h2, e2⟩ := canon_eq_smul v
    refine ⟨s1 * (k * s2), mul_ne_zero (left_ne_zero_of_mul_eq_one h1)
      (mul_ne_zero hk.ne' (left_ne_zero_of_mul_eq_one h2)), ?_⟩
    rw [← V3.smul_smul, ← V3.smul_smul, ← e2, ← h, e1, V3.smul_smul, h1, V3.one_smul]
  · rintro ⟨k, hk, rfl⟩
    obtain ⟨m, hm, _, e⟩ := canon_smul hk hv
    exact ⟨m, hm, e⟩
#print axioms canonKey_eq_iff

/-! ### Point -/
theorem Point.hashKey_eq_iff (p q : V3) : p = q ↔ Point.hashKey p = Point.hashKey q := Iff.rfl

/-- the literal hashed tuple carries the same information as the key -/
theorem Point.hashTuple_eq_iff (p q : V3) : Point.hashTuple p = Point.hashTuple q ↔ Point.hashKey p = Point.hashKey q := by
  unfold Point.hashTuple Point.hashKey
  constructor
  · intro h
    simp only [Prod.mk.injEq] at h
    exact V3.ext' h.1 h.2.1 h.2.2.1
  · rintro rfl; rfl

/-! ### Line -/
theorem Line.foot_reparam (sv dv : V3) (hd : dv ≠ zero) (t k : Rat) (hk : k ≠ 0) :
    Line.foot ⟨add sv (smul t dv), smul k dv⟩ = Line.foot ⟨sv, dv⟩ := by
  have hN : normSq dv ≠ 0 := ne_of_gt (normSq_pos hd)
  unfold Line.foot
  simp only
  have hc : dot (add sv (smul t dv)) (smul k dv) / normSq (smul k dv) * k = dot sv dv / normSq dv + t := by
    rw [normSq_smul]
    have : dot (add sv (smul t dv)) (smul k dv) = k * (dot sv dv + t * normSq dv) := by
      simp only [dot, add, smul, normSq]; ring
    rw [this]; field_simp
  generalize dot (add sv (smul t dv)) (smul k dv) / normSq (smul k dv) = c' at hc ⊢
  generalize dot sv dv / normSq dv = c at hc ⊢
  apply V3.ext' <;> simp only [sub, add, smul]
  · linear_combination (-dv.x) * hc
  · linear_combination (-dv.y) * hc
  · linear_combination (-dv.z) * hc

/-- `Line.__eq__` true iff equal hash keys (in particular `a == b ⇒ hash(a) == hash(b)`) -/
theorem Line.eqv_iff_hashKey (l o : Line) (hl : l.WF) (ho : o.WF) :
    l.eqv o = true ↔ Line.hashKey l = Line.hashKey o := by
  unfold Line.eqv Line.hashKey
  rw [Bool.and_eq_true, Line.contains_iff l hl, parallel_iff_cross, Prod.mk.injEq]
  constructor
  · rintro ⟨⟨t, ht⟩, hpar⟩
    have hk := eq_smul_of_cross_eq_zero hl hpar
    generalize dot o.dv l.dv / normSq l.dv = k at hk
    have hk0 : k ≠ 0 := smul_ne_zero_left (by rw [← hk]; exact ho)
    constructor
    · exact ((canonKey_eq_iff ho hl).mpr ⟨k, hk0, hk⟩).symm
    · have e : o.foot = Line.foot ⟨add l.sv (smul t l.dv), smul k l.dv⟩ := by
        unfold Line.foot; simp only; rw [← ht, ← hk]
      rw [e, Line.foot_reparam _ _ hl t k hk0]
  · rintro ⟨hkey, hfoot⟩
    obtain ⟨k, hk0, hk⟩ := (canonKey_eq_iff hl ho).mp hkey
    constructor
    · unfold Line.foot at hfoot
      generalize dot l.sv l.dv / normSq l.dv = a at hfoot
      generalize dot o.sv o.dv / normSq o.dv = b at hfoot
      obtain ⟨t, ht⟩ : ∃ t : Rat, t * k = b - a * k := ⟨(b - a * k) / k, div_mul_cancel₀ _ hk0⟩
      have hx := congrArg V3.x hfoot; have hy := congrArg V3.y hfoot; have hz := congrArg V3.z hfoot
      have hx' := congrArg V3.x hk; have hy' := congrArg V3.y hk; have hz' := congrArg V3.z hk
      simp only [sub, smul] at hx hy hz hx' hy' hz'
      refine ⟨t, ?_⟩
      apply V3.ext' <;> simp only [add, smul]
      · linear_combination (-1) * hx + (-(t + a)) * hx' + (-o.dv.x) * ht
      · linear_combination (-1) * hy + (-(t + a)) * hy' + (-o.dv.y) * ht
      · linear_combination (-1) * hz + (-(t + a)) * hz' + (-o.dv.z) * ht
    · rw [hk]; apply V3.ext' <;> simp only [cross, smul, zero] <;> ring
#print axioms Line.eqv_iff_hashKey

theorem Line.eqv_refl (l : Line) (hl : l.WF) : l.eqv l = true :=
  (Line.eqv_iff_hashKey l l hl hl).mpr rfl

theorem Line.eqv_comm (l o : Line) (hl : l.WF) (ho : o.WF) : l.eqv o = o.eqv l := by
  rw [Bool.eq_iff_iff, Line.eqv_iff_hashKey l o hl ho, Line.eqv_iff_hashKey o l ho hl]
  exact eq_comm

theorem Line.eqv_trans (a b c : Line) (ha : a.WF) (hb : b.WF) (hc : c.WF)
    (h1 : a.eqv b = true) (h2 : b.eqv c = true) : a.eqv c = true :=
  (Line.eqv_iff_hashKey a c ha hc).mpr
    (((Line.eqv_iff_hashKey a b ha hb).mp h1).trans ((Line.eqv_iff_hashKey b c hb hc).mp h2))

/-! ### Plane -/
/-- flipping `n` and `d = n·p` together is `d = canon(n)·p` -/
theorem Plane.canonD_eq (pl : Plane) : pl.canonD = dot (canon pl.n) pl.p := by
  unfold Plane.canonD canon; split_ifs
  · simp only [dot, neg]; ring
  · rfl

/-- `Plane.__eq__` true iff equal hash keys (in particular `a == b ⇒ hash(a) == hash(b)`) -/
theorem Plane.eqv_iff_hashKey (a b : Plane) (ha : a.WF) (hb : b.WF) :
    a.eqv b = true ↔ Plane.hashKey a = Plane.hashKey b := by
  unfold Plane.eqv Plane.hashKey
  rw [Bool.and_eq_true, parallel_iff_cross, Prod.mk.injEq, Plane.canonD_eq, Plane.canonD_eq]
  simp only [Plane.contains, beq_iff_eq]
  constructor
  · rintro ⟨hp, hc⟩
    have hk := eq_smul_of_cross_eq_zero hb hc
    generalize dot a.n b.n / normSq b.n = k at hk
    have hk0 : k ≠ 0 := smul_ne_zero_left (by rw [← hk]; exact ha)
    obtain ⟨m, hm, hmk, hcan⟩ := canon_smul hk0 hb
    rw [hk, hcan, normSq_smul, ← hmk]
    constructor
    · exact (unitKey_eq_iff (smul_ne_zero hm.ne' (canon_ne_zero hb)) (canon_ne_zero hb)).mpr ⟨m, hm, rfl⟩
    · obtain ⟨s, -, e⟩ := canon_eq_smul b.n
      have : dot (smul m (canon b.n)) a.p = m * dot (canon b.n) b.p := by
        rw [e]; simp only [dot, smul] at hp ⊢; linear_combination (m * s) * hp
      rw [this, scalKey_smul hm]
  · rintro ⟨hkey, hd⟩
    obtain ⟨m, hm, hcan⟩ := (unitKey_eq_iff (canon_ne_zero ha) (canon_ne_zero hb)).mp hkey
    have hN : normSq a.n = m * m * normSq b.n := by
      rw [← normSq_canon a.n, hcan, normSq_smul, normSq_canon]
    rw [scalKey_eq_iff (normSq_pos ha) (normSq_pos hb)] at hd
    obtain ⟨hs, hsq⟩ := hd
    have hda : dot (canon a.n) a.p = m * dot (canon b.n) b.p := by
      refine eq_of_sq_eq_of_mul_nonneg ?_ (rsgn_eq_mul_nonneg (by rw [rsgn_mul_pos hm]; exact hs))
      rw [hN] at hsq
      apply mul_right_cancel₀ (ne_of_gt (normSq_pos hb))
      linear_combination hsq
    constructor
    · obtain ⟨s, hs1, e⟩ := canon_eq_smul b.n
      rw [hcan, e] at hda
      apply mul_left_cancel₀ (mul_ne_zero hm.ne' (left_ne_zero_of_mul_eq_one hs1))
      simp only [dot, smul] at hda ⊢
      linear_combination hda
    · obtain ⟨k, _, hk⟩ := (canonKey_eq_iff ha hb).mp hkey
      rw [hk]; apply V3.ext' <;> simp only [cross, smul, zero] <;> ring
#print axioms Plane.eqv_iff_hashKey

theorem Plane.eqv_refl (a : Plane) (ha : a.WF) : a.eqv a = true :=
  (Plane.eqv_iff_hashKey a a ha ha).mpr rfl

theorem Plane.eqv_comm (a b : Plane) (ha : a.WF) (hb : b.WF) : a.eqv b = b.eqv a := by
  rw [Bool.eq_iff_iff, Plane.eqv_iff_hashKey a b ha hb, Plane.eqv_iff_hashKey b a hb ha]
  exact eq_comm

theorem Plane.eqv_trans (a b c : Plane) (ha : a.WF) (hb : b.WF) (hc : c.WF)
    (h1 : a.eqv b = true) (h2 : b.eqv c = true) : a.eqv c = true :=
  (Plane.eqv_iff_hashKey a c ha hc).mpr
    (((Plane.eqv_iff_hashKey a b ha hb).mp h1).trans ((Plane.eqv_iff_hashKey b c hb hc).mp h2))

/-! ### Segment -/
theorem V3.lexLe_iff (a b : V3) : V3.lexLe a b = true ↔
    (a.x < b.x ∨ (a.x = b.x ∧ (a.y < b.y ∨ (a.y = b.y ∧ a.z ≤ b.z)))) := by
  simp only [V3.lexLe, Bool.or_eq_true, Bool.and_eq_true, decide_eq_true_eq, beq_iff_eq]

theorem V3.lexLe_total (a b : V3) : V3.lexLe a b = true ∨ V3.lexLe b a = true := by
  rw [V3.lexLe_iff, V3.lexLe_iff]
  rcases lt_trichotomy a.x b.x with hx | hx | hx
  · left; left; exact hx
  · rcases lt_trichotomy a.y b.y with hy | hy | hy
    · left; right; exact ⟨hx, Or.inl hy⟩
    · rcases le_total a.z b.z with hz | hz
      · left; right; exact ⟨hx, Or.inr ⟨hy, hz⟩⟩
      · right; right; exact ⟨hx.symm, Or.inr ⟨hy.symm, hz⟩⟩
    · right; right; exact ⟨hx.symm, Or.inl hy⟩
  · right; left; exact hx

theorem V3.lexLe_antisymm {a b : V3} (h1 : V3.lexLe a b = true) (h2 : V3.lexLe b a = true) : a = b := by
  rw [V3.lexLe_iff] at h1 h2
  rcases h1 with h | ⟨hx, h | ⟨hy, hz⟩⟩ <;> rcases h2 with g | ⟨gx, g | ⟨gy, gz⟩⟩ <;>
    first | (exfalso; linarith) | exact V3.ext' hx hy (le_antisymm hz gz)

/-- `Segment.__eq__` (model `Seg.same`) true iff equal hash keys; no well-formedness needed -/
theorem Seg.same_iff_hashKey (s o : Seg) : s.same o = true ↔ Seg.hashKey s = Seg.hashKey o := by
  unfold Seg.same Seg.hashKey Point.hashKey
  simp only [Bool.or_eq_true, Bool.and_eq_true, beq_iff_eq]
  constructor
  · rintro (⟨h1, h2⟩ | ⟨h1, h2⟩)
    · rw [h1, h2]
    · rw [← h1, ← h2]
      by_cases c1 : V3.lexLe s.a s.b = true <;> by_cases c2 : V3.lexLe s.b s.a = true
      · have := V3.lexLe_antisymm c1 c2; rw [this]
      · rw [if_pos c1, if_neg c2]
      · rw [if_neg c1, if_pos c2]
      · exact absurd (V3.lexLe_total s.a s.b) (by simp [c1, c2])
  · intro h
    split_ifs at h <;> simp only [Prod.mk.injEq] at h
    · exact Or.inl h
    · exact Or.inr ⟨h.2, h.1⟩
    · exact Or.inr ⟨h.1, h.2⟩
    · exact Or.inl ⟨h.2, h.1⟩
#print axioms Seg.same_iff_hashKey

theorem Seg.eqv_eq_same (s o : Seg) : s.eqv o = s.same o := rfl

theorem Seg.eqv_iff_hashKey (s o : Seg) : s.eqv o = true ↔ Seg.hashKey s = Seg.hashKey o :=
  Seg.same_iff_hashKey s o

/-- the relational form of the key ("same unordered pair of end-point keys") is `Segment.__eq__` -/
theorem Seg.same_eq_sameKey (s o : Seg) : s.same o = s.sameKey o := by
  unfold Seg.same Seg.sameKey Point.hashKey
  rw [Bool.and_comm (s.b == o.a)]

theorem Seg.sameKey_iff_hashKey (s o : Seg) : s.sameKey o = true ↔ Seg.hashKey s = Seg.hashKey o := by
  rw [← Seg.same_eq_sameKey]; exact Seg.same_iff_hashKey s o

theorem Seg.same_refl (s : Seg) : s.same s = true := (Seg.same_iff_hashKey s s).mpr rfl

theorem Seg.same_comm (s o : Seg) : s.same o = o.same s := by
  rw [Bool.eq_iff_iff, Seg.same_iff_hashKey, Seg.same_iff_hashKey]; exact eq_comm

theorem Seg.same_trans (a b c : Seg) (h1 : a.same b = true) (h2 : b.same c = true) : a.same c = true :=
  (Seg.same_iff_hashKey a c).mpr (((Seg.same_iff_hashKey a b).mp h1).trans ((Seg.same_iff_hashKey b c).mp h2))

/-! ### HalfLine -/
/-- `HalfLine.__eq__` (model `HalfLine.eqv`: same origin, positively parallel directions) true iff
    equal hash keys -/
theorem HalfLine.eqv_iff_hashKey (h o : HalfLine) (hh : h.WF) (ho : o.WF) :
    h.eqv o = true ↔ HalfLine.hashKey h = HalfLine.hashKey o := by
  unfold HalfLine.eqv HalfLine.hashKey Point.hashKey
  simp only [Bool.and_eq_true, beq_iff_eq, decide_eq_true_eq, Prod.mk.injEq]
  rw [unitKey_eq_iff hh.1 ho.1, and_assoc, pos_parallel_iff ho.1]
#print axioms HalfLine.eqv_iff_hashKey

theorem HalfLine.eqv_refl (h : HalfLine) (hh : h.WF) : h.eqv h = true :=
  (HalfLine.eqv_iff_hashKey h h hh hh).mpr rfl

theorem HalfLine.eqv_comm (h o : HalfLine) (hh : h.WF) (ho : o.WF) : h.eqv o = o.eqv h := by
  rw [Bool.eq_iff_iff, HalfLine.eqv_iff_hashKey h o hh ho, HalfLine.eqv_iff_hashKey o h ho hh]
  exact eq_comm

theorem HalfLine.eqv_trans (a b c : HalfLine) (ha : a.WF) (hb : b.WF) (hc : c.WF)
    (h1 : a.eqv b = true) (h2 : b.eqv c = true) : a.eqv c = true :=
  (HalfLine.eqv_iff_hashKey a c ha hc).mpr
    (((HalfLine.eqv_iff_hashKey a b ha hb).mp h1).trans ((HalfLine.eqv_iff_hashKey b c hb hc).mp h2))

/-! ### equal keys iff equal point sets (combining with C08) -/
theorem Line.hashKey_iff_den (l o : Line) (hl : l.WF) (ho : o.WF) :
    Line.hashKey l = Line.hashKey o ↔ ∀ x, l.den x ↔ o.den x :=
  (Line.eqv_iff_hashKey l o hl ho).symm.trans (Line.eqv_iff l o hl ho)
theorem Plane.hashKey_iff_den (a b : Plane) (ha : a.WF) (hb : b.WF) :
    Plane.hashKey a = Plane.hashKey b ↔ ∀ x, a.den x ↔ b.den x :=
  (Plane.eqv_iff_hashKey a b ha hb).symm.trans (Plane.eqv_iff a b ha hb)
theorem Seg.hashKey_iff_den (s o : Seg) (hs : s.WF) (ho : o.WF) :
    Seg.hashKey s = Seg.hashKey o ↔ ∀ x, s.den x ↔ o.den x :=
  (Seg.eqv_iff_hashKey s o).symm.trans (Seg.eqv_iff s o hs ho)
theorem HalfLine.hashKey_iff_den (h o : HalfLine) (hh : h.WF) (ho : o.WF) :
    HalfLine.hashKey h = HalfLine.hashKey o ↔ ∀ x, h.den x ↔ o.den x :=
  (HalfLine.eqv_iff_hashKey h o hh ho).symm.trans (HalfLine.eqv_iff h o hh ho)
#print axioms Line.hashKey_iff_den
#print axioms Plane.hashKey_iff_den
#print axioms Seg.hashKey_iff_den
#print axioms HalfLine.hashKey_iff_den

/-! ### concrete checks of the key model -/
-- same line, different support point, opposite and rescaled direction
example : Line.hashKey ⟨⟨0, 0, 0⟩, ⟨1, 2, 3⟩⟩ = Line.hashKey ⟨⟨-2, -4, -6⟩, ⟨-3, -6, -9⟩⟩ := by decide +kernel
-- parallel, different lines
example : Line.hashKey ⟨⟨0, 0, 0⟩, ⟨1, 2, 3⟩⟩ ≠ Line.hashKey ⟨⟨1, 0, 0⟩, ⟨1, 2, 3⟩⟩ := by decide +kernel
-- same plane, opposite rescaled normal, different base point
example : Plane.hashKey ⟨⟨0, 0, 1⟩, ⟨0, 0, 2⟩⟩ = Plane.hashKey ⟨⟨5, 7, 1⟩, ⟨0, 0, -3⟩⟩ := by decide +kernel
-- mirror planes z = 1 and z = -1 are told apart by the sign of `d`
example : Plane.hashKey ⟨⟨0, 0, 1⟩, ⟨0, 0, 1⟩⟩ ≠ Plane.hashKey ⟨⟨0, 0, -1⟩, ⟨0, 0, 1⟩⟩ := by decide +kernel
-- reversed segment
example : Seg.hashKey (Seg.mk' ⟨1, 0, 0⟩ ⟨0, 1, 0⟩) = Seg.hashKey (Seg.mk' ⟨0, 1, 0⟩ ⟨1, 0, 0⟩) := by decide +kernel
-- half-lines: rescaled direction is the same, opposite direction is not
example : HalfLine.hashKey (HalfLine.mk' ⟨1, 1, 1⟩ ⟨1, -2, 0⟩) = HalfLine.hashKey (HalfLine.mk' ⟨1, 1, 1⟩ ⟨3, -6, 0⟩) := by
  decide +kernel
example : HalfLine.hashKey (HalfLine.mk' ⟨1, 1, 1⟩ ⟨1, -2, 0⟩) ≠ HalfLine.hashKey (HalfLine.mk' ⟨1, 1, 1⟩ ⟨-1, 2, 0⟩) := by
  decide +kernel

end G3D
