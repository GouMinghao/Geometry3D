import G3D.Model.PyRtM
import G3D.Proofs.HandlersTieBase
import G3D.Proofs.Flat
import G3D.Proofs.HandlersTieShared
/-! Generic lemmas about the additions `G3D.Model.PyRtM` to the Python runtime, shared by the tie modules
    `MethodsTie{Flat,Polygon,Polyhedron}` (which do not import each other): the evaluation rules of the primitives on
    constructor-headed operands (simp set `pyrt`, as for `PyRt` in `HandlersTieBase`), and the loop shapes the translator
    produces, as list functions. -/
namespace G3D.Tie
open V3 PyRt

@[pyrt] theorem pyFld_some (v : Val) : pyFld (some v) = .ok v := rfl
@[pyrt] theorem pyIsInstance_vec (v : V3) (t : PyTy) : pyIsInstance (.vec v) t = .bool (decide (t = .Vector)) := by cases t <;> rfl
@[pyrt] theorem pyIsInstance_bool (b : Bool) (t : PyTy) : pyIsInstance (.bool b) t = .bool false := by cases t <;> rfl
@[pyrt] theorem pyIsInstance_seq (l : List Obj) (t : PyTy) : pyIsInstance (.seq l) t = .bool false := by cases t <;> rfl

@[pyrt high] theorem pyAnd_bool (a b : Bool) : pyAnd (.ok (.bool a)) (.ok (.bool b)) = .ok (.bool (a && b)) := by cases a <;> rfl
@[pyrt high] theorem pyOr_bool (a b : Bool) : pyOr (.ok (.bool a)) (.ok (.bool b)) = .ok (.bool (a || b)) := by cases a <;> rfl

@[pyrt] theorem pyIsInstance_obj_vector (o : Obj) : pyIsInstance (.obj o) .Vector = .bool false := by
  rcases o with g | P | B
  · cases g <;> rfl
  · rfl
  · rfl

section rules
variable (p q u v : V3) (l : Line) (a : Plane) (s t : Seg) (h g : HalfLine) (P : Polygon) (x y : Rat) (n m : Int)
  (op : CmpOp) (b : Bool)

attribute [pyrt] ptObj lnObj plObj sgObj pyVectorZero Self.empty Self.ofLine Self.ofPlane Self.ofSeg Self.ofHalfLine
/-! a primitive defined by patterns is evaluated by its own equations (`f.eq_k`: the k-th alternative of `f`); the catch-all
    alternatives carry side conditions and are left out, so that nothing is tried on a variable under a binder -/
attribute [pyrt] pyMeth_pv.eq_1 pyPoint1.eq_1 pyAttr_sv.eq_1 pyAttr_dv.eq_1 pyAttr_p.eq_1 pyAttr_n.eq_1 pyAttr_center_point.eq_1
  pyAttr_vector.eq_1 pyAttrM_x.eq_1 pyAttrM_y.eq_1 pyAttrM_z.eq_1 pyMeth_normalized.eq_1 pyMeth_normSq.eq_1 pyNegM.eq_3
  pyNegM.eq_5
@[pyrt] theorem pyPack_Line_mk : pyPack_Line { f_sv := some (.vec u), f_dv := some (.vec v) } = .ok (.obj (.flat (.line ⟨u, v⟩))) := rfl
@[pyrt] theorem pyPack_Plane_mk :
    pyPack_Plane { f_p := some (.obj (.flat (.point p))), f_n := some (.vec v) } = .ok (.obj (.flat (.plane ⟨p, v⟩))) := rfl
@[pyrt] theorem pyPack_Segment_mk :
    pyPack_Segment { f_line := some (.obj (.flat (.line l))), f_start_point := some (.obj (.flat (.point p))),
                     f_end_point := some (.obj (.flat (.point q))) } = .ok (.obj (.flat (.seg ⟨p, q, l⟩))) := rfl
@[pyrt] theorem pyPack_HalfLine_mk :
    pyPack_HalfLine { f_line := some (.obj (.flat (.line l))), f_point := some (.obj (.flat (.point p))),
                      f_vector := some (.vec v) } = .ok (.obj (.flat (.halfline ⟨p, v, l⟩))) := rfl
@[pyrt] theorem pySub_vec : pySub (.vec u) (.vec v) = .ok (.vec (sub u v)) := rfl
@[pyrt] theorem pySub_int : pySub (.int n) (.int m) = .ok (.int (n - m)) := rfl
@[pyrt] theorem pyAdd_int : pyAdd (.int n) (.int m) = .ok (.int (n + m)) := rfl
@[pyrt] theorem pyEqM_int : pyEqM (.int n) (.int m) = .ok (.bool (n == m)) := rfl
@[pyrt] theorem pySub_num : pySub (.num x) (.num y) = .ok (.num (x - y)) := rfl
@[pyrt] theorem pyAdd_vec : pyAdd (.vec u) (.vec v) = .ok (.vec (add u v)) := rfl
@[pyrt] theorem pyAdd_num : pyAdd (.num x) (.num y) = .ok (.num (x + y)) := rfl
@[pyrt] theorem pyAdd_int_num : pyAdd (.int n) (.num y) = .ok (.num (n + y)) := rfl
@[pyrt] theorem pyFloat_int : pyFloat (.int n) = .ok (.num n) := rfl
@[pyrt] theorem pyFloat_num : pyFloat (.num x) = .ok (.num x) := rfl
@[pyrt] theorem pyDiv_int_int : pyDiv (.int n) (.int m) = if (m : Rat) = 0 then .error (.ctor .zeroDiv) else .ok (.num (n / m)) := rfl
@[pyrt] theorem pyDiv_num_int : pyDiv (.num x) (.int m) = if (m : Rat) = 0 then .error (.ctor .zeroDiv) else .ok (.num (x / m)) := rfl
@[pyrt] theorem pyPoint3_num (z : Rat) : pyPoint3 (.num x) (.num y) (.num z) = .ok (.obj (.flat (.point ⟨x, y, z⟩))) := rfl
@[pyrt] theorem pyMulM_vec : pyMulM (.vec u) (.vec v) = .ok (.num (dot u v)) := rfl
@[pyrt] theorem pyEqM_vec : pyEqM (.vec u) (.vec v) = .ok (.bool (decide (u = v))) := rfl
@[pyrt] theorem pyEqM_obj (o o' : Obj) : pyEqM (.obj o) (.obj o') = pyEq (.obj o) (.obj o') := rfl
@[pyrt] theorem pyAbs_num : pyAbs (.num x) = .ok (.num (if x < 0 then -x else x)) := rfl
@[pyrt] theorem pyCmpTol_num_int : pyCmpTol op b (.num x) (.int n) = .ok (.bool (tolEval op b x n)) := rfl
/-! the table of tolerance comparisons under the exact reading of `eps` (all eight cells, so that `>` and `>=` against
    `-eps` are the same test to the ties as they are to the model) -/
attribute [pyrt] tolEval
@[pyrt] theorem pyMeth_cross_vec : pyMeth_cross (.vec u) (.vec v) = .ok (.vec (cross u v)) := rfl
@[pyrt] theorem pyMeth_orthogonal_vec : pyMeth_orthogonal (.vec u) (.vec v) = .ok (.bool (V3.orthogonal u v)) := rfl
@[pyrt] theorem pyDivLenSq_num_vec :
    pyDivLenSq (.num x) (.vec u) = if normSq u = 0 then .error (.ctor .zeroDiv) else .ok (.num (x / normSq u)) := rfl
@[pyrt] theorem pySameDir_vec : pySameDir (.vec u) (.vec v) =
    if u = zero ∨ v = zero then .error (.ctor .zeroDiv) else .ok (.bool (V3.parallel u v && decide (0 < dot u v))) := rfl

@[pyrt] theorem pyInM_pt (c : Obj) : pyInM (.obj (.flat (.point p))) (.obj c) = pyIn (.obj (.flat (.point p))) (.obj c) := by
  rcases c with g | _ | _
  · cases g <;> rfl
  · rfl
  · rfl
@[pyrt] theorem pyGeo_parallel_plane_line : pyGeo_parallel (.obj (.flat (.plane a))) (.obj (.flat (.line l))) =
    .ok (.bool (V3.orthogonal l.dv a.n)) := rfl

@[pyrt] theorem ofCtor_ok {α} (f : α → Obj) (c : α) : ofCtor f (.ok c) = .ok (.obj (f c)) := rfl
@[pyrt] theorem ofCtor_error {α} (f : α → Obj) (e : CErr) : ofCtor f (.error e) = .error (.ctor e) := rfl
@[pyrt] theorem ofCtor_ite {α} (f : α → Obj) (c : Prop) [Decidable c] (x y : Except CErr α) :
    ofCtor f (if c then x else y) = if c then ofCtor f x else ofCtor f y := apply_ite _ _ _ _
@[pyrt] theorem except_map_ite {ε α β} (f : α → β) (c : Prop) [Decidable c] (x y : Except ε α) :
    f <$> (if c then x else y) = if c then f <$> x else f <$> y := apply_ite _ _ _ _
@[pyrt] theorem pyLineM_pt_pt : pyLineM (.obj (.flat (.point p))) (.obj (.flat (.point q))) = ofCtor lnObj (Line.ofPoints? p q) := rfl
@[pyrt] theorem pyLineM_pt_vec : pyLineM (.obj (.flat (.point p))) (.vec v) = ofCtor lnObj (Line.mk? p v) := rfl
@[pyrt] theorem pyLineM_vec_vec : pyLineM (.vec u) (.vec v) = ofCtor lnObj (Line.mk? u v) := rfl
@[pyrt] theorem pyPlane2_pt_vec : pyPlane2 (.obj (.flat (.point p))) (.vec v) = ofCtor plObj (Plane.ofPN p v) := rfl
@[pyrt] theorem pySegmentM_pt_pt : pySegmentM (.obj (.flat (.point p))) (.obj (.flat (.point q))) = ofCtor sgObj (Seg.mk? p q) := rfl
@[pyrt] theorem pyHalfLineM_pt_vec : pyHalfLineM (.obj (.flat (.point p))) (.vec v) =
    ofCtor (fun h => .flat (.halfline h)) (HalfLine.ofVec? p v) := rfl
@[pyrt] theorem pyListAppend_seq_obj (os : List Obj) (o : Obj) : pyListAppend (.seq os) (.obj o) = .ok (.seq (os ++ [o])) := rfl
@[pyrt] theorem pyPyramid_polygon_pt (d : Val) : pyPyramid (.obj (.polygon P)) (.obj (.flat (.point p))) d =
    if P.plane.contains p then .error (.ctor .value) else .ok (.seq [.polygon P, .flat (.point p)]) := rfl
@[pyrt] theorem pyPack_Pyramid_mk : pyPack_Pyramid { f_convex_polygon := some (.obj (.polygon P)), f_point := some (.obj (.flat (.point p))) } =
    .ok (.seq [.polygon P, .flat (.point p)]) := rfl
@[pyrt] theorem pyAngDictSet_num (d : AngDict) : pyAngDictSet d (.num x) (.num y) (.obj (.flat (.point p))) = .ok (angInsert (x, y) p d) := rfl
@[pyrt] theorem pyMoveInPlace_pt : pyMoveInPlace (.obj (.flat (.point p))) (.vec v) = .ok (.obj (.flat (.point (add p v)))) := rfl
@[pyrt] theorem pyMoveRet_pt : pyMoveRet (.obj (.flat (.point p))) (.vec v) = .ok (.obj (.flat (.point (add p v)))) := rfl
@[pyrt] theorem pyMoveRet_polygon : pyMoveRet (.obj (.polygon P)) (.vec v) =
    (do let Q ← liftC (P.move v).2; pure (.obj (.polygon Q))) := rfl
@[pyrt] theorem pyIndexM_vec_0 : pyIndexM (.vec v) (.int 0) = .ok (.num v.x) := rfl
@[pyrt] theorem pyIndexM_vec_1 : pyIndexM (.vec v) (.int 1) = .ok (.num v.y) := rfl
@[pyrt] theorem pyIndexM_vec_2 : pyIndexM (.vec v) (.int 2) = .ok (.num v.z) := rfl
@[pyrt] theorem pySetItemM_vec_0 : pySetItemM (.vec v) (.int 0) (.num x) = .ok (.vec ⟨x, v.y, v.z⟩) := rfl
@[pyrt] theorem pySetItemM_vec_1 : pySetItemM (.vec v) (.int 1) (.num x) = .ok (.vec ⟨v.x, x, v.z⟩) := rfl
@[pyrt] theorem pySetItemM_vec_2 : pySetItemM (.vec v) (.int 2) (.num x) = .ok (.vec ⟨v.x, v.y, x⟩) := rfl
end rules

theorem abs_sub_tol (a b : Rat) : decide ((if a < b then b - a else a - b) ≤ 0) = (a - b == 0) := by
  rw [Bool.eq_iff_iff]
  simp only [decide_eq_true_eq, beq_iff_eq]
  split <;> constructor <;> intro h' <;> linarith

theorem abs_le_zero_iff (q : Rat) : ((if q < 0 then -q else q) ≤ 0) ↔ q = 0 := by
  split <;> constructor <;> intro h <;> linarith

theorem normSq_le_zero_iff (v : V3) : normSq v ≤ 0 ↔ v = zero := by
  rw [← normSq_eq_zero]; exact ⟨fun h => le_antisymm h (normSq_nonneg v), fun h => h.le⟩

theorem sub_add_cancel_left' (a v : V3) : sub (add a v) a = v := by
  apply V3.ext' <;> simp [sub, add]

theorem neg_eq_zero_iff {v : V3} : neg v = zero ↔ v = zero := by
  cases v; simp [neg, zero]

/-! ### loops -/

/-- a loop that never exits early and never fails is a fold -/
theorem forIn_yield {α σ : Type} (xs : List α) (f : σ → α → σ) (s : σ) :
    forIn xs s (fun x s => (Except.ok (ForInStep.yield (f s x)) : PyM (ForInStep σ))) = .ok (xs.foldl f s) := by
  induction xs generalizing s with
  | nil => rfl
  | cons x xs ih => simp [List.forIn_cons, ih]

/-- the three running sums of `_get_center_point` (`0` before the first point, a float afterwards) -/
def ctrRepr : Option V3 → Val × Val × Val
  | none => (.int 0, .int 0, .int 0)
  | some s => (.num s.x, .num s.y, .num s.z)

def ctrAdd (o : Option V3) (p : V3) : Option V3 := some (match o with | none => p | some s => add s p)

theorem ctrFold (ps : List V3) (s : V3) : ps.foldl ctrAdd (some s) = some (ps.foldl add s) := by
  induction ps generalizing s with
  | nil => rfl
  | cons p ps ih => simp [List.foldl_cons, ctrAdd, ih]

/-- the loop of `_get_center_point`; `body` is one round as the translation prints it (its equation holds by evaluation) -/
theorem centerLoop_eq (ps : List V3) (body : Val → Val × Val × Val → PyM (ForInStep (Val × Val × Val)))
    (hb : ∀ p o, body (.obj (ptObj p)) (ctrRepr o) = .ok (.yield (ctrRepr (ctrAdd o p)))) :
    forIn (ps.map (Val.obj ∘ ptObj)) (Val.int 0, Val.int 0, Val.int 0) body =
      .ok (ctrRepr (match ps with | [] => none | p :: ps => some (ps.foldl add p))) := by
  rw [show ((Val.int 0, Val.int 0, Val.int 0) : Val × Val × Val) = ctrRepr none from rfl,
    forIn_repr (Val.obj ∘ ptObj) ctrRepr ps _ (fun p o => .ok (.yield (ctrAdd o p))) (fun p _ o => hb p o), forIn_yield]
  cases ps with
  | nil => rfl
  | cons p ps => simp only [List.foldl_cons, ctrAdd, ctrFold]; rfl

theorem forIn_guard {α σ : Type} (xs : List α) (ok : α → Bool) (f : σ → α → σ) (e : BErr) (s : σ) :
    forIn xs s (fun x s => if ok x = true then (Except.ok (ForInStep.yield (f s x)) : PyM (ForInStep σ)) else .error e) =
      if xs.all ok = true then .ok (xs.foldl f s) else .error e := by
  induction xs generalizing s with
  | nil => simp
  | cons x xs ih => by_cases h : ok x = true <;> simp [List.forIn_cons, h, ih]

theorem pyIndexM_seq_nat (l : List Obj) (k : Nat) (o : Obj) (h : l[k]? = some o) :
    pyIndexM (.seq l) (.int (k : Int)) = .ok (.obj o) := by
  simpa [pyIndexM] using pyIndex_seq_nat l k o h

theorem pyIndexM_ptSeq_nat (pts : List V3) (k : Nat) (a : V3) (h : pts[k]? = some a) :
    pyIndexM (.seq (pts.map ptObj)) (.int (k : Int)) = .ok (.obj (ptObj a)) :=
  pyIndexM_seq_nat _ k _ (by simp [h])

@[pyrt] theorem pyIndexM_ptSeq_zero (p : V3) (ps : List V3) :
    pyIndexM (.seq ((p :: ps).map ptObj)) (.int 0) = .ok (.obj (ptObj p)) := pyIndexM_ptSeq_nat _ 0 p rfl

theorem consec_eq_zip : ∀ l : List V3, consec l = l.zip l.tail
  | [] => rfl
  | [_] => rfl
  | a :: b :: l => by rw [consec, consec_eq_zip (b :: l)]; rfl

theorem consec_getElem? (l : List V3) (k : Nat) (a b : V3) (h : (consec l)[k]? = some (a, b)) :
    l[k]? = some a ∧ l[k + 1]? = some b := by
  rw [consec_eq_zip, List.getElem?_zip_eq_some] at h; simpa using h

theorem closedPairs_getElem? (pts : List V3) (k : Nat) (a b : V3) (h : (closedPairs pts)[k]? = some (a, b)) :
    pts[k]? = some a ∧ (if k + 1 = pts.length then pts[0]? = some b else pts[k + 1]? = some b) := by
  cases pts with
  | nil => simp [closedPairs] at h
  | cons p ps =>
    -- `closedPairs (p :: ps)` is `consec (p :: ps ++ [p])`; the rest is index bookkeeping on the appended head
    obtain ⟨h1, h2⟩ := consec_getElem? (p :: ps ++ [p]) k a b h
    grind

theorem consec_length (l : List V3) : (consec l).length = l.length - 1 := by
  rw [consec_eq_zip]; simp

theorem closedPairs_length (pts : List V3) : (closedPairs pts).length = pts.length := by
  cases pts <;> simp [closedPairs, consec_length]

/-- a loop `for i in range(len(points))` that reads `points[i]` and `points[0 if i == len - 1 else i + 1]` is a loop over
    the cyclic edge list `closedPairs points` -/
theorem forIn_cyc {σ τ : Type} (pts : List V3) (repr : σ → τ)
    (body : Val → τ → PyM (ForInStep τ)) (step : V3 × V3 → σ → PyM (ForInStep σ))
    (h : ∀ (k : Nat) (a b : V3), (closedPairs pts)[k]? = some (a, b) → ∀ s,
      body (.int k) (repr s) = ForInStep.map' repr <$> step (a, b) s) :
    ∀ s, forIn ((intsFrom 0 pts.length).map Val.int) (repr s) body = repr <$> forIn (closedPairs pts) s step := by
  intro s
  have hm := map_snd_indexed (closedPairs pts) 0
  rw [closedPairs_length] at hm
  rw [← hm, forIn_repr (fun xi : (V3 × V3) × Int => Val.int xi.2) repr (indexed 0 (closedPairs pts)) body (fun xi => step xi.1)]
  · rw [forIn_indexed]
  · intro ⟨⟨a, b⟩, i⟩ hmem s
    obtain ⟨k, hk, hx⟩ := mem_indexed _ 0 _ i hmem
    have : i = (k : Int) := by omega
    subst this
    exact h k a b hx s

theorem forIn_append_mapM {α β : Type} (xs : List α) (f : α → PyM β) (acc : List β) :
    forIn xs acc (fun x acc => do let y ← f x; pure (ForInStep.yield (acc ++ [y]))) = (fun ys => acc ++ ys) <$> xs.mapM f := by
  induction xs generalizing acc with
  | nil => simp
  | cons x xs ih =>
    rw [List.forIn_cons, List.mapM_cons]
    cases f x with
    | error e => rfl
    | ok y =>
      refine (ih (acc ++ [y])).trans ?_
      cases xs.mapM f <;> simp

theorem liftC_mapM {α β : Type} (xs : List α) (g : α → Except CErr β) :
    liftC (xs.mapM g) = xs.mapM (fun x => liftC (g x)) := by
  induction xs with
  | nil => rfl
  | cons x xs ih =>
    simp only [List.mapM_cons, ← ih]
    cases g x <;> cases xs.mapM g <;> rfl

/-- the two reads `points[i]`, `points[0 if i == len - 1 else i + 1]` of one round, with the value of the test -/
theorem cyc_index (pts : List V3) (k : Nat) (a b : V3) (h : (closedPairs pts)[k]? = some (a, b)) :
    pyIndexM (.seq (pts.map ptObj)) (.int (k : Int)) = .ok (.obj (ptObj a)) ∧
    ((((k : Int) == (pts.length : Int) - 1) = true ∧ pyIndexM (.seq (pts.map ptObj)) (.int 0) = .ok (.obj (ptObj b))) ∨
     (((k : Int) == (pts.length : Int) - 1) = false ∧
      pyIndexM (.seq (pts.map ptObj)) (.int ((k : Int) + 1)) = .ok (.obj (ptObj b)))) := by
  obtain ⟨h1, h2⟩ := closedPairs_getElem? pts k a b h
  refine ⟨pyIndexM_ptSeq_nat pts k a h1, ?_⟩
  split at h2
  · exact .inl ⟨by rw [beq_iff_eq]; omega, pyIndexM_ptSeq_nat pts 0 b h2⟩
  · exact .inr ⟨by rw [beq_eq_false_iff_ne]; omega, pyIndexM_ptSeq_nat pts (k + 1) b h2⟩

/-- a loop that sets its flag to `False` and leaves at the first failing element is `all` -/
theorem forIn_all {α : Type} (xs : List α) (ok : α → Bool) (r : Bool) :
    forIn xs r (fun x r => if ok x = true then (Except.ok (ForInStep.yield r) : PyM (ForInStep Bool)) else .ok (.done false)) =
      .ok (xs.all ok && r) := by
  induction xs generalizing r with
  | nil => simp
  | cons x xs ih => by_cases h : ok x = true <;> simp [List.forIn_cons, h, ih]

theorem pyInM_pt_seq (a : V3) (ps : List V3) :
    pyInM (.obj (.flat (.point a))) (.seq (ps.map ptObj)) = .ok (.bool (decide (a ∈ ps))) := by
  simp [pyInM, objHashable, objSame, ptObj, List.any_map, Function.comp_def, List.any_beq]

end G3D.Tie
