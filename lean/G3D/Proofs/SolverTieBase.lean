import G3D.Model.PyRtS
import G3D.Model.Solver2
import G3D.Proofs.Solver2
/-! Generic lemmas about the runtime `G3D.PyRtS` (the vocabulary of G3D/Extracted/Solver.lean), used by
    G3D/Proofs/SolverTieGauss.lean and G3D/Proofs/SolverTie.lean. -/
set_option linter.unusedSimpArgs false
namespace G3D.SolverTie
open G3D.PyRtS

/-! ### the `Except` monad, normalised to constructors -/
@[simp] theorem ok_bind {ε α β} (a : α) (f : α → Except ε β) : (Except.ok a >>= f) = f a := rfl
@[simp] theorem error_bind {ε α β} (e : ε) (f : α → Except ε β) : (Except.error e >>= f) = .error e := rfl
@[simp] theorem pure_eq_ok {ε α} (a : α) : (pure a : Except ε α) = .ok a := rfl
@[simp] theorem throw_eq_error {ε α} (e : ε) : (throw e : Except ε α) = .error e := rfl
@[simp] theorem map_ok {ε α β} (f : α → β) (a : α) : (f <$> (Except.ok a : Except ε α)) = .ok (f a) := rfl
@[simp] theorem map_error {ε α β} (f : α → β) (e : ε) : (f <$> (Except.error e : Except ε α)) = .error e := rfl

theorem eq_ok_of_map {ε α β} {x : Except ε α} {f : α → β} {b : β} (h : f <$> x = .ok b) : ∃ a, x = .ok a ∧ f a = b := by
  cases x with
  | error e => cases h
  | ok a => exact ⟨a, rfl, by cases h; rfl⟩

/-! ### indices -/
theorem pyNormIdx_nat {n : Nat} {i : Int} (k : Nat) (hi : i = (k : Int)) (hk : k < n) : pyNormIdx n i = some k := by
  subst hi; unfold pyNormIdx; simp [hk]

theorem pyNormIdx_neg_one {n : Nat} (hn : 0 < n) : pyNormIdx n (-1) = some (n - 1) := by
  unfold pyNormIdx
  have h1 : ¬ (0 : Int) ≤ -1 := by omega
  have h2 : (0 : Int) ≤ (n : Int) + -1 := by omega
  simp only [h1, h2, if_false, if_true]
  congr 1; omega

theorem pyIdx_nat {α} {l : List α} {i : Int} (k : Nat) (hi : i = (k : Int)) (hk : k < l.length) :
    pyIdx l i = .ok l[k] := by
  unfold pyIdx; rw [pyNormIdx_nat k hi hk]; simp [hk]

theorem pyIdx_getD {l : List Rat} {i : Int} (k : Nat) (hi : i = (k : Int)) (hk : k < l.length) :
    pyIdx l i = .ok (l.getD k 0) := by
  rw [pyIdx_nat k hi hk]; simp [List.getD_eq_getElem?_getD, hk]

theorem pyIdx_getD_row {l : List (List Rat)} {i : Int} (k : Nat) (hi : i = (k : Int)) (hk : k < l.length) :
    pyIdx l i = .ok (l.getD k []) := by
  rw [pyIdx_nat k hi hk]; simp [List.getD_eq_getElem?_getD, hk]

theorem pyIdx_neg_one {l : List Rat} (h : l ≠ []) : pyIdx l (-1) = .ok (l.getLastD 0) := by
  have hn : 0 < l.length := List.length_pos_iff.mpr h
  unfold pyIdx; rw [pyNormIdx_neg_one hn]
  have : l.length - 1 < l.length := by omega
  simp only [List.getElem?_eq_getElem this]
  congr 1
  rw [List.getLastD_eq_getLast?, List.getLast?_eq_getElem?]
  simp [this]

theorem pySetIdx_nat {α} {l : List α} {i : Int} (k : Nat) (x : α) (hi : i = (k : Int)) (hk : k < l.length) :
    pySetIdx l i x = .ok (l.set k x) := by
  unfold pySetIdx; rw [pyNormIdx_nat k hi hk]; rfl

theorem pySliceFrom_nat {α} (l : List α) {i : Int} (k : Nat) (hi : i = (k : Int)) : pySliceFrom l i = l.drop k := by
  subst hi; unfold pySliceFrom pyClamp
  simp only [Int.natCast_nonneg, if_true, Int.toNat_natCast]
  by_cases h : k ≤ l.length
  · rw [Nat.min_eq_left h]
  · rw [Nat.min_eq_right (by omega), List.drop_length, List.drop_eq_nil_of_le (by omega)]

theorem pySliceTo_neg_one {α} (l : List α) : pySliceTo l (-1) = l.dropLast := by
  unfold pySliceTo pyClamp
  have h1 : ¬ (0 : Int) ≤ -1 := by omega
  simp only [h1, if_false]
  rw [List.dropLast_eq_take]; congr 1; omega

/-! ### ranges -/
theorem pyRange_nat (a : Int) (n : Nat) {b : Int} (hb : b = a + (n : Int)) :
    pyRange a b = (List.range n).map (fun (k : Nat) => a + (k : Int)) := by
  subst hb; unfold pyRange
  have : (a + (n : Int) - a).toNat = n := by omega
  rw [this]

theorem pyRange_empty {a b : Int} (h : b ≤ a) : pyRange a b = [] := by
  unfold pyRange
  have : (b - a).toNat = 0 := by omega
  rw [this]; rfl

theorem pyRange_cons {a b : Int} (h : a < b) : pyRange a b = a :: pyRange (a + 1) b := by
  obtain ⟨n, hn⟩ : ∃ n : Nat, b = a + ((n + 1 : Nat) : Int) := ⟨(b - a).toNat - 1, by omega⟩
  rw [pyRange_nat a (n + 1) hn, pyRange_nat (a + 1) n (by omega), List.range_succ_eq_map]
  simp only [List.map_cons, List.map_map, Nat.cast_zero, Int.add_zero]
  congr 1
  apply List.map_congr_left
  intro k _
  simp only [Function.comp]
  omega

theorem pyReversed_range_succ (n : Nat) :
    pyReversed (pyRange 0 ((n + 1 : Nat) : Int)) = ((n : Nat) : Int) :: pyReversed (pyRange 0 (n : Int)) := by
  rw [pyRange_nat 0 (n + 1) (by omega), pyRange_nat 0 n (by omega)]
  unfold pyReversed
  rw [List.range_succ, List.map_append, List.reverse_append]
  simp

theorem pyReversed_range_zero : pyReversed (pyRange 0 ((0 : Nat) : Int)) = [] := by
  rw [pyRange_empty (by simp)]; rfl

theorem pyEnumerate_nil {α} : pyEnumerate ([] : List α) = [] := rfl

/-- `enumerate` with an offset (the loop lemmas induct over this form) -/
def enumFrom {α} (k : Nat) (l : List α) : List (Int × α) := (l.zipIdx k).map (fun p => ((p.2 : Int), p.1))
theorem pyEnumerate_eq {α} (l : List α) : pyEnumerate l = enumFrom 0 l := rfl
@[simp] theorem enumFrom_nil {α} (k : Nat) : enumFrom k ([] : List α) = [] := rfl
@[simp] theorem enumFrom_cons {α} (k : Nat) (x : α) (l : List α) :
    enumFrom k (x :: l) = ((k : Int), x) :: enumFrom (k + 1) l := by
  simp [enumFrom, List.zipIdx_cons]

/-! ### comprehensions over pure element functions -/
theorem pyComp_ok {α β} (g : α → β) (l : List α) : pyComp (fun x => (Except.ok (g x) : PyM β)) l = .ok (l.map g) := by
  induction l with
  | nil => rfl
  | cons x xs ih => simp only [pyComp, ih, pure_eq_ok, ok_bind, List.map_cons]
theorem pyComp_pure {α β} (g : α → β) (l : List α) : pyComp (fun x => (pure (g x) : PyM β)) l = .ok (l.map g) :=
  pyComp_ok g l

theorem pyCompIf_pure {α β} (c : α → PyM Bool) (e : α → PyM β) (c' : α → Bool) (e' : α → β) (l : List α)
    (hc : ∀ x ∈ l, c x = .ok (c' x)) (he : ∀ x ∈ l, e x = .ok (e' x)) :
    pyCompIf c e l = .ok ((l.filter c').map e') := by
  induction l with
  | nil => rfl
  | cons x xs ih =>
    have ihx := ih (fun y hy => hc y (List.mem_cons_of_mem _ hy)) (fun y hy => he y (List.mem_cons_of_mem _ hy))
    simp only [pyCompIf, hc x (List.mem_cons_self ..), he x (List.mem_cons_self ..), ihx, ok_bind, pure_eq_ok]
    cases h : c' x <;> simp [List.filter_cons, h]

theorem pyAny_pure {α} (e : α → PyM Bool) (e' : α → Bool) (l : List α) (he : ∀ x ∈ l, e x = .ok (e' x)) :
    pyAny e l = .ok (l.any e') := by
  induction l with
  | nil => rfl
  | cons x xs ih =>
    have ihx := ih (fun y hy => he y (List.mem_cons_of_mem _ hy))
    simp only [pyAny, he x (List.mem_cons_self ..), ihx, ok_bind, pure_eq_ok]
    cases h : e' x <;> simp [h]

theorem pyAll_pure {α} (e : α → PyM Bool) (e' : α → Bool) (l : List α) (he : ∀ x ∈ l, e x = .ok (e' x)) :
    pyAll e l = .ok (l.all e') := by
  induction l with
  | nil => rfl
  | cons x xs ih =>
    have ihx := ih (fun y hy => he y (List.mem_cons_of_mem _ hy))
    simp only [pyAll, he x (List.mem_cons_self ..), ihx, ok_bind, pure_eq_ok]
    cases h : e' x <;> simp [h]

/-- `sum` from the left = `sum` from the right -/
theorem foldl_add_eq (l : List Rat) (a : Rat) : l.foldl (· + ·) a = a + l.foldl (· + ·) 0 := by
  induction l generalizing a with
  | nil => simp
  | cons x xs ih => simp only [List.foldl_cons]; rw [ih (a + x), ih (0 + x)]; ring

theorem pySum_cons (x : Rat) (l : List Rat) : pySum (x :: l) = x + pySum l := by
  unfold pySum; simp only [List.foldl_cons]; rw [foldl_add_eq]; ring

theorem pySum_nil : pySum ([] : List Rat) = 0 := rfl

theorem pySum_ones {α} (l : List α) : pySum (l.map (fun _ => (1 : Int))) = (l.length : Int) := by
  unfold pySum
  suffices h : ∀ (a : Int), (l.map (fun _ => (1 : Int))).foldl (· + ·) a = a + (l.length : Int) by
    simpa using h 0
  induction l with
  | nil => intro a; simp
  | cons x xs ih => intro a; simp only [List.map_cons, List.foldl_cons, ih, List.length_cons]; push_cast; ring

/-! ### a generic rule for `for` loops: the loop equals a recursively specified function -/
theorem forIn_eq {α σ : Type} (f : α → σ → PyM (ForInStep σ)) (F : List α → σ → PyM σ)
    (hnil : ∀ s, F [] s = .ok s)
    (hcons : ∀ x xs s, F (x :: xs) s = (f x s >>= fun r => match r with
        | ForInStep.done b => pure b | ForInStep.yield b => F xs b)) :
    ∀ (xs : List α) (s : σ), forIn xs s f = F xs s := by
  intro xs
  induction xs with
  | nil => intro s; simp [hnil]
  | cons x xs ih =>
    intro s
    rw [List.forIn_cons, hcons]
    congr 1
    funext r
    cases r <;> simp [ih]

end G3D.SolverTie
