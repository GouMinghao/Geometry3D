import G3D.Extracted.Mpolygon
import G3D.Proofs.MethodsTiePolygonShared
import G3D.Proofs.MethodsTiePolygonCenter
/-! # Tie, group `mpolygon`, role MOVE (C07; `*_move_reject` C15): `move` = `Polygon.move`, unconditional.
    Imports `MethodsTiePolygonCenter` (`move` calls `_get_center_point`).  Conventions, trusted readings and the deviations found: `G3D.Proofs.MethodsTie`, header of `G3D.Model.PyRtM`. -/
set_option linter.style.nameCheck false
namespace G3D.Tie
open V3 PyRt Extracted

theorem m_ConvexPolygon_move_eq (P : Polygon) (v : V3) :
    m_ConvexPolygon_move (Self.ofPolygon P) (.vec v) =
      match P.move v with
      | (P', .ok R) => .ok (Self.ofPolygon P', .obj (.polygon R))
      | (_, .error e) => .error (.ctor e) := by
  unfold m_ConvexPolygon_move
  simp only [Self.ofPolygon, pyrt, pyFld, Val.ptSeq, List.map_map, decide_true, if_true]
  rw [show pyListLit [] = .ok ((fun l : List V3 => Val.seq (l.map ptObj)) []) from rfl]
  simp only [pyrt]
  rw [forIn_repr (Val.obj ∘ ptObj) (fun l : List V3 => Val.seq (l.map ptObj)) P.pts _
    (fun p acc => .ok (.yield (acc ++ [add p v])))]
  · rw [forIn_yield P.pts (fun acc p => acc ++ [add p v]), foldl_snoc_map]
    simp only [pyrt, List.nil_append, Polygon.move, Point.move]
    generalize P.pts.map (fun p => add p v) = pts'
    rw [plane3_seq]
    match pts' with
    | [] | [_] | [_, _] => rfl
    | p0 :: p1 :: p2 :: rest =>
      simp only [pyrt, Plane.ofPoints]
      by_cases hn0 : cross (sub p1 p0) (sub p2 p0) = zero
      · simp [hn0]
      simp only [hn0, if_false, pyrt]
      rw [m_ConvexPolygon__get_center_point_eq _ (p0 :: p1 :: p2 :: rest) rfl]
      simp only [List.cons_ne_nil, if_false, pyrt]
      cases Polygon.mk? (p0 :: p1 :: p2 :: rest) <;> simp [liftC, planeOf3, ptObj]
  · intro p _ acc
    simp [pyrt, ForInStep.map']

/-- `move` rejects a non-Vector argument (C15) -/
theorem m_ConvexPolygon_move_reject (self : Self) (o : Obj) : m_ConvexPolygon_move self (.obj o) = .error .notImpl := by
  unfold m_ConvexPolygon_move; simp [pyrt]

end G3D.Tie
