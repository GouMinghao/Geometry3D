import G3D.Proofs.Euler5

/-! # Euler's polyhedron formula, part 6: the Euler check of `intersection(polyhedron, polyhedron)` never fails

    * `K4.eulerOf_parts` : the body with the faces the constructor WOULD store for the collected polygons
      (`flipOf c g`, `c` the mean of the collected vertices) is a facet body of `A ∩ B`, whether or not the
      constructor call succeeds (`K4.facetBody_of_stored`); hence the collected complex has Euler number 2
    * `interPolyhedronPolyhedron_exactOK` : **K4 without the Euler hypothesis** -/
namespace G3D
open V3

/-- **the collected complex of `A ∩ B` has Euler number 2** -/
theorem K4.eulerOf_parts {A B : Polyhedron} (hA : A.ExactHyp) (hB : B.ExactHyp) {p : Parts}
    (hp : K4.Parts2 A B p) (h2 : 2 ≤ p.gons.length) : K4.eulerOf p.gons = 2 := by
  have hb := K4.facetBody_of_stored hA hB hp h2
    ⟨p.gons.map (flipOf (meanV (collectVerts p.gons))), collectVerts p.gons, [], [], meanV (collectVerts p.gons)⟩
    rfl rfl rfl
  exact Eu.eulerOf_eq_two_of_flip p.gons (fun g hg => (hp.gon_spec hA hB g hg).1) _ _ rfl
    hb.valid hb.faceLocal hb.dirEdges_nodup
#print axioms K4.eulerOf_parts

/-- **K4, unconditional**: under `ExactHyp` for both bodies `intersection(A, B)` returns — without error — None, a
    well-formed flat, a Valid polygon or a polyhedron satisfying `ExactHyp`, denoting exactly `A ∩ B` -/
theorem interPolyhedronPolyhedron_exactOK (A B : Polyhedron) (hA : A.ExactHyp) (hB : B.ExactHyp) :
    ∃ o, interPolyhedronPolyhedron A B = .ok o ∧ (∀ ob, o = some ob → OpOK ob) ∧
      ∀ x, denOptB o x ↔ (InHull A.verts x ∧ InHull B.verts x) :=
  interPolyhedronPolyhedron_exactOK_of_euler A B hA hB (fun _ hp h2 => K4.eulerOf_parts hA hB hp h2)
#print axioms interPolyhedronPolyhedron_exactOK

end G3D
