import G3D.Extracted.Kvec
import G3D.Model.Flat
import G3D.Proofs.Vec
/-! # kvec, `Vector.orthogonal`  (C11, C19)
    `G3D.Extracted.impl_*` are regenerated on every run (tools/extract_kvec.py, engine tools/kernels_engine.py): the REAL code is run on
    symbolic numbers, every comparison against the tolerance is recorded (operands and shape) and answered from a scripted
    path.  Each kernel has its own `section`: when the walk of ONE kernel fails the generated file holds only the marker
    `impl_<kernel>_EXTRACTION_FAILED` for it and exactly the theorems of that section stop compiling.
    (The ties of the group kvec are spread over four modules, one per property served: KTieKvecEq (C08), KTieKvecOrth (C11),
    KTieKvecLen (C06), KTieKvecPar (C11, C19).) -/
namespace G3D.KTie.Kvec
open G3D V3 G3D.Extracted

section orthogonal
theorem orthogonal_tie (a b : V3) : impl_orthogonal_residual a b = dot a b := by
  simp only [impl_orthogonal_residual, dot]; ring

theorem orthogonal_iff (a b : V3) : V3.orthogonal a b = true ↔ impl_orthogonal_residual a b = 0 := by
  rw [orthogonal_tie]; simp only [V3.orthogonal, beq_iff_eq]

theorem orthogonal_shape : impl_orthogonal_shape = "abs(R) < eps" ∧ impl_orthogonal_path = [("abs(R) < eps", true)] := ⟨rfl, rfl⟩
end orthogonal

end G3D.KTie.Kvec
