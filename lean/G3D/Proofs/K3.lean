import G3D.Proofs.K3c
import G3D.Proofs.GoodB

/-! # Kernel K3: flat × ConvexPolyhedron is EXACT (completeness on top of the soundness of BodySoundBase.lean)

    Parts: K3a.lean (Point, Line; boundedness, `line_interval`, `segmentFromPointList_exact`),
    K3b.lean (Segment, HalfLine), K3c.lean (Plane: section = hull of the edge hits, hits strictly convex).
    This file: the Bool judge of the hypotheses, the summary theorem, a concrete instance (unit cube with its
    12 edges) and the counterexample showing that `FaceLocal` cannot be dropped (split cube).

    Hypotheses (`Polyhedron.ExactHyp`):
    * `Proper` = `ValidCore` (a face exists; faces are valid polygons with the stored centre in the plane; face vertices
      are listed; listed vertices pass all face tests; the directed edges form a closed surface) + `FaceLocal`
      (across every edge of a face there is a face through that edge having a vertex of the face strictly inside:
      no coplanar neighbours).  Every `ValidProper` polyhedron is `Proper`.  Used by all handlers.
    * `edgeWF`, `EdgesReal` (listed edges are well-formed Segments and edges of faces): Segment, HalfLine, Plane.
    * `EdgesComplete` (every face edge is listed): Plane only. -/
namespace G3D
open V3

/-! ### Bool judges -/
theorem Seg.isEdge_iff (s : Seg) (e : V3 × V3) :
    s.isEdge e = true ↔ ((s.a = e.1 ∧ s.b = e.2) ∨ (s.a = e.2 ∧ s.b = e.1)) := by
  simp [Seg.isEdge, Bool.or_eq_true, Bool.and_eq_true]

theorem Polyhedron.edgesRealB_iff (B : Polyhedron) : B.edgesRealB = true ↔ B.EdgesReal := by
  unfold Polyhedron.edgesRealB Polyhedron.EdgesReal
  simp only [List.all_eq_true, List.any_eq_true, Seg.isEdge_iff]

theorem Polyhedron.edgesCompleteB_iff (B : Polyhedron) : B.edgesCompleteB = true ↔ B.EdgesComplete := by
  unfold Polyhedron.edgesCompleteB Polyhedron.EdgesComplete
  simp only [List.all_eq_true, List.any_eq_true, Seg.isEdge_iff]

/-- all hypotheses of the exactness theorems -/
structure Polyhedron.ExactHyp (B : Polyhedron) : Prop where
  proper : B.Proper
  edgeWF : ∀ s ∈ B.edges, s.WF
  real : B.EdgesReal
  complete : B.EdgesComplete

theorem Polyhedron.exactHyp_of_B (B : Polyhedron) (h : B.exactHypB = true) : B.ExactHyp := by
  simp only [Polyhedron.exactHypB, Bool.and_eq_true] at h
  obtain ⟨⟨⟨⟨h1, h2⟩, h3⟩, h4⟩, h5⟩ := h
  rw [List.all_eq_true] at h3
  exact ⟨⟨B.validCore_of_B h1, B.faceLocal_of_faceLocalB h2⟩, fun s hs => (Seg.wfB_iff s).mp (h3 s hs),
    (B.edgesRealB_iff).mp h4, (B.edgesCompleteB_iff).mp h5⟩

/-- a `ValidProper` polyhedron with well-formed, real and complete edge list satisfies the hypotheses -/
theorem Polyhedron.ValidProper.exactHyp {B : Polyhedron} (hV : B.ValidProper) (hEW : ∀ s ∈ B.edges, s.WF)
    (hR : B.EdgesReal) (hC : B.EdgesComplete) : B.ExactHyp := ⟨hV.proper, hEW, hR, hC⟩

/-! ### summary: the five flat × ConvexPolyhedron handlers are exact -/

theorem flat_polyhedron_exact (B : Polyhedron) (hH : B.ExactHyp) :
    (∀ p : V3, ExactW (interPointPolyhedron p B) (· = p) (BodyDen B)) ∧
    (∀ l : Line, l.WF → ExactW (interLinePolyhedron l B) l.den (BodyDen B)) ∧
    (∀ s : Seg, s.WF → ExactW (interSegPolyhedron s B) s.den (BodyDen B)) ∧
    (∀ h : HalfLine, h.WF → ExactW (interPolyhedronHalfLine B h) h.den (BodyDen B)) ∧
    (∀ a : Plane, a.WF → ExactW (interPlanePolyhedron a B) a.den (BodyDen B)) :=
  ⟨fun p => interPointPolyhedron_exact p B,
   fun l hl => interLinePolyhedron_exact l hl B hH.proper,
   fun s hs => interSegPolyhedron_exact s hs B hH.proper hH.edgeWF hH.real,
   fun h hh => interPolyhedronHalfLine_exact B hH.proper hH.edgeWF hH.real h hh,
   fun a ha => interPlanePolyhedron_exact a ha B hH.proper hH.edgeWF hH.real hH.complete⟩

/-- the same with the convex hull of the vertex list as the denotation of the body (K5) -/
theorem flat_polyhedron_exact_hull (B : Polyhedron) (hH : B.ExactHyp) :
    (∀ p : V3, ExactW (interPointPolyhedron p B) (· = p) (InHull B.verts)) ∧
    (∀ l : Line, l.WF → ExactW (interLinePolyhedron l B) l.den (InHull B.verts)) ∧
    (∀ s : Seg, s.WF → ExactW (interSegPolyhedron s B) s.den (InHull B.verts)) ∧
    (∀ h : HalfLine, h.WF → ExactW (interPolyhedronHalfLine B h) h.den (InHull B.verts)) ∧
    (∀ a : Plane, a.WF → ExactW (interPlanePolyhedron a B) a.den (InHull B.verts)) :=
  let ⟨hp, hl, hs, hh, ha⟩ := flat_polyhedron_exact B hH
  have e := hH.proper.contains_iff_hull
  ⟨fun p => (hp p).congr_right e, fun l hl' => (hl l hl').congr_right e, fun s hs' => (hs s hs').congr_right e,
   fun h hh' => (hh h hh').congr_right e, fun a ha' => (ha a ha').congr_right e⟩

theorem interPlanePolyhedron_exact_hull (a : Plane) (ha : a.WF) (B : Polyhedron) (hH : B.ExactHyp) :
    ExactW (interPlanePolyhedron a B) a.den (InHull B.verts) :=
  (flat_polyhedron_exact_hull B hH).2.2.2.2 a ha
#print axioms flat_polyhedron_exact
#print axioms flat_polyhedron_exact_hull

/-! ### the polygon returned by the plane handler -/

/-- when the plane handler returns a polygon it is a face or a `Valid` polygon (K6 via strict convexity of the
    hits) -/
theorem interPlanePolyhedron_polygon_valid (a : Plane) (ha : a.WF) (B : Polyhedron) (hH : B.ExactHyp) (Q : Polygon)
    (hQ : interPlanePolyhedron a B = .ok (some (.polygon Q))) : Q.Valid := by
  rw [interPlanePolyhedron_eq] at hQ
  cases hfind : B.faces.find? (fun f => f.inPlane a) with
  | some f =>
    rw [hfind] at hQ
    cases hQ
    exact hH.proper.core.faces_valid Q (List.mem_of_find?_eq_some hfind)
  | none =>
    rw [hfind] at hQ
    obtain ⟨out, hout, hnd, S⟩ := K3.Section.of_find a ha B hH.proper hH.edgeWF hH.real hH.complete hfind
    simp only [hout] at hQ
    refine (Polygon.mk?_valid_of_strictConvex out false Q (ofHits_polygon out Q hQ) ?_).1
    rw [dedupV_of_nodup _ hnd]
    exact S.strictConvexPos

/-! ### a concrete instance: the unit cube with its twelve edges -/

/-- the edge list the constructor computes from the faces (`Segment(p_i, p_{i+1})`, duplicates removed) -/
def faceEdges (B : Polyhedron) : List Seg :=
  (B.faces.flatMap (fun f => (closedPairs f.pts).map (fun e => Seg.mk' e.1 e.2))).foldl addSeg []

def cubeE : Polyhedron := { unitCube with edges := faceEdges unitCube }

theorem cubeE_edges : cubeE.edges.length = 12 := by decide +kernel

theorem cubeE_exactHyp : cubeE.ExactHyp := cubeE.exactHyp_of_B (by decide +kernel)

/-- for the unit cube all five flat handlers are exact -/
theorem cubeE_exact :
    (∀ p : V3, ExactW (interPointPolyhedron p cubeE) (· = p) (InHull cubeE.verts)) ∧
    (∀ l : Line, l.WF → ExactW (interLinePolyhedron l cubeE) l.den (InHull cubeE.verts)) ∧
    (∀ s : Seg, s.WF → ExactW (interSegPolyhedron s cubeE) s.den (InHull cubeE.verts)) ∧
    (∀ h : HalfLine, h.WF → ExactW (interPolyhedronHalfLine cubeE h) h.den (InHull cubeE.verts)) ∧
    (∀ a : Plane, a.WF → ExactW (interPlanePolyhedron a cubeE) a.den (InHull cubeE.verts)) :=
  flat_polyhedron_exact_hull cubeE cubeE_exactHyp
#print axioms cubeE_exact


/-! ### `FaceLocal` cannot be dropped: the cube with a triangulated top face

    `splitCubeE` passes every other hypothesis (`validB`: closed, convex, interior point; edges well formed, real,
    complete) but has two coplanar neighbouring faces.  For the line / segment `y = 3/4, z = 1` in the top plane
    * `intersection(Line, body)` returns the part inside the FIRST top triangle only (early return), a proper subset;
    * `intersection(Segment, body)` collects three points (entry, exit, crossing of the diagonal edge) and raises
      "Bug detected".
    (The Python library shows exactly this behaviour.) -/

def splitCubeE : Polyhedron := { splitCube with edges := faceEdges splitCube }

def lineTop : Line := ⟨⟨0, 3/4, 1⟩, ⟨1, 0, 0⟩⟩
def segTop : Seg := Seg.mk' ⟨-1, 3/4, 1⟩ ⟨2, 3/4, 1⟩
def halfTop : HalfLine := HalfLine.mk' ⟨-1, 3/4, 1⟩ ⟨1, 0, 0⟩

def ResB.isSeg (r : ResB) (a b : V3) : Bool :=
  match r with
  | .ok (some (.flat (.seg s))) => s.a == a && s.b == b
  | _ => false

def ResB.isBug (r : ResB) : Bool :=
  match r with
  | .error .bug => true
  | _ => false

theorem ResB.of_isSeg (r : ResB) (a b : V3) (h : r.isSeg a b = true) :
    ∃ s, r = .ok (some (.flat (.seg s))) ∧ s.a = a ∧ s.b = b := by
  unfold ResB.isSeg at h
  split at h
  · rename_i s
    rw [Bool.and_eq_true, beq_iff_eq, beq_iff_eq] at h
    exact ⟨s, rfl, h.1, h.2⟩
  · cases h

theorem ResB.of_isBug (r : ResB) (h : r.isBug = true) : r = .error .bug := by
  unfold ResB.isBug at h
  split at h
  · rfl
  · cases h

theorem splitCubeE_judges :
    splitCubeE.validB = true ∧ splitCubeE.edges.all (·.wfB) = true ∧ splitCubeE.edgesRealB = true ∧
    splitCubeE.edgesCompleteB = true ∧ splitCubeE.goodB = true ∧ splitCubeE.faceLocalB = false := by
  decide +kernel

/-- the Line handler is sound but NOT complete on the split cube -/
theorem splitCubeE_line_not_exact :
    ¬ ExactB (interLinePolyhedron lineTop splitCubeE) lineTop.den (BodyDen splitCubeE) := by
  rintro ⟨o, ho, hd⟩
  obtain ⟨s, hs, hsa, hsb⟩ := ResB.of_isSeg (interLinePolyhedron lineTop splitCubeE) ⟨1, 3/4, 1⟩ ⟨3/4, 3/4, 1⟩
    (by decide +kernel)
  rw [hs] at ho; cases ho
  have hx : lineTop.den ⟨1/4, 3/4, 1⟩ ∧ BodyDen splitCubeE ⟨1/4, 3/4, 1⟩ := by
    refine ⟨⟨1/4, ?_⟩, by unfold BodyDen; decide +kernel⟩
    apply V3.ext' <;> simp [lineTop, add, smul]
  obtain ⟨t, _, ht1, hxt⟩ : s.den ⟨1/4, 3/4, 1⟩ := (hd _).mpr hx
  rw [hsa, hsb] at hxt
  have := congrArg V3.x hxt
  simp only [add, smul, sub] at this
  linarith

/-- the Segment and HalfLine handlers raise "Bug detected" on the split cube -/
theorem splitCubeE_seg_bug : interSegPolyhedron segTop splitCubeE = .error .bug :=
  ResB.of_isBug _ (by decide +kernel)

theorem splitCubeE_halfline_bug : interPolyhedronHalfLine splitCubeE halfTop = .error .bug :=
  ResB.of_isBug _ (by decide +kernel)
#print axioms splitCubeE_line_not_exact
#print axioms splitCubeE_seg_bug

end G3D
