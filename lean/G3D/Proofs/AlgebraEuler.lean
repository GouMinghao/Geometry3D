import G3D.Proofs.AlgebraAll
import G3D.Proofs.K4l

/-! # The algebra of `intersection` for ALL operand types, with Euler's polyhedron formula as the only hypothesis

`EulerAll` says: whenever two admissible polyhedra overlap in a 3-dimensional body, the face complex collected by the handler
has Euler number 2 — the check `ConvexPolyhedron.__init__` performs.  It is the classical theorem of Euler for the boundary
complex of the convex polytope A ∩ B; it is NOT proved here.  Everything else about polyhedron × polyhedron is (K4). -/
namespace G3D
open V3

def EulerAll : Prop :=
  ∀ A B : Polyhedron, A.ExactHyp → B.ExactHyp → ∀ p, K4.Parts2 A B p → 2 ≤ p.gons.length → K4.eulerOf p.gons = 2

/-- None or an admissible operand of any type -/
def ResOK' (o : Option Obj) : Prop := ∀ ob, o = some ob → OpOK ob

theorem ResOK.toResOK' {o : Option Obj} (h : ResOK o) : ResOK' o := by
  rintro ob rfl; exact h.opOK

/-- **all 49 ordered type pairs**: returns without error None or an admissible operand denoting exactly a ∩ b -/
theorem interRef_exact_all (hE : EulerAll) (a b : Obj) (ha : OpOK a) (hb : OpOK b) :
    ∃ o, interRef a b = .ok o ∧ ResOK' o ∧ ∀ x, denOptB o x ↔ (ObjDen a x ∧ ObjDen b x) := by
  have key : NotBothBodies a b →
      ∃ o, interRef a b = .ok o ∧ ResOK' o ∧ ∀ x, denOptB o x ↔ (ObjDen a x ∧ ObjDen b x) := fun hnb => by obtain ⟨o, h1, h2, h3⟩ := interRef_exactOK a b ha hb hnb; exact ⟨o, h1, h2.toResOK', h3⟩
  cases a with
  | polyhedron A =>
    cases b with
    | polyhedron B => exact interPolyhedronPolyhedron_exactOK_of_euler A B ha hb (hE A B ha hb)
    | flat y => exact key trivial
    | polygon P => exact key trivial
  | flat x => exact key (by cases b <;> trivial)
  | polygon P => exact key (by cases b <;> trivial)

/-- `interOptLB_exact` for results of any type -/
theorem interOptLB_exact_all (hE : EulerAll) (o : Option Obj) (hw : ResOK' o) (c : Obj) (hc : OpOK c) :
    ∃ l, interOptLB o c = .ok l ∧ ResOK' l ∧ ∀ x, denOptB l x ↔ (denOptB o x ∧ ObjDen c x) := by
  cases o with
  | none => exact ⟨none, rfl, (fun _ h => nomatch h), fun x => ⟨False.elim, And.left⟩⟩
  | some g => exact interRef_exact_all hE g c (hw g rfl) hc

theorem interOptRB_exact_all (hE : EulerAll) (a : Obj) (ha : OpOK a) (o : Option Obj) (hw : ResOK' o) :
    ∃ r, interOptRB a o = .ok r ∧ ResOK' r ∧ ∀ x, denOptB r x ↔ (ObjDen a x ∧ denOptB o x) := by
  cases o with
  | none => exact ⟨none, rfl, (fun _ h => nomatch h), fun x => ⟨False.elim, And.right⟩⟩
  | some g => exact interRef_exact_all hE a g ha (hw g rfl)

/-- **associativity for all 343 type triples** -/
theorem interRef_assoc_all (hE : EulerAll) (a b c : Obj) (ha : OpOK a) (hb : OpOK b) (hc : OpOK c) :
    ∃ ab bc l r, interRef a b = .ok ab ∧ interRef b c = .ok bc ∧
      interOptLB ab c = .ok l ∧ interOptRB a bc = .ok r ∧ ResOK' l ∧ ResOK' r ∧
      (∀ x, denOptB l x ↔ (ObjDen a x ∧ ObjDen b x ∧ ObjDen c x)) ∧
      (∀ x, denOptB r x ↔ (ObjDen a x ∧ ObjDen b x ∧ ObjDen c x)) := by
  obtain ⟨ab, h1, w1, d1⟩ := interRef_exact_all hE a b ha hb
  obtain ⟨bc, h2, w2, d2⟩ := interRef_exact_all hE b c hb hc
  obtain ⟨l, hl, wl, dl⟩ := interOptLB_exact_all hE ab w1 c hc
  obtain ⟨r, hr, wr, dr⟩ := interOptRB_exact_all hE a ha bc w2
  exact ⟨ab, bc, l, r, h1, h2, hl, hr, wl, wr, fun x => by rw [dl x, d1 x, and_assoc], fun x => by rw [dr x, d2 x]⟩

/-- a polyhedron meeting `ExactHyp` has a point -/
theorem Polyhedron.ExactHyp.nonempty {B : Polyhedron} (h : B.ExactHyp) : ∃ x, InHull B.verts x := by
  obtain ⟨f, hf⟩ := List.exists_mem_of_ne_nil _ h.proper.core.nonempty
  obtain ⟨p0, p1, p2, rest, hp, _, _⟩ := h.proper.core.faces_valid f hf
  have hv : p0 ∈ B.verts := h.proper.core.pts_sub f hf p0 (by rw [hp]; simp)
  exact ⟨p0, vertex_in_hull _ _ hv⟩

/-- `ExactOK.of_subset` for results of any type -/
theorem exact_all_of_subset {r : ResB} {A B : V3 → Prop}
    (h : ∃ o, r = .ok o ∧ ResOK' o ∧ ∀ x, denOptB o x ↔ (A x ∧ B x)) (hsub : ∀ x, A x → B x) (hne : ∃ x, A x) :
    ∃ g, r = .ok (some g) ∧ OpOK g ∧ ∀ x, ObjDen g x ↔ A x := by
  obtain ⟨o, ho, hw, hd⟩ := h
  cases o with
  | none => obtain ⟨x, hx⟩ := hne; exact ((hd x).mpr ⟨hx, hsub x hx⟩).elim
  | some g => exact ⟨g, ho, hw g rfl, fun x => (hd x).trans ⟨And.left, fun h => ⟨h, hsub x h⟩⟩⟩

/-- `intersection(a, a)` denotes `a`, all seven types -/
theorem interRef_self_all (hE : EulerAll) (a : Obj) (ha : OpOK a) :
    ∃ g, interRef a a = .ok (some g) ∧ OpOK g ∧ ∀ x, ObjDen g x ↔ ObjDen a x := by
  apply exact_all_of_subset (interRef_exact_all hE a a ha ha) (fun _ h => h)
  cases a with
  | polyhedron B => exact Polyhedron.ExactHyp.nonempty ha
  | flat g => exact OpOK.nonempty (.flat g) ha trivial
  | polygon P => exact OpOK.nonempty (.polygon P) ha trivial

/-- `a ⊆ b`, a non-empty ⇒ `intersection(a, b)` and `intersection(b, a)` denote `a`, all 49 pairs -/
theorem interRef_of_subset_all (hE : EulerAll) (a b : Obj) (ha : OpOK a) (hb : OpOK b)
    (hsub : ∀ x, ObjDen a x → ObjDen b x) (hne : ∃ x, ObjDen a x) :
    (∃ g, interRef a b = .ok (some g) ∧ ∀ x, ObjDen g x ↔ ObjDen a x) ∧
    (∃ g, interRef b a = .ok (some g) ∧ ∀ x, ObjDen g x ↔ ObjDen a x) := by
  obtain ⟨g, hg, _, hd⟩ := exact_all_of_subset (interRef_exact_all hE a b ha hb) hsub hne
  obtain ⟨o, ho, hw, hd'⟩ := interRef_exact_all hE b a hb ha
  obtain ⟨g', hg', _, hd'⟩ := exact_all_of_subset ⟨o, ho, hw, fun x => (hd' x).trans And.comm⟩ hsub hne
  exact ⟨⟨g, hg, hd⟩, ⟨g', hg', hd'⟩⟩

#print axioms interRef_assoc_all
end G3D
