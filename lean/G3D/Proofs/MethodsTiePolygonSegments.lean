import G3D.Extracted.Mpolygon
import G3D.Proofs.MethodsTiePolygonShared
/-! # Tie, group `mpolygon`: `ConvexPolygon.segments` (read eagerly) = `Polygon.segments?` (C09).  Own module because `length` (`MethodsTiePolygonLength`) calls this method: that coupling is real. -/
set_option linter.style.nameCheck false
namespace G3D.Tie
open V3 PyRt Extracted

theorem m_ConvexPolygon_segments_eq (self : Self) (pts : List V3) (h1 : self.f_points = some (Val.ptSeq pts)) :
    m_ConvexPolygon_segments self = (fun ss => Val.seq (ss.map sgObj)) <$> liftC ((closedPairs pts).mapM segOf) := by
  unfold m_ConvexPolygon_segments
  simp only [h1, pyrt, Val.ptSeq, List.length_map, Int.sub_zero, Int.toNat_natCast]
  rw [show Val.seq [] = (fun ss : List Seg => Val.seq (ss.map sgObj)) [] from rfl]
  rw [forIn_cyc pts (fun ss : List Seg => Val.seq (ss.map sgObj)) _
    (fun e acc => do let y ← liftC (segOf e); pure (ForInStep.yield (acc ++ [y])))]
  · rw [forIn_append_mapM, liftC_mapM]
    cases (closedPairs pts).mapM (fun x => liftC (segOf x)) <;> simp
  · intro k a b hk acc
    obtain ⟨h0, hb⟩ := cyc_index pts k a b hk
    have hs : Seg.mk? a b = segOf (a, b) := rfl
    rcases hb with ⟨hk1, hb⟩ | ⟨hk1, hb⟩ <;> cases hc : segOf (a, b) <;>
      simp [pyrt, hk1, h0, hb, hs, hc, liftC, ForInStep.map']

/-- `segments()` (read eagerly) on a polygon object -/
theorem m_ConvexPolygon_segments_eq' (P : Polygon) :
    m_ConvexPolygon_segments (Self.ofPolygon P) = (fun ss => Val.seq (ss.map sgObj)) <$> liftC P.segments? :=
  m_ConvexPolygon_segments_eq _ P.pts rfl

end G3D.Tie
