import G3D.Proofs.K4l
import G3D.Proofs.K4g

/-! # Kernel K4: the returned polyhedron as an operand — concrete instances

    The polyhedron returned for the two overlapping unit cubes `cube0`, `cubeH` satisfies `ExactHyp` and is `Valid`
    (by the theorem `interPolyhedronPolyhedron_result_exactHyp`, and, independently, by kernel evaluation of the Bool
    judges on the returned body); it can therefore be intersected again: with a third cube the handler returns
    (kernel evaluation) the cube `[3/4, 1]³`, which by the theorems is exactly the triple intersection.
    All evaluation is that of `K4.cube0_cubeH_eval`. -/
namespace G3D
open V3

/-- observer: the Bool judges of `ExactHyp` and `Valid` on a returned polyhedron -/
def K4.polyJudges (r : ResB) : Bool :=
  match r with
  | .ok (some (.polyhedron R)) => R.exactHypB && R.validB
  | _ => false

/-- by the theorem -/
theorem K4.cube0_cubeH_result :
    ∃ R, interPolyhedronPolyhedron K4.cube0 K4.cubeH = .ok (some (.polyhedron R)) ∧ R.Valid ∧ R.ExactHyp ∧
      (∀ x, R.contains x = true ↔ (InHull K4.cube0.verts x ∧ InHull K4.cubeH.verts x)) := by
  obtain ⟨R, hR, _⟩ := K4.cube0_cubeH_eval
  obtain ⟨h1, h2, h3, _⟩ :=
    interPolyhedronPolyhedron_result_exactHyp K4.cube0 K4.cubeH K4.cube0_exactHyp K4.cubeH_exactHyp R hR
  exact ⟨R, hR, h1, h2, h3⟩

/-- by evaluation: the Bool judges accept the returned body -/
theorem K4.cube0_cubeH_result_judged :
    K4.polyJudges (interPolyhedronPolyhedron K4.cube0 K4.cubeH) = true := by
  obtain ⟨R, hR, _, hj, _⟩ := K4.cube0_cubeH_eval
  rw [hR]
  exact hj

/-- `intersection(intersection(cube0, cubeH), cubeQ)` -/
def K4.chain : ResB :=
  match interPolyhedronPolyhedron K4.cube0 K4.cubeH with
  | .ok (some (.polyhedron R)) => interPolyhedronPolyhedron R K4.cubeQ
  | _ => .error .bug

/-- `intersection(intersection(A, B), C)`: a returned polyhedron is an admissible operand again -/
theorem interPolyhedronPolyhedron_twice (A B C : Polyhedron) (hA : A.ExactHyp) (hB : B.ExactHyp) (hC : C.ExactHyp)
    (R R2 : Polyhedron) (hR : interPolyhedronPolyhedron A B = .ok (some (.polyhedron R)))
    (hR2 : interPolyhedronPolyhedron R C = .ok (some (.polyhedron R2))) :
    R2.ExactHyp ∧ ∀ x, InHull R2.verts x ↔ ((InHull A.verts x ∧ InHull B.verts x) ∧ InHull C.verts x) := by
  obtain ⟨_, hRE, _, hRhull⟩ := interPolyhedronPolyhedron_result_exactHyp A B hA hB R hR
  obtain ⟨_, h2, _, h4⟩ := interPolyhedronPolyhedron_result_exactHyp R C hRE hC R2 hR2
  exact ⟨h2, fun x => by rw [h4 x, hRhull x]⟩

/-- the chained result is the cube `[3/4, 1]³`, exactly the intersection of the three cubes, and again an admissible
    operand -/
theorem K4.chain_spec :
    ∃ R2, K4.chain = .ok (some (.polyhedron R2)) ∧ R2.verts = K4.boxVerts (3/4) ∧ R2.ExactHyp ∧
      ∀ x, InHull R2.verts x ↔
        ((InHull K4.cube0.verts x ∧ InHull K4.cubeH.verts x) ∧ InHull K4.cubeQ.verts x) := by
  obtain ⟨R, hR, _, _, R2, hR2, hv2⟩ := K4.cube0_cubeH_eval
  -- by the equation of `chain`: `unfold` would have the kernel compare `chain` with its body by evaluating the call
  have hch : K4.chain = interPolyhedronPolyhedron R K4.cubeQ := by rw [K4.chain, hR]
  exact ⟨R2, hch.trans hR2, hv2, interPolyhedronPolyhedron_twice K4.cube0 K4.cubeH K4.cubeQ K4.cube0_exactHyp
    K4.cubeH_exactHyp K4.cubeQ_exactHyp R R2 hR hR2⟩

theorem K4.chain_exact :
    ∃ R2, K4.chain = .ok (some (.polyhedron R2)) ∧ R2.ExactHyp ∧
      ∀ x, InHull R2.verts x ↔
        ((InHull K4.cube0.verts x ∧ InHull K4.cubeH.verts x) ∧ InHull K4.cubeQ.verts x) := by
  obtain ⟨R2, h, _, hE, hx⟩ := K4.chain_spec
  exact ⟨R2, h, hE, hx⟩
#print axioms K4.cube0_cubeH_result
#print axioms K4.chain_exact

end G3D
