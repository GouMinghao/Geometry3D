import G3D.Proofs.MeasTieSegment
import G3D.Proofs.MeasTiePolygon
import G3D.Proofs.MeasTiePyramidHeight
import G3D.Proofs.MeasTiePyramid
import G3D.Proofs.MeasTiePolyhedronLength
import G3D.Proofs.MeasTiePolyhedronArea
import G3D.Proofs.MeasTiePolyhedronVolume
import G3D.Proofs.MeasTieVolume
import G3D.Proofs.MeasTieVolumeEq
import G3D.Proofs.MeasPolygon
import G3D.Proofs.CtorLists
import G3D.Proofs.CtorExample
/-! # mmeas: corollaries in the terms of the constructors / of C06, and non-vacuity of every hypothesis
    * `m_ConvexPolygon_area_true`: for a `Valid` polygon whose stored centre is the vertex mean the generated `area` body
      computes `|½ Σ pᵢ × pᵢ₊₁|`, the length of half the vector area of the vertex cycle (through `Polygon.areaSq_eq_vecArea`).
    * `…_of_mk?`: every successful `ConvexPolyhedron(input)` on `MeasOK` input polygons satisfies the hypotheses of the
      volume ties; a K5-`Valid` body those of the area tie.
    * examples: a 3-4-5 segment, a face of the unit cube, the pyramid on it with apex at the cube's centre, and the cube
      constructed by `Polyhedron.mk? unitCube.faces` (area 6, volume 1, total edge length 12). -/
namespace G3D.MeasTie.Examples
open G3D G3D.MeasRt G3D.KTie G3D.Extracted G3D.MeasTie Real

/-! ### corollaries -/
theorem areaNum_nonneg (P : Polygon) : 0 ≤ P.areaNum := by
  unfold Polygon.areaNum
  apply List.sum_nonneg
  intro x hx
  obtain ⟨e, _, rfl⟩ := List.mem_map.mp hx
  exact absQ_nonneg _

/-- **the generated `ConvexPolygon.area` computes the true area** `|½ Σ pᵢ × pᵢ₊₁|` of a `Valid` polygon whose stored
    centre is the vertex mean -/
theorem m_ConvexPolygon_area_true (P : Polygon) (hv : P.Valid) (hc : P.center = meanV P.pts) :
    m_ConvexPolygon_area (polyToM P) = √((V3.normSq (vecArea2 P.pts) : ℚ) : ℝ) / 2 := by
  rw [Polygon.m_ConvexPolygon_area_of_mean P hv hc]
  have hn : P.plane.n ≠ V3.zero := Polygon.plane_WF P hv
  have hN := nn_pos hn
  have hNq : (0 : ℚ) < V3.normSq P.plane.n := G3D.normSq_pos hn
  have hsN : 0 < √((V3.normSq P.plane.n : ℚ) : ℝ) := Real.sqrt_pos.mpr hN
  have hsq := Polygon.areaSq_eq_vecArea P hv (Polygon.CentreInside.of_mean hv hc)
  unfold Polygon.areaSq at hsq
  have hq : P.areaNum ^ 2 = V3.normSq P.plane.n * V3.normSq (vecArea2 P.pts) := by
    field_simp at hsq
    linarith
  have hR : ((P.areaNum : ℚ) : ℝ) ^ 2 = ((V3.normSq P.plane.n : ℚ) : ℝ) * ((V3.normSq (vecArea2 P.pts) : ℚ) : ℝ) := by
    exact_mod_cast hq
  have ha : (0 : ℝ) ≤ ((P.areaNum : ℚ) : ℝ) := by exact_mod_cast areaNum_nonneg P
  have hW : √((V3.normSq (vecArea2 P.pts) : ℚ) : ℝ) * √((V3.normSq P.plane.n : ℚ) : ℝ) = ((P.areaNum : ℚ) : ℝ) := by
    rw [← Real.sqrt_mul' _ hN.le, mul_comm, ← hR, Real.sqrt_sq ha]
  rw [← hW]
  field_simp

/-- the pyramids stored by a successful constructor call stand on the INPUT polygons -/
theorem pyramids_measOK_of_mk? (input : List Polygon) (B : Polyhedron) (h : Polyhedron.mk? input = .ok B)
    (hin : ∀ g ∈ input, MeasOK g) : ∀ pa ∈ B.pyramids, MeasOK pa.1 := by
  obtain ⟨_, _, _, _, _, hP, _⟩ := Polyhedron.mk?_eq input B h
  intro pa hpa
  rw [hP] at hpa
  obtain ⟨g, hg, rfl⟩ := List.mem_map.mp hpa
  exact hin g hg

/-- **every successful `ConvexPolyhedron(input)`** on valid input polygons (centres in their planes): the generated
    `volume` method and the generated `volume(..)` function both return the model's rational volume -/
theorem volume_of_mk? (input : List Polygon) (B : Polyhedron) (h : Polyhedron.mk? input = .ok B)
    (hin : ∀ g ∈ input, MeasOK g) (k : ℕ) :
    m_ConvexPolyhedron_volume (bodyToM B) = ((B.volume : ℚ) : ℝ) ∧
    m_volume (k + 2) (MObj.polyhedron (bodyToM B)) = .ok (((B.volume : ℚ) : ℝ)) :=
  ⟨Polyhedron.m_ConvexPolyhedron_volume_model B (pyramids_measOK_of_mk? input B h hin),
   Volume.m_volume_polyhedron_tie k B (pyramids_measOK_of_mk? input B h hin) (bodyToM B) (List.Perm.refl _)⟩

/-- a `Valid` body (K5 validity: every face Valid, its stored centre in its plane) satisfies the hypothesis of the area tie -/
theorem area_of_valid (B : Polyhedron) (hV : B.Valid) :
    m_ConvexPolyhedron_area (bodyToM B)
      = (B.faceAreaNums.map (fun an => ((an.1 : ℚ) : ℝ) / (2 * √((an.2 : ℚ) : ℝ)))).sum :=
  Polyhedron.m_ConvexPolyhedron_area_tie B (fun f hf => ⟨hV.faces_valid f hf, hV.center_in_plane f hf⟩)

/-! ### concrete objects -/
theorem sqrt_cast_sq (q : ℚ) (r : ℝ) (hr : 0 ≤ r) (h : ((q : ℚ) : ℝ) = r ^ 2) : √((q : ℚ) : ℝ) = r := by
  rw [h, Real.sqrt_sq hr]

/-- a 3-4-5 segment -/
example : m_Segment_length (segToM (Seg.mk' ⟨0, 0, 0⟩ ⟨3, 4, 0⟩)) = 5 := by
  rw [Segment.m_Segment_length_tie]
  apply sqrt_cast_sq _ 5 (by norm_num)
  have : (Seg.mk' ⟨0, 0, 0⟩ ⟨3, 4, 0⟩).lenSq = 25 := by decide +kernel
  rw [this]; norm_num

/-- the bottom face of the unit cube `(0,0,0) (0,1,0) (1,1,0) (1,0,0)`, normal `(0,0,-1)`, centre `(½,½,0)` -/
def sq : Polygon := cycleFace [⟨0,0,0⟩, ⟨0,1,0⟩, ⟨1,1,0⟩, ⟨1,0,0⟩]

theorem sq_mem : sq ∈ unitCube.faces := by decide +kernel

theorem unitCube_faces_ok : ∀ g ∈ unitCube.faces, MeasOK g :=
  fun g hg => ⟨unitCube_valid.faces_valid g hg, unitCube_valid.center_in_plane g hg⟩

theorem sq_ok : MeasOK sq := unitCube_faces_ok sq sq_mem

theorem sq_normSq : V3.normSq sq.plane.n = 1 := by decide +kernel
theorem sq_pyrVol : pyramidVolume sq ⟨1/2, 1/2, 1/2⟩ = 1 / 6 := by decide +kernel

/-- `area()` of the square is 1 -/
example : m_ConvexPolygon_area (polyToM sq) = 1 := by
  rw [Polygon.m_ConvexPolygon_area_tie sq sq_ok]
  have h1 : sq.areaNum = 2 := by decide +kernel
  rw [h1, sq_normSq]; norm_num

/-- … and it is the true area `|½ Σ pᵢ × pᵢ₊₁|` (hypotheses of `m_ConvexPolygon_area_true`) -/
example : m_ConvexPolygon_area (polyToM sq) = √((V3.normSq (vecArea2 sq.pts) : ℚ) : ℝ) / 2 :=
  m_ConvexPolygon_area_true sq sq_ok.1 (by decide +kernel)

/-- the pyramid on the square with apex at the centre of the cube: height ½, volume ⅙ -/
example : m_Pyramid_height (pyrToM (sq, ⟨1/2, 1/2, 1/2⟩)) = 1 / 2 := by
  rw [Pyramid.m_Pyramid_height_tie sq _ (Polygon.plane_WF sq sq_ok.1)]
  have h1 : pyramidHeightNum sq ⟨1/2, 1/2, 1/2⟩ = 1 / 2 := by decide +kernel
  rw [h1, sq_normSq]; norm_num

example : m_Pyramid_volume (pyrToM (sq, ⟨1/2, 1/2, 1/2⟩)) = 1 / 6 := by
  rw [Pyramid.m_Pyramid_volume_tie sq _ sq_ok]
  rw [sq_pyrVol]; norm_num

/-- `volume(pyramid)` = ⅙ = `pyramid.volume()`, with any recursion allowance ≥ 1; anything else raises -/
example (k : ℕ) : m_volume (k + 1) (MObj.pyramid (pyrToM (sq, ⟨1/2, 1/2, 1/2⟩))) = .ok (1 / 6) := by
  rw [Volume.m_volume_pyramid_tie k sq _ sq_ok]
  rw [sq_pyrVol]; norm_num

example (k : ℕ) : m_volume (k + 1) (MObj.pyramid (pyrToM (sq, ⟨1/2, 1/2, 1/2⟩)))
    = .ok (m_Pyramid_volume (pyrToM (sq, ⟨1/2, 1/2, 1/2⟩))) :=
  VolumeEq.volume_fn_eq_method_pyramid k sq _ sq_ok.1

example : m_volume 1 MObj.other = .error "ValueError" := Volume.m_volume_other 0

/-- the cube as the constructor builds it from the six outward faces: volume 1 by the method and by the function,
    surface area 6, total edge length 12 -/
example (B : Polyhedron) (h : Polyhedron.mk? unitCube.faces = .ok B) (k : ℕ) :
    m_ConvexPolyhedron_volume (bodyToM B) = 1 ∧
    m_volume (k + 2) (MObj.polyhedron (bodyToM B)) = .ok 1 ∧
    m_volume (k + 2) (MObj.polyhedron (bodyToM B)) = .ok (m_ConvexPolyhedron_volume (bodyToM B)) ∧
    m_ConvexPolyhedron_length (bodyToM B) = 12 := by
  have hv : (Polyhedron.mk? unitCube.faces).map (fun B => (B.volume, B.edgeLenSqs)) = .ok (1, List.replicate 12 1) := by
    decide +kernel
  rw [h] at hv
  have hvol : B.volume = 1 := congrArg Prod.fst (Except.ok.inj hv)
  have hed : B.edgeLenSqs = List.replicate 12 1 := congrArg Prod.snd (Except.ok.inj hv)
  obtain ⟨h1, h2⟩ := volume_of_mk? unitCube.faces B h unitCube_faces_ok k
  have hpv : ∀ pa ∈ B.pyramids, pa.1.Valid := fun pa hpa => (pyramids_measOK_of_mk? _ B h unitCube_faces_ok pa hpa).1
  refine ⟨?_, ?_, VolumeEq.volume_fn_eq_method_polyhedron k B hpv, ?_⟩
  · rw [h1, hvol]; norm_num
  · rw [h2, hvol]; norm_num
  · rw [Polyhedron.m_ConvexPolyhedron_length_model, hed]
    simp [List.replicate]
    norm_num

/-- surface area of the unit cube (`unitCube` is K5-`Valid`): six faces of area 1 -/
example : m_ConvexPolyhedron_area (bodyToM unitCube) = 6 := by
  rw [area_of_valid unitCube unitCube_valid]
  have : unitCube.faceAreaNums = List.replicate 6 (2, 1) := by decide +kernel
  rw [this]
  simp [List.replicate]
  norm_num

#print axioms m_ConvexPolygon_area_true
#print axioms pyramids_measOK_of_mk?
#print axioms volume_of_mk?
#print axioms area_of_valid
end G3D.MeasTie.Examples
