import G3D.Proofs.K3b
import G3D.Proofs.SortValid
import G3D.Proofs.BodySoundSets
import G3D.Proofs.K2Geom

/-! # Kernel K3, part c: Plane × ConvexPolyhedron — the section is the hull of the edge hits

    `a ∩ K = hull (hits)`, where the hits are the Point results of `intersection(a, edge)` over the listed edges
    (`K3.Section.section_hull`), every hit is a strictly exposed point of the section (`K3.Section.strictConvexPos`), hence the
    constructor `ConvexPolygon(hits)` succeeds (K6) and `interPlanePolyhedron` is exact. -/
namespace G3D
open V3

/-- every edge of every face is listed (in one of the two directions) -/
def Polyhedron.EdgesComplete (B : Polyhedron) : Prop :=
  ∀ f ∈ B.faces, ∀ e ∈ closedPairs f.pts, ∃ s ∈ B.edges, (s.a = e.1 ∧ s.b = e.2) ∨ (s.a = e.2 ∧ s.b = e.1)

/-! ### small facts -/
theorem interPlaneSeg_cases (a : Plane) (s : Seg) (o : Option Geo) (h : interPlaneSeg a s = .ok o) :
    o = none ∨ (∃ q, o = some (.point q)) ∨ (o = some (.seg s) ∧ a.containsLine s.line = true) := by
  unfold interPlaneSeg at h
  cases hr : interLinePlane s.line a with
  | error e => rw [hr] at h; cases h
  | ok o' =>
    rw [hr] at h
    rcases interLinePlane_shape s.line a o' hr with rfl | ⟨q, rfl⟩ | ⟨rfl, hc⟩
    · cases h; exact Or.inl rfl
    · simp only [interPointSeg] at h
      cases h
      split
      · exact Or.inr (Or.inl ⟨q, rfl⟩)
      · exact Or.inl rfl
    · cases h; exact Or.inr (Or.inr ⟨rfl, hc⟩)

theorem interPlaneSeg_IsPS (a : Plane) (s : Seg) (o : Option Geo) (h : interPlaneSeg a s = .ok o) : IsPS o := by
  rcases interPlaneSeg_cases a s o h with rfl | ⟨q, rfl⟩ | ⟨rfl, _⟩ <;> trivial

theorem K3.consec_succ (z : V3) : ∀ (l : List V3) (u : V3), u ∈ l → ∃ v, (u, v) ∈ consec (l ++ [z])
  | [], u, h => by cases h
  | [a], u, h => by
    simp only [List.mem_singleton] at h; subst h
    exact ⟨z, by simp [consec]⟩
  | a :: b :: l, u, h => by
    rcases List.mem_cons.mp h with rfl | h
    · exact ⟨b, by simp [consec]⟩
    · obtain ⟨v, hv⟩ := K3.consec_succ z (b :: l) u h
      exact ⟨v, by simp only [List.cons_append, consec, List.mem_cons] at hv ⊢; exact Or.inr hv⟩

theorem K3.consec_pred : ∀ (l : List V3) (z u : V3), u ∈ l → ∃ u', (u', u) ∈ consec (z :: l)
  | [], _, u, h => by cases h
  | a :: l, z, u, h => by
    rcases List.mem_cons.mp h with rfl | h
    · exact ⟨z, by simp [consec]⟩
    · obtain ⟨u', hu'⟩ := K3.consec_pred l a u h
      exact ⟨u', by simp only [consec, List.mem_cons]; exact Or.inr hu'⟩

/-- every vertex of a cycle is the start of an edge and the end of an edge -/
theorem K3.vertex_edges (l : List V3) (u : V3) (hu : u ∈ l) :
    (∃ v, (u, v) ∈ closedPairs l) ∧ (∃ u', (u', u) ∈ closedPairs l) := by
  cases l with
  | nil => cases hu
  | cons p ps =>
    constructor
    · obtain ⟨v, hv⟩ := K3.consec_succ p (p :: ps) u hu
      exact ⟨v, by simpa [closedPairs] using hv⟩
    · have hu' : u ∈ ps ++ [p] := by
        rcases List.mem_cons.mp hu with rfl | h
        · simp
        · simp [h]
      obtain ⟨u', hu''⟩ := K3.consec_pred (ps ++ [p]) p u hu'
      exact ⟨u', by simpa [closedPairs] using hu''⟩

theorem K3.den_of_two (a : Plane) (o d : V3) {t1 t2 : Rat} (hne : t1 ≠ t2) (h1 : a.den (pt o d t1))
    (h2 : a.den (pt o d t2)) (t : Rat) : a.den (pt o d t) := by
  have e : ∀ t, dot a.n (sub (pt o d t) a.p) = dot a.n (sub o a.p) + t * dot a.n d := fun t => by
    simp only [dot, sub, pt, add, smul]; ring
  unfold Plane.den at h1 h2 ⊢
  rw [e] at h1 h2 ⊢
  have : (t1 - t2) * dot a.n d = 0 := by linarith
  rw [(mul_eq_zero.mp this).resolve_left (sub_ne_zero.mpr hne)] at h1 ⊢
  linarith

/-! ### chord of a polygon along a line of its plane: both ends lie on edges -/
theorem K3.polygon_chord (f : Polygon) (hv : f.Valid) (z d : V3) (hz : InHull f.pts z) (hd : d ≠ zero)
    (hdn : dot f.plane.n d = 0) :
    ∃ t0 t1 : Rat, t0 ≤ 0 ∧ 0 ≤ t1 ∧ (∃ e ∈ closedPairs f.pts, Between e.1 e.2 (pt z d t0)) ∧
      (∃ e ∈ closedPairs f.pts, Between e.1 e.2 (pt z d t1)) := by
  have hfeas := Polygon.feas_iff f hv z d (hull_inPlane f hv z hz) hdn
  have h0 : Feas (cycleCons f.plane.n f.pts z d) 0 := (hfeas 0).mpr (by rw [pt_at_zero]; exact hz)
  obtain ⟨hpos, hneg⟩ := Polygon.slopes f hv z d hd hdn
  obtain ⟨tlo, hflo, hlo, clo, hclo, _, hclot⟩ := lp_lo _ 0 h0 hpos
  obtain ⟨thi, hfhi, hhi, chi, hchi, _, hchit⟩ := lp_hi _ 0 h0 hneg
  obtain ⟨e0, he0, hb0, _⟩ := Polygon.tight_on_edge f hv z d tlo ((hfeas tlo).mp hflo) clo hclo hclot
  obtain ⟨e1, he1, hb1, _⟩ := Polygon.tight_on_edge f hv z d thi ((hfeas thi).mp hfhi) chi hchi hchit
  exact ⟨tlo, thi, hlo 0 h0, hhi 0 h0, ⟨e0, he0, hb0⟩, ⟨e1, he1, hb1⟩⟩

/-- exchange identity for `n . (u × z)` against a functional `m`; the last term vanishes for `u, w, z ⊥ n` -/
theorem K3.cross_exchange (n m u w z : V3) :
    dot n (cross u z) * dot m w - dot n (cross u w) * dot m z =
      dot n (cross w z) * dot m u - dot (cross u w) z * dot m n := by
  simp only [dot, cross]; ring

/-- the neighbouring half-space restricted to the plane of `f`: tight on the neighbour ⇒ on the carrier of the edge
    (equality case of `edge_of_neighbour`) -/
theorem K3.edge_of_neighbour_eq (n pl a b v y q m : V3) (hn : n ≠ zero)
    (ha : inPlane n pl a = true) (hb : inPlane n pl b = true) (hv : inPlane n pl v = true)
    (hy : inPlane n pl y = true)
    (hGa : dot (sub a q) m = 0) (hGb : dot (sub b q) m = 0)
    (hGv : dot (sub v q) m ≠ 0) (hGy : dot (sub y q) m = 0) :
    orient n a b y = 0 := by
  have mu : dot m (sub b a) = 0 := by simp only [dot, sub] at hGa hGb ⊢; linarith
  have mz : dot m (sub y a) = 0 := by simp only [dot, sub] at hGa hGy ⊢; linarith
  have mw : dot m (sub v a) ≠ 0 := by
    intro h; apply hGv
    simp only [dot, sub] at hGa h ⊢; linarith
  have key := K3.cross_exchange n m (sub b a) (sub v a) (sub y a)
  rw [K3.trip_zero_of_perp n _ _ _ hn (inPlane_diff ha hb) (inPlane_diff ha hv) (inPlane_diff ha hy), mu, mz] at key
  have : orient n a b y * dot m (sub v a) = 0 := by unfold orient; linarith
  exact (mul_eq_zero.mp this).resolve_right mw

/-! ### the generic branch of the plane handler -/

/-- the data of the generic branch: no face lies in the plane `a`, `out` is the set of Point hits on the edges -/
structure K3.Section (a : Plane) (B : Polyhedron) (out : List V3) : Prop where
  aWF : a.WF
  proper : B.Proper
  edgeWF : ∀ s ∈ B.edges, s.WF
  real : B.EdgesReal
  complete : B.EdgesComplete
  noFace : ∀ f ∈ B.faces, f.plane.eqv a = false
  hits : ∀ p, p ∈ out ↔ ∃ s ∈ B.edges, interPlaneSeg a s = .ok (some (.point p))

namespace K3.Section
variable {a : Plane} {B : Polyhedron} {out : List V3}

/-- a point of `a` on a listed edge is a hit, or the whole edge lies in `a` -/
theorem edge_mem (S : K3.Section a B out) (s : Seg) (hs : s ∈ B.edges) (w : V3) (ha : a.den w) (hw : s.den w) :
    w ∈ out ∨ (a.den s.a ∧ a.den s.b) := by
  have hsW := S.edgeWF s hs
  obtain ⟨o, ho, _, hd⟩ := interPlaneSeg_exact a s hsW
  rcases interPlaneSeg_cases a s o ho with rfl | ⟨q, rfl⟩ | ⟨rfl, hc⟩
  · exact absurd ((hd w).mpr ⟨ha, hw⟩) (by simp [denOpt])
  · have : w = q := (hd w).mpr ⟨ha, hw⟩
    subst this
    exact Or.inl ((S.hits w).mpr ⟨s, hs, ho⟩)
  · right
    have h := (Plane.containsLine_iff a s.line).mp hc
    exact ⟨h _ (s.den_sub_line hsW _ s.a_mem_den), h _ (s.den_sub_line hsW _ s.b_mem_den)⟩

/-- every hit lies in the plane and in the body -/
theorem hit_mem (S : K3.Section a B out) (p : V3) (hp : p ∈ out) : a.den p ∧ B.contains p = true := by
  obtain ⟨s, hs, hsp⟩ := (S.hits p).mp hp
  have := (interPlaneSeg_exact a s (S.edgeWF s hs)).point_mem p hsp
  exact ⟨this.1, S.proper.edge_sub S.real s hs p this.2⟩

theorem plane_den_of_face (S : K3.Section a B out) (f : Polygon) (hf : f ∈ B.faces) (x : V3) (hx : x ∈ f.pts) :
    f.plane.den x :=
  (Plane.contains_iff _ _).mp ((S.proper.core.faces_valid f hf).pts_in_plane x hx)

/-- three non-collinear vertices of a face do not all lie in `a` -/
theorem not_three (S : K3.Section a B out) (f : Polygon) (hf : f ∈ B.faces) (p0 p1 p2 : V3)
    (h0 : p0 ∈ f.pts) (h1 : p1 ∈ f.pts) (h2 : p2 ∈ f.pts) (hw : cross (sub p1 p0) (sub p2 p0) ≠ zero)
    (a0 : a.den p0) (a1 : a.den p1) (a2 : a.den p2) : False := by
  have fW := Polygon.plane_WF f (S.proper.core.faces_valid f hf)
  have hpar := parallel_normals_of_three f.plane a hw (S.plane_den_of_face f hf _ h0)
    (S.plane_den_of_face f hf _ h1) (S.plane_den_of_face f hf _ h2) a0 a1 a2
  have := Plane.eqv_of_parallel_common f.plane a fW S.aWF hpar p0 (S.plane_den_of_face f hf _ h0) a0
  rw [S.noFace f hf] at this; cases this

/-- a vertex of a face lying in `a` is a hit -/
theorem vertex_hit (S : K3.Section a B out) (f : Polygon) (hf : f ∈ B.faces) (u : V3) (hu : u ∈ f.pts)
    (hau : a.den u) : u ∈ out := by
  have hv := S.proper.core.faces_valid f hf
  obtain ⟨⟨v, huv⟩, ⟨u', hu'u⟩⟩ := K3.vertex_edges f.pts u hu
  obtain ⟨s1, hs1, hse1⟩ := S.complete f hf (u, v) huv
  obtain ⟨s2, hs2, hse2⟩ := S.complete f hf (u', u) hu'u
  simp only at hse1 hse2
  have d1 : s1.den u := (seg_den_edge s1 (u, v) hse1 u).mpr (Seg.mk' u v).a_mem_den
  have d2 : s2.den u := (seg_den_edge s2 (u', u) hse2 u).mpr (Seg.mk' u' u).b_mem_den
  rcases S.edge_mem s1 hs1 u hau d1 with h | ⟨ha1, hb1⟩
  · exact h
  rcases S.edge_mem s2 hs2 u hau d2 with h | ⟨ha2, hb2⟩
  · exact h
  exfalso
  have hav : a.den v := (K3.ends_of_edge (e := (u, v)) hse1 ha1 hb1).2
  have hau' : a.den u' := (K3.ends_of_edge (e := (u', u)) hse2 ha2 hb2).1
  have hmv := (closedPairs_mem f.pts _ huv).2
  have hmu' := (closedPairs_mem f.pts _ hu'u).1
  obtain ⟨_, _, _, _, _, _, htp⟩ := id hv
  have hpos : 0 < orient f.plane.n u' u v := by
    rcases closed_edges_pos f.plane.n f.pts htp (u', u) hu'u v hmv with h | h | h
    · exact h
    · exfalso
      simp only at h
      rw [h] at huv
      exact Polygon.no_rev_edge f hv (u', u) hu'u huv
    · exfalso
      simp only at h
      rw [h] at huv
      exact hv.edge_ne (u, u) huv rfl
  refine S.not_three f hf u' u v hmu' hu hmv ?_ hau' hau hav
  intro hz
  unfold orient at hpos
  rw [hz] at hpos
  simp [dot, zero] at hpos

/-- a point of `a` on an edge of a face is in the hull of the hits -/
theorem edge_point (S : K3.Section a B out) (f : Polygon) (hf : f ∈ B.faces) (e : V3 × V3)
    (he : e ∈ closedPairs f.pts) (w : V3) (hw : Between e.1 e.2 w) (haw : a.den w) : InHull out w := by
  obtain ⟨s, hs, hse⟩ := S.complete f hf e he
  have hm := closedPairs_mem f.pts e he
  rcases S.edge_mem s hs w haw ((seg_den_edge s e hse w).mpr hw) with h | ⟨ha1, hb1⟩
  · exact vertex_in_hull _ _ h
  · obtain ⟨h1, h2⟩ := K3.ends_of_edge hse ha1 hb1
    exact InHull.between (vertex_in_hull _ _ (S.vertex_hit f hf _ hm.1 h1))
      (vertex_in_hull _ _ (S.vertex_hit f hf _ hm.2 h2)) hw

/-- a point of `a` in a face is in the hull of the hits -/
theorem face_point (S : K3.Section a B out) (f : Polygon) (hf : f ∈ B.faces) (z : V3) (hz : InHull f.pts z)
    (haz : a.den z) : InHull out z := by
  have hv := S.proper.core.faces_valid f hf
  have fW := Polygon.plane_WF f hv
  set d := cross a.n f.plane.n with hd
  have hd0 : d ≠ zero := by
    intro h
    have hpar : V3.parallel f.plane.n a.n = true := by
      rw [parallel_iff_cross, cross_anticomm, ← hd, h]; apply V3.ext' <;> simp [neg, zero]
    have := Plane.eqv_of_parallel_common f.plane a fW S.aWF hpar z (Polygon.hull_in_plane f hv z hz) haz
    rw [S.noFace f hf] at this; cases this
  have hda : dot a.n d = 0 := by rw [hd]; exact dot_cross_self _ _
  have hdf : dot f.plane.n d = 0 := by rw [hd]; simp only [dot, cross]; ring
  obtain ⟨t0, t1, h0, h1, ⟨e0, he0, hb0⟩, ⟨e1, he1, hb1⟩⟩ := K3.polygon_chord f hv z d hz hd0 hdf
  have i0 := S.edge_point f hf e0 he0 _ hb0 (a.den_pt haz hda t0)
  have i1 := S.edge_point f hf e1 he1 _ hb1 (a.den_pt haz hda t1)
  exact InHull.between i0 i1 (Between_pt_origin h0 h1)

/-- a point of `a` in the body is in the hull of the hits -/
theorem body_point (S : K3.Section a B out) (y : V3) (hay : a.den y) (hy : B.contains y = true) :
    InHull out y := by
  obtain ⟨hdn, hd0⟩ := K3.perp_spec a.n
  set d := K3.perp a.n with hd
  have h0 : B.contains (pt y d 0) = true := by rw [pt_at_zero]; exact hy
  obtain ⟨tlo, thi, hle, hiff, ⟨f2, hf2, hs2, _⟩, ⟨f1, hf1, hs1, _⟩⟩ :=
    B.line_interval S.proper.hullCore y d hd0 ⟨0, h0⟩
  have hz := (hiff 0).mp h0
  have k2 := S.proper.tight _ ((hiff tlo).mpr ⟨le_refl _, hle⟩) f2 hf2 hs2
  have k1 := S.proper.tight _ ((hiff thi).mpr ⟨hle, le_refl _⟩) f1 hf1 hs1
  have i2 := S.face_point f2 hf2 _ k2 (a.den_pt hay hdn tlo)
  have i1 := S.face_point f1 hf1 _ k1 (a.den_pt hay hdn thi)
  exact InHull.between i2 i1 (Between_pt_origin hz.1 hz.2)

/-- **K3**: the section of the body by the plane is the convex hull of the edge hits -/
theorem section_hull (S : K3.Section a B out) (x : V3) : (a.den x ∧ B.contains x = true) ↔ InHull out x := by
  constructor
  · rintro ⟨h1, h2⟩; exact S.body_point x h1 h2
  · intro hx
    exact ⟨InHull.sub_of_conv (Plane.den_conv a) out (fun p hp => (S.hit_mem p hp).1) x hx,
      Polyhedron.contains_of_hull B out (fun p hp => (S.hit_mem p hp).2) x hx⟩

end K3.Section
#print axioms K3.Section.section_hull


/-! ### every hit is a strictly exposed point of the section -/
namespace K3.Section
variable {a : Plane} {B : Polyhedron} {out : List V3}

theorem hit_exposed (S : K3.Section a B out) (p : V3) (hp : p ∈ out) :
    ∃ d : V3, ∀ q ∈ out, q ≠ p → dot d q < dot d p := by
  obtain ⟨s, hs, hsp⟩ := (S.hits p).mp hp
  have hsW := S.edgeWF s hs
  obtain ⟨o, ho, _, hd⟩ := interPlaneSeg_exact a s hsW
  rw [hsp] at ho; cases ho
  have hex : ∀ y, y = p ↔ (a.den y ∧ s.den y) := fun y => hd y
  obtain ⟨f, hf, e, he, hse⟩ := S.real s hs
  obtain ⟨g, hg, hg1, hg2, v, hv, hgv⟩ := S.proper.faceLocal f hf e he
  have hfv := S.proper.core.faces_valid f hf
  have hm := closedPairs_mem f.pts e he
  have hpe : Between e.1 e.2 p := (seg_den_edge s e hse p).mp ((hex p).mp rfl).2
  have hpf : f.side p = 0 := S.proper.side_of_face f hf p (between_in_hull hm.1 hm.2 hpe)
  have hpg : g.side p = 0 := by
    obtain ⟨t, _, _, rfl⟩ := hpe
    exact K3.side_zero_of_two g e.1 (sub e.2 e.1) (ta := 0) (tb := 1) (by norm_num)
      (by rw [pt_at_zero]; exact hg1) (by rw [pt_one_sub]; exact hg2) t
  refine ⟨add f.plane.n g.plane.n, fun q hq hqp => ?_⟩
  obtain ⟨haq, hKq⟩ := S.hit_mem q hq
  have sf := (B.contains_iff_side q).mp hKq f hf
  have sg := (B.contains_iff_side q).mp hKq g hg
  have key : dot (add f.plane.n g.plane.n) q - dot (add f.plane.n g.plane.n) p =
      (f.side q - f.side p) + (g.side q - g.side p) := by
    simp only [Polygon.side, dot, add, sub]; ring
  rw [hpf, hpg] at key
  by_contra hcon
  have hcon := not_lt.mp hcon
  have hf0 : f.side q = 0 := by linarith
  have hg0 : g.side q = 0 := by linarith
  have hqin := (f.side_zero_inPlane (S.proper.core.center_in_plane f hf) q).mp hf0
  have hn := Polygon.plane_WF f hfv
  obtain ⟨_, _, _, _, _, hpl, _⟩ := id hfv
  have hor := K3.edge_of_neighbour_eq f.plane.n f.plane.p e.1 e.2 v q g.center g.plane.n hn
    (hpl _ hm.1) (hpl _ hm.2) (hpl _ hv) hqin hg1 hg2 (ne_of_lt hgv) hg0
  have hne12 : e.1 ≠ e.2 := hfv.edge_ne e he
  obtain ⟨uq, hqe⟩ := on_carrier_of_orient_zero hn hne12 (hpl _ hm.1) (hpl _ hm.2) hqin hor
  obtain ⟨up, _, _, hpe'⟩ := hpe
  have hu : uq ≠ up := by intro h; apply hqp; rw [hqe, hpe', h]
  have hap : a.den p := ((hex p).mp rfl).1
  -- `p ≠ q` lie in `a` and on the carrier of the edge: the whole carrier lies in `a`, so both ends of the edge are `p`
  rw [hqe] at haq
  rw [hpe'] at hap
  have hline := K3.den_of_two a e.1 (sub e.2 e.1) hu haq hap
  have e1p : e.1 = p := (hex e.1).mpr
    ⟨by simpa [pt_at_zero] using hline 0, (seg_den_edge s e hse e.1).mpr (Seg.mk' e.1 e.2).a_mem_den⟩
  have e2p : e.2 = p := (hex e.2).mpr
    ⟨by simpa [pt_one_sub] using hline 1, (seg_den_edge s e hse e.2).mpr (Seg.mk' e.1 e.2).b_mem_den⟩
  exact hne12 (e1p.trans e2p.symm)

/-- the hits are in strictly convex position (every hit is a vertex of the section) -/
theorem strictConvexPos (S : K3.Section a B out) : StrictConvexPos out := fun p hp => S.hit_exposed p hp

end K3.Section
#print axioms K3.Section.strictConvexPos

/-- the generic branch: the edge loop succeeds, and its duplicate-free result is the data of a section -/
theorem K3.Section.of_find (a : Plane) (ha : a.WF) (B : Polyhedron) (hP : B.Proper)
    (hEW : ∀ s ∈ B.edges, s.WF) (hR : B.EdgesReal) (hC : B.EdgesComplete)
    (hfind : B.faces.find? (fun f => f.inPlane a) = none) :
    ∃ out, edgeHits (interPlaneSeg a) B.edges [] = .ok out ∧ out.Nodup ∧ K3.Section a B out := by
  have hno : ∀ f ∈ B.faces, f.plane.eqv a = false := by
    intro f hf
    have := List.find?_eq_none.mp hfind f hf
    simpa [Polygon.inPlane] using this
  obtain ⟨out, hout⟩ := edgeHits_total (interPlaneSeg a) B.edges []
    (fun s hs => by
      obtain ⟨o, ho, _, _⟩ := interPlaneSeg_exact a s (hEW s hs)
      exact ⟨o, ho, interPlaneSeg_IsPS a s o ho⟩)
  obtain ⟨hmem, hnd⟩ := edgeHits_mem _ _ _ _ hout
  exact ⟨out, hout, hnd List.nodup_nil, ha, hP, hEW, hR, hC, hno, fun p => by rw [hmem p]; simp⟩

/-! ### 4. Plane × ConvexPolyhedron -/

/-- **Plane × ConvexPolyhedron is exact**: for a well-formed plane and a `Proper` polyhedron whose listed edges are
    well-formed Segments and are exactly the edges of the faces, the handler succeeds and returns an object denoting
    exactly `a ∩ K`: the coincident face, or None / Point / Segment / `ConvexPolygon(hits)` — in the last case the
    constructor succeeds, the polygon is `Valid` and its vertex list is a permutation of the hits
    (`interPlanePolyhedron_polygon_valid`). -/
theorem interPlanePolyhedron_exact (a : Plane) (ha : a.WF) (B : Polyhedron) (hP : B.Proper)
    (hEW : ∀ s ∈ B.edges, s.WF) (hR : B.EdgesReal) (hC : B.EdgesComplete) :
    ExactW (interPlanePolyhedron a B) a.den (BodyDen B) := by
  rw [interPlanePolyhedron_eq]
  cases hfind : B.faces.find? (fun f => f.inPlane a) with
  | some f =>
    simp only
    have hf : f ∈ B.faces := List.mem_of_find?_eq_some hfind
    have hin : f.plane.eqv a = true := by simpa [Polygon.inPlane] using List.find?_some hfind
    have hv := hP.core.faces_valid f hf
    have hden := Plane.eqv_den f.plane a (Polygon.plane_WF f hv) ha hin
    refine ⟨_, rfl, trivial, fun x => ?_⟩
    show InHull f.pts x ↔ _
    constructor
    · intro h; exact ⟨(hden x).mp (Polygon.hull_in_plane f hv x h), hP.face_sub f hf x h⟩
    · rintro ⟨h1, h2⟩
      refine hP.tight x h2 f hf ?_
      apply (f.side_zero_inPlane (hP.core.center_in_plane f hf) x).mpr
      have := (hden x).mpr h1
      simp only [G3D.inPlane, beq_iff_eq]
      exact this
  | none =>
    simp only
    obtain ⟨out, hout, hnd, S⟩ := K3.Section.of_find a ha B hP hEW hR hC hfind
    obtain ⟨o, ho, hw, hd⟩ := ofHits_exact a.n ha out hnd S.strictConvexPos
      (fun p hp q hq => a.dot_sub_eq_zero (S.hit_mem q hq).1 (S.hit_mem p hp).1)
    rw [hout]
    exact ⟨o, ho, hw, fun x => by rw [hd x]; exact (S.section_hull x).symm⟩
#print axioms interPlanePolyhedron_exact

end G3D
