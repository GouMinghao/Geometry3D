import G3D.Extracted.Khash
import G3D.Proofs.KhashLemmas
/-! # khash, `ConvexPolygon.__hash__`, `_get_point_hash_sum`, `hash_with_normal`: the STRUCTURE of the hashed tuple, for every
    reading of the comparisons  (C08)
    `G3D.Extracted.impl_hash_*` are regenerated on every run (tools/extract_khash.py, engine tools/khash_engine.py on tools/kernels_engine.py):
    the REAL `__hash__` bodies are run on symbolic numbers with `hash` / `round` / `get_sig_figures` / `get_eps` shimmed; `H` is the
    uninterpreted hash of a tuple, `rnd` / `rndI` the uninterpreted `round(., get_sig_figures())` on numbers / integers, `sig` / `neg`
    the uninterpreted answers to `abs(c) > get_eps()` / `c < 0`.  Every statement holds FOR ALL H, rnd, rndI.  Each kernel has its own
    `section`: when the walk of ONE kernel fails the generated file holds only the marker `impl_<kernel>_EXTRACTION_FAILED` for it
    and exactly the theorems of that section stop compiling.  The reference functions (`…Ref`, `…OfKey`, `polygonHashAbs`, …) and their
    reading through the hash keys of `Model/HashKey.lean` / the hash-sum tuples of `Proofs/HashSum.lean` are hand-written in
    `Proofs/KhashLemmas.lean`.
    The polygon is walked with 3 and with 4 symbolic vertices (the constructor sorts the vertices with `atan2` and a `set` and is
    not run: the object is assembled from the attributes `points`, `plane` that the bodies read).  The hash delegates to
    `Point.__hash__` and `Plane.__hash__`: the extracted text calls `impl_hash_Point` / `impl_hash_Plane`.  The end-to-end
    statements (model key, equal polygons) are in `KTieKhashPolygonEq`, which also needs the Plane tie. -/
namespace G3D.KTie.Khash
open G3D G3D.Extracted G3D.KTie

section hash_ConvexPolygon3
/-- `_get_point_hash_sum`: the sum of the EXTRACTED point hashes over the vertex list -/
theorem pointHashSum_ConvexPolygon3_tie (H : HFun) (rnd : ℝ → ℝ) (a b c pp pn : RVec) :
    impl_pointHashSum_ConvexPolygon3 H rnd a b c pp pn = ([a, b, c].map (impl_hash_Point H rnd)).sum := by
  simp only [impl_pointHashSum_ConvexPolygon3, List.map, List.sum_eq_foldl, List.foldl]

/-- the square root met while `-self.plane` is built: the length of the negated stored normal -/
theorem hash_ConvexPolygon3_sqrt (a b c pp pn : RVec) : impl_hash_ConvexPolygon3_sqrt0 a b c pp pn = √(RVec.normSq (negR pn)) :=
  congrArg Real.sqrt (sum0 (negR pn))

/-- **the extracted tuple is `("ConvexPolygon", round(Σ hash(point)), hash(plane) + hash(-plane), hash(plane) * hash(-plane))`**
    with the extracted point hash and the extracted plane hash, `-plane` = (p, normalised −n); for EVERY reading of the comparisons -/
theorem hash_ConvexPolygon3_shape (H : HFun) (rnd : ℝ → ℝ) (rndI : Int → Int) (sig neg : ℝ → Bool) (a b c pp pn : RVec) :
    impl_hash_ConvexPolygon3 H rnd rndI sig neg a b c pp pn
      = polygonHashAbs H rndI (impl_hash_Point H rnd) (impl_hash_Plane H rnd sig neg) [a, b, c] pp pn := by
  simp only [impl_hash_ConvexPolygon3, hash_ConvexPolygon3_sqrt, polygonHashAbs, unitR, negR, List.map, List.sum_eq_foldl,
    List.foldl]

/-- the polygon hash itself asks no comparison: the oracles are handed to the plane hash -/
theorem hash_ConvexPolygon3_paths :
    impl_hash_ConvexPolygon3_oracles = [("sig", "abs(R) > eps"), ("neg", "R < 0")] ∧ impl_hash_ConvexPolygon3_paths = [[]] ∧
    impl_pointHashSum_ConvexPolygon3_oracles = [] ∧ impl_pointHashSum_ConvexPolygon3_paths = [[]] := ⟨rfl, rfl, rfl, rfl⟩

/-- (C19) every `round` of the body takes its digit count from the LIVE `get_sig_figures()` (offset 0) -/
theorem hash_ConvexPolygon3_roundings :
    impl_hash_ConvexPolygon3_roundings = [0] ∧ impl_pointHashSum_ConvexPolygon3_roundings = [] := ⟨rfl, rfl⟩
end hash_ConvexPolygon3

section hash_ConvexPolygon4
theorem pointHashSum_ConvexPolygon4_tie (H : HFun) (rnd : ℝ → ℝ) (a b c d pp pn : RVec) :
    impl_pointHashSum_ConvexPolygon4 H rnd a b c d pp pn = ([a, b, c, d].map (impl_hash_Point H rnd)).sum := by
  simp only [impl_pointHashSum_ConvexPolygon4, List.map, List.sum_eq_foldl, List.foldl]

theorem hash_ConvexPolygon4_sqrt (a b c d pp pn : RVec) : impl_hash_ConvexPolygon4_sqrt0 a b c d pp pn = √(RVec.normSq (negR pn)) :=
  congrArg Real.sqrt (sum0 (negR pn))

theorem hash_ConvexPolygon4_shape (H : HFun) (rnd : ℝ → ℝ) (rndI : Int → Int) (sig neg : ℝ → Bool) (a b c d pp pn : RVec) :
    impl_hash_ConvexPolygon4 H rnd rndI sig neg a b c d pp pn
      = polygonHashAbs H rndI (impl_hash_Point H rnd) (impl_hash_Plane H rnd sig neg) [a, b, c, d] pp pn := by
  simp only [impl_hash_ConvexPolygon4, hash_ConvexPolygon4_sqrt, polygonHashAbs, unitR, negR, List.map, List.sum_eq_foldl,
    List.foldl]

theorem hash_ConvexPolygon4_paths :
    impl_hash_ConvexPolygon4_oracles = [("sig", "abs(R) > eps"), ("neg", "R < 0")] ∧ impl_hash_ConvexPolygon4_paths = [[]] ∧
    impl_pointHashSum_ConvexPolygon4_oracles = [] ∧ impl_pointHashSum_ConvexPolygon4_paths = [[]] := ⟨rfl, rfl, rfl, rfl⟩

/-- (C19) every `round` of the body takes its digit count from the LIVE `get_sig_figures()` (offset 0) -/
theorem hash_ConvexPolygon4_roundings :
    impl_hash_ConvexPolygon4_roundings = [0] ∧ impl_pointHashSum_ConvexPolygon4_roundings = [] := ⟨rfl, rfl⟩
end hash_ConvexPolygon4

section hashWithNormal_ConvexPolygon3
/-- `hash_with_normal` (3 vertices): tag, the point-hash sum rounded to `get_sig_figures() - 5` digits, the stored normal and
    `n·p` rounded — NO sign canonicalisation and no comparison -/
theorem hashWithNormal_ConvexPolygon3_shape (H : HFun) (rnd : ℝ → ℝ) (rndIO : Int → Int → Int) (a b c pp pn : RVec) :
    impl_hashWithNormal_ConvexPolygon3 H rnd rndIO a b c pp pn
      = H [.tag "ConvexPolygon", .int (rndIO (-5) (([a, b, c].map (impl_hash_Point H rnd)).sum)), .num (rnd pn.x), .num (rnd pn.y),
           .num (rnd pn.z), .num (rnd (RVec.dot pn pp))] := by
  simp only [impl_hashWithNormal_ConvexPolygon3, RVec.dot, zero_add, List.map, List.sum_eq_foldl, List.foldl]

theorem hashWithNormal_ConvexPolygon3_paths :
    impl_hashWithNormal_ConvexPolygon3_oracles = [] ∧ impl_hashWithNormal_ConvexPolygon3_paths = [[]] := ⟨rfl, rfl⟩

/-- (C19) `hash_with_normal` rounds with `get_sig_figures() - 5` (the point-hash sum) and `get_sig_figures()` digits: both live -/
theorem hashWithNormal_ConvexPolygon3_roundings : impl_hashWithNormal_ConvexPolygon3_roundings = [-5, 0] := rfl
end hashWithNormal_ConvexPolygon3

#print axioms hash_ConvexPolygon3_shape
#print axioms hash_ConvexPolygon4_shape
#print axioms hashWithNormal_ConvexPolygon3_shape
end G3D.KTie.Khash
