import G3D.Proofs.Collinear
import G3D.Proofs.Equality

/-! C12 for flat primitives: corollaries of `interFlat_exact`. -/
namespace G3D
open V3

/-- result of a first intersection fed into a second one (`None` absorbs) -/
def interOptL (o : Option Geo) (c : Geo) : Res :=
  match o with
  | none => .ok none
  | some g => interFlat g c

def interOptR (a : Geo) (o : Option Geo) : Res :=
  match o with
  | none => .ok none
  | some g => interFlat a g

theorem Exact.of_subset {r : Res} {A B : V3 → Prop} (h : Exact r A B) (hsub : ∀ x, A x → B x) (hne : ∃ x, A x) :
    ∃ g, r = .ok (some g) ∧ g.WF ∧ ∀ x, g.den x ↔ A x := by
  obtain ⟨o, ho, hw, hd⟩ := h
  cases o with
  | none => obtain ⟨x, hx⟩ := hne; exact ((hd x).mpr ⟨hx, hsub x hx⟩).elim
  | some g => exact ⟨g, ho, hw g rfl, fun x => (hd x).trans ⟨And.left, fun h => ⟨h, hsub x h⟩⟩⟩

theorem interOptL_exact (o : Option Geo) (hw : ∀ g, o = some g → g.WF) (c : Geo) (hc : c.WF) :
    Exact (interOptL o c) (denOpt o) c.den := by
  cases o with
  | none => exact Exact.mk_none fun x h => h.1
  | some g => exact interFlat_exact g c (hw g rfl) hc

theorem interOptR_exact (a : Geo) (ha : a.WF) (o : Option Geo) (hw : ∀ g, o = some g → g.WF) :
    Exact (interOptR a o) a.den (denOpt o) := by
  cases o with
  | none => exact Exact.mk_none fun x h => h.2
  | some g => exact interFlat_exact a g ha (hw g rfl)

/-- both bracketings return without error and denote exactly `a ∩ b ∩ c` -/
theorem interFlat_assoc_den (a b c : Geo) (ha : a.WF) (hb : b.WF) (hc : c.WF) :
    ∃ ab bc l r, interFlat a b = .ok ab ∧ interFlat b c = .ok bc ∧
      interOptL ab c = .ok l ∧ interOptR a bc = .ok r ∧
      (∀ x, denOpt l x ↔ (a.den x ∧ b.den x ∧ c.den x)) ∧ (∀ x, denOpt r x ↔ (a.den x ∧ b.den x ∧ c.den x)) := by
  obtain ⟨ab, hab, wab, dab⟩ := interFlat_exact a b ha hb
  obtain ⟨bc, hbc, wbc, dbc⟩ := interFlat_exact b c hb hc
  obtain ⟨l, hl, _, dl⟩ := interOptL_exact ab wab c hc
  obtain ⟨r, hr, _, dr⟩ := interOptR_exact a ha bc wbc
  exact ⟨ab, bc, l, r, hab, hbc, hl, hr, fun x => by rw [dl x, dab x, and_assoc], fun x => by rw [dr x, dbc x]⟩

/-- associativity on the denoted sets, for all 125 type triples of flat primitives -/
theorem interFlat_assoc (a b c : Geo) (ha : a.WF) (hb : b.WF) (hc : c.WF) :
    ∃ ab bc l r, interFlat a b = .ok ab ∧ interFlat b c = .ok bc ∧
      interOptL ab c = .ok l ∧ interOptR a bc = .ok r ∧
      ∀ x, denOpt l x ↔ denOpt r x := by
  obtain ⟨ab, bc, l, r, hab, hbc, hl, hr, dl, dr⟩ := interFlat_assoc_den a b c ha hb hc
  exact ⟨ab, bc, l, r, hab, hbc, hl, hr, fun x => (dl x).trans (dr x).symm⟩

/-- if `a ⊆ b` then `intersection(a, b)` denotes `a` -/
theorem interFlat_of_subset (a b : Geo) (ha : a.WF) (hb : b.WF) (hsub : ∀ x, a.den x → b.den x)
    (hne : ∃ x, a.den x) :
    ∃ g, interFlat a b = .ok (some g) ∧ ∀ x, g.den x ↔ a.den x := by
  obtain ⟨g, hg, _, hd⟩ := (interFlat_exact a b ha hb).of_subset hsub hne
  exact ⟨g, hg, hd⟩

/-- `intersection(a, a)` denotes `a` -/
theorem interFlat_self (a : Geo) (ha : a.WF) :
    ∃ g, interFlat a a = .ok (some g) ∧ g.WF ∧ ∀ x, g.den x ↔ a.den x :=
  (interFlat_exact a a ha ha).of_subset (fun _ h => h) a.nonempty

/-- symmetry on the denoted sets -/
theorem interFlat_symm (a b : Geo) (ha : a.WF) (hb : b.WF) :
    ∃ o1 o2, interFlat a b = .ok o1 ∧ interFlat b a = .ok o2 ∧ ∀ x, denOpt o1 x ↔ denOpt o2 x := by
  obtain ⟨o1, h1, _, d1⟩ := interFlat_exact a b ha hb
  obtain ⟨o2, h2, _, d2⟩ := interFlat_exact b a hb ha
  exact ⟨o1, o2, h1, h2, fun x => by rw [d1 x, d2 x, and_comm]⟩
#print axioms interFlat_assoc
#print axioms interFlat_self
end G3D
