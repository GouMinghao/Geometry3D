import G3D.Model.Solver2
import Mathlib.Tactic.Ring
import Mathlib.Tactic.Linarith
import Mathlib.Algebra.Order.Field.Rat
import Mathlib.Algebra.BigOperators.Group.List.Basic
import Mathlib.Tactic.FieldSimp

namespace G3D.Solver2

#eval gauss [[0,1,1],[0,1,2]]
#eval gauss [[0,1,2,3]]
#eval gauss [[2,2,8],[2,-2,0]]
#eval gauss [[1,2,3],[2,4,6],[3,1,2]]

@[simp] theorem rowDot_nil_left (y : List Rat) : rowDot [] y = 0 := by simp [rowDot]
@[simp] theorem rowDot_nil_right (r : Row) : rowDot r [] = 0 := by simp [rowDot]
@[simp] theorem rowDot_cons (a : Rat) (as : Row) (b : Rat) (bs : List Rat) :
    rowDot (a :: as) (b :: bs) = a * b + rowDot as bs := by simp [rowDot]

@[simp] theorem addMul_cons (k a b : Rat) (as bs : Row) :
    addMul k (a :: as) (b :: bs) = (b + k * a) :: addMul k as bs := rfl

theorem addMul_length (k : Rat) (a b : Row) : (addMul k a b).length = min a.length b.length := by
  simp [addMul]

theorem rowDot_addMul (k : Rat) (a b : Row) (x : List Rat) (h : a.length = b.length) :
    rowDot (addMul k a b) x = rowDot b x + k * rowDot a x := by
  induction a generalizing b x with
  | nil => cases b <;> simp_all [addMul]
  | cons a0 as ih =>
    match b, x with
    | [], _ => simp at h
    | _ :: _, [] => simp
    | b0 :: bs, x0 :: xs => simp only [addMul_cons, rowDot_cons, ih bs xs (by simpa using h)]; ring

theorem getD_addMul (k : Rat) (a b : Row) (i : Nat) (h : a.length = b.length) :
    (addMul k a b).getD i 0 = b.getD i 0 + k * a.getD i 0 := by
  induction a generalizing b i with
  | nil => cases b <;> simp_all [addMul]
  | cons a0 as ih =>
    match b, i with
    | [], _ => simp at h
    | _ :: _, 0 => simp
    | b0 :: bs, i+1 => simpa using ih bs i (by simpa using h)

theorem getD_eq_getElem {α} (l : List α) (d : α) {i : Nat} (h : i < l.length) : l.getD i d = l[i] := by
  simp [List.getD_eq_getElem?_getD, h]

theorem rowSat_elimRow (p row : Row) (j : Nat) (x : List Rat) (h : p.length = row.length)
    (hp : rowSat p x) : rowSat (elimRow p j row) x ↔ rowSat row x := by
  unfold rowSat at *
  rw [elimRow, rowDot_addMul _ _ _ _ h, hp]; simp

theorem pivotAux_spec (j : Nat) : ∀ (rows : List Row) (i : Nat) (best : Option (Rat × Nat)),
    (∀ b, pivotAux j rows i best = some b →
        best = some b ∨ (i ≤ b.2 ∧ b.2 < i + rows.length ∧ (rows.getD (b.2 - i) []).getD j 0 ≠ 0)) ∧
    (pivotAux j rows i best = none → best = none ∧ ∀ r ∈ rows, r.getD j 0 = 0) := by
  intro rows
  induction rows with
  | nil => intro i best; exact ⟨fun b hb => Or.inl hb, fun h => ⟨h, by simp⟩⟩
  | cons r rs ih =>
    intro i best
    -- every branch continues with the old accumulator or with the present row
    have key : ∀ best', (best' = best ∧ (best = none → r.getD j 0 = 0)) ∨ (r.getD j 0 ≠ 0 ∧ ∃ a, best' = some (a, i)) →
        (∀ b, pivotAux j rs (i+1) best' = some b →
          best = some b ∨ (i ≤ b.2 ∧ b.2 < i + (r :: rs).length ∧ ((r :: rs).getD (b.2 - i) []).getD j 0 ≠ 0)) ∧
        (pivotAux j rs (i+1) best' = none → best = none ∧ ∀ r' ∈ r :: rs, r'.getD j 0 = 0) := by
      intro best' hb'
      obtain ⟨h1, h2⟩ := ih (i+1) best'
      constructor
      · intro b hb
        rcases h1 b hb with h | ⟨ha, hb2, hne⟩
        · rcases hb' with ⟨rfl, _⟩ | ⟨hr, a, rfl⟩
          · exact Or.inl h
          · cases h; exact Or.inr ⟨le_refl _, by simp, by simpa using hr⟩
        · refine Or.inr ⟨by omega, by simp; omega, ?_⟩
          rw [show b.2 - i = (b.2 - (i+1)) + 1 by omega]; exact hne
      · intro hn
        obtain ⟨hn', hz⟩ := h2 hn
        rcases hb' with ⟨rfl, h0⟩ | ⟨_, a, rfl⟩
        · exact ⟨hn', by simpa using ⟨h0 hn', hz⟩⟩
        · cases hn'
    simp only [pivotAux]
    split
    · rename_i hz; exact key _ (Or.inl ⟨rfl, fun _ => hz⟩)
    · rename_i hz
      split
      · exact key _ (Or.inr ⟨hz, _, rfl⟩)
      · split
        · exact key _ (Or.inr ⟨hz, _, rfl⟩)
        · exact key _ (Or.inl ⟨rfl, fun h => by cases h⟩)

theorem pivotIdx_some {rows : List Row} {j k : Nat} (h : pivotIdx rows j = some k) :
    k < rows.length ∧ (rows.getD k []).getD j 0 ≠ 0 := by
  simp only [pivotIdx, Option.map_eq_some_iff] at h
  obtain ⟨b, hb, rfl⟩ := h
  rcases (pivotAux_spec j rows 0 none).1 b hb with h | h
  · cases h
  · simpa using h.2

theorem pivotIdx_none {rows : List Row} {j : Nat} (h : pivotIdx rows j = none) :
    ∀ r ∈ rows, r.getD j 0 = 0 :=
  ((pivotAux_spec j rows 0 none).2 (by simpa [pivotIdx] using h)).2

theorem takePivot_perm (rows : List Row) (k : Nat) (hk : k < rows.length) :
    List.Perm ((takePivot rows k).1 :: (takePivot rows k).2) rows := by
  match rows, k with
  | r0 :: rest, 0 => simp [takePivot]
  | r0 :: rest, k+1 =>
    have hk' : k < rest.length := by simpa using hk
    simp only [takePivot, Nat.add_one_ne_zero, if_false, Nat.add_sub_cancel, getD_eq_getElem _ _ hk']
    conv_rhs => rw [← List.take_append_drop k rest, List.drop_eq_getElem_cons hk']
    exact (List.perm_middle.cons _).trans ((List.Perm.swap ..).trans (List.perm_middle.symm.cons _))

theorem takePivot_fst (rows : List Row) (k : Nat) (hk : k < rows.length) :
    (takePivot rows k).1 = rows.getD k [] := by
  match rows, k with
  | r0 :: rest, 0 => simp [takePivot]
  | r0 :: rest, k+1 => simp [takePivot]

theorem takePivot_spec {rows : List Row} {j k : Nat} (h : pivotIdx rows j = some k) :
    ((takePivot rows k).1 :: (takePivot rows k).2).Perm rows ∧ (takePivot rows k).1.getD j 0 ≠ 0 := by
  obtain ⟨hk, hne⟩ := pivotIdx_some h
  exact ⟨takePivot_perm rows k hk, by rwa [takePivot_fst rows k hk]⟩

def Uniform (nc : Nat) (rows : List Row) : Prop := ∀ r ∈ rows, r.length = nc

theorem Sat_cons (r : Row) (m : Mat) (x : List Rat) : Sat (r :: m) x ↔ rowSat r x ∧ Sat m x := by
  simp [Sat]

theorem Sat_perm {m m' : Mat} (h : List.Perm m m') (x : List Rat) : Sat m x ↔ Sat m' x :=
  forall_congr' fun _ => imp_congr_left h.mem_iff

theorem Uniform_perm {nc : Nat} {m m' : Mat} (h : List.Perm m m') : Uniform nc m ↔ Uniform nc m' :=
  forall_congr' fun _ => imp_congr_left h.mem_iff

theorem Uniform_cons {nc : Nat} {r : Row} {m : Mat} : Uniform nc (r :: m) ↔ r.length = nc ∧ Uniform nc m := by
  simp [Uniform]

theorem Uniform.map_elimRow {nc : Nat} {p : Row} {m : Mat} (hp : p.length = nc) (hm : Uniform nc m) (j : Nat) :
    Uniform nc (m.map (elimRow p j)) := by
  intro r hr
  obtain ⟨r', hr', rfl⟩ := List.mem_map.mp hr
  rw [elimRow, addMul_length, hp, hm r' hr', min_self]

theorem gaussRec_sat (nc : Nat) (x : List Rat) (f j : Nat) (rows : List Row) (hu : Uniform nc rows) :
    Sat (gaussRec f nc j rows) x ↔ Sat rows x := by
  fun_induction gaussRec f nc j rows with
  | case1 | case2 | case3 => rfl
  | case4 f nc j _ r0 rs hp ih => exact ih hu
  | case5 f nc j _ r0 rs k hp pr ih =>
    obtain ⟨hperm, -⟩ := takePivot_spec hp
    obtain ⟨hp1, hp2⟩ := Uniform_cons.mp ((Uniform_perm hperm).mpr hu)
    rw [Sat_cons, ih (hp2.map_elimRow hp1 j), ← Sat_perm hperm x, Sat_cons]
    refine and_congr_right fun h1 => ?_
    simp only [Sat, List.forall_mem_map]
    exact forall_congr' fun r => forall_congr' fun hr =>
      rowSat_elimRow _ _ j x (by rw [hp1, hp2 r hr]) h1

/-- C16(i): elimination does not change the solution set -/
theorem gauss_preserves_solutions (m : Mat) (x : List Rat)
    (hu : Uniform (m.headD []).length m) : Sat (gauss m) x ↔ Sat m x :=
  gaussRec_sat _ x _ _ _ hu
#print axioms gauss_preserves_solutions

/-! ### Echelon form -/

def ZeroBefore (c : Nat) (row : Row) : Prop := ∀ i, i < c → row.getD i 0 = 0

inductive Ech (n : Nat) : Nat → List Row → Prop
  | tail (j : Nat) (rows : List Row) : j ≤ n →
      (∀ r ∈ rows, r.length = n + 1 ∧ ZeroBefore n r) → Ech n j rows
  | cons (j c : Nat) (p : Row) (rest : List Row) :
      j ≤ c → c < n → p.length = n + 1 → ZeroBefore c p → p.getD c 0 ≠ 0 →
      Ech n (c+1) rest → Ech n j (p :: rest)

theorem Ech.mono {n j j' : Nat} {l : List Row} (h : Ech n j l) (hj : j' ≤ j) : Ech n j' l := by
  cases h with
  | tail _ _ hjn hz => exact Ech.tail _ _ (by omega) hz
  | cons _ c p rest hjc hcn hl hzb hne he => exact Ech.cons _ c p rest (by omega) hcn hl hzb hne he

theorem ZeroBefore.mono {c c' : Nat} {r : Row} (h : ZeroBefore c r) (hc : c' ≤ c) : ZeroBefore c' r :=
  fun i hi => h i (by omega)

theorem ZeroBefore.succ {c : Nat} {r : Row} (h : ZeroBefore c r) (hc : r.getD c 0 = 0) : ZeroBefore (c+1) r :=
  fun i hi => (Nat.lt_succ_iff_lt_or_eq.mp hi).elim (h i) (fun e => e ▸ hc)

theorem Ech.rows {n j : Nat} {l : List Row} (h : Ech n j l) :
    ∀ r ∈ l, r.length = n + 1 ∧ ZeroBefore j r := by
  induction h with
  | tail j rows hjn hz => intro r hr; exact ⟨(hz r hr).1, (hz r hr).2.mono hjn⟩
  | cons j c p rest hjc hcn hl hzb hne _ ih =>
    intro r hr
    rcases List.mem_cons.mp hr with rfl | hr
    · exact ⟨hl, hzb.mono hjc⟩
    · exact ⟨(ih r hr).1, (ih r hr).2.mono (by omega)⟩

theorem gaussRec_ech (n f nc j : Nat) (rows : List Row) (hnc : nc = n + 1) (hu : Uniform nc rows)
    (hz : ∀ r ∈ rows, ZeroBefore j r) (hjn : j ≤ n) (hf : n ≤ j + f) :
    Ech n j (gaussRec f nc j rows) := by
  -- when the recursion stops with rows left, all coefficient columns are done
  have stop : ∀ {nc j rows}, nc = n + 1 → Uniform nc rows → (∀ r ∈ rows, ZeroBefore j r) → j = n → Ech n j rows :=
    fun hnc hu hz hj => Ech.tail _ _ hj.le (fun r hr => ⟨hnc ▸ hu r hr, hj ▸ hz r hr⟩)
  fun_induction gaussRec f nc j rows with
  | case1 => exact stop hnc hu hz (by omega)
  | case2 => exact stop hnc hu hz (by omega)
  | case3 => exact Ech.tail _ _ hjn (by simp)
  | case4 f nc j _ r0 rs hp ih =>
    have hzero := pivotIdx_none hp
    exact (ih hnc hu (fun r hr => (hz r hr).succ (hzero r hr)) (by omega) (by omega)).mono (by omega)
  | case5 f nc j _ r0 rs k hp pr ih =>
    obtain ⟨hperm, hne⟩ := takePivot_spec hp
    obtain ⟨hp1, hp2⟩ := Uniform_cons.mp ((Uniform_perm hperm).mpr hu)
    have hz' : ∀ r ∈ pr.1 :: pr.2, ZeroBefore j r := fun r hr => hz r (hperm.mem_iff.mp hr)
    refine Ech.cons j j _ _ (le_refl _) (by omega) (hnc ▸ hp1) (hz' _ (by simp)) hne
      (ih hnc (hp2.map_elimRow hp1 j) ?_ (by omega) (by omega))
    intro r hr
    obtain ⟨r', hr', rfl⟩ := List.mem_map.mp hr
    have e : ∀ i, (elimRow pr.1 j r').getD i 0 = r'.getD i 0 - r'.getD j 0 / pr.1.getD j 0 * pr.1.getD i 0 :=
      fun i => by rw [elimRow, getD_addMul _ _ _ _ (by rw [hp1, hp2 r' hr'])]; ring
    refine ZeroBefore.succ (fun i hi => ?_) ?_
    · rw [e, hz' r' (by simp [hr']) i hi, hz' _ (by simp) i hi]; ring
    · rw [e, div_mul_cancel₀ _ hne]; ring

theorem headD_length {n : Nat} {m : Mat} (hu : Uniform (n + 1) m) (hne : m ≠ []) : (m.headD []).length = n + 1 := by
  cases m with
  | nil => exact absurd rfl hne
  | cons r rs => exact hu r (List.mem_cons_self ..)

/-- C16(ii): the result of the elimination is in row echelon form -/
theorem gauss_echelon (n : Nat) (m : Mat) (hu : Uniform (n+1) m) (hne : m ≠ []) :
    Ech n 0 (gauss m) := by
  unfold gauss
  rw [headD_length hu hne]
  exact gaussRec_ech n (n+1) _ 0 m rfl hu (fun r _ i hi => by omega) (by omega) (by omega)
#print axioms gauss_echelon

theorem solve_sat {n : Nat} {m : Mat} (hu : Uniform (n+1) m) (hne : m ≠ []) (x : List Rat) :
    Sat (solve m) x ↔ Sat m x :=
  gauss_preserves_solutions m x (by rwa [headD_length hu hne])

/-! ### Back substitution -/

def tot (vals : List (Option Rat)) : List Rat := vals.map (fun o => o.getD 0)

theorem ZeroBefore.tail {c : Nat} {a : Rat} {as : Row} (h : ZeroBefore (c+1) (a :: as)) :
    a = 0 ∧ ZeroBefore c as :=
  ⟨by simpa using h 0 (by omega), fun i hi => by simpa using h (i+1) (by omega)⟩

theorem rowDot_zeroBefore : ∀ (c : Nat) (row : Row) (y : List Rat), ZeroBefore c row →
    rowDot row y = rowDot (row.drop c) (y.drop c) := by
  intro c
  induction c with
  | zero => intro row y _; simp
  | succ c ih =>
    intro row y hz
    match row, y with
    | [], _ => simp
    | _ :: _, [] => simp
    | a :: as, b :: bs =>
      obtain ⟨ha, hz'⟩ := hz.tail
      simp only [rowDot_cons, List.drop_succ_cons, ha, zero_mul, zero_add]
      exact ih as bs hz'

theorem rowDot_append_neg_one : ∀ (bs : List Rat) (as : Row), as.length = bs.length + 1 →
    rowDot as (bs ++ [-1]) = rowDot as.dropLast bs - as.getLastD 0 := by
  intro bs
  induction bs with
  | nil =>
    intro as h
    match as, h with
    | [a], _ => simp [rowDot]
  | cons b bs ih =>
    intro as h
    match as, h with
    | a :: a' :: as', h =>
      have := ih (a' :: as') (by simpa using h)
      simp only [List.cons_append, rowDot_cons, List.dropLast_cons_cons, this]
      simp [List.getLastD]
      ring

theorem rowSat_iff {row : Row} {x : List Rat} (h : row.length = x.length + 1) :
    rowSat row x ↔ rowDot row.dropLast x = row.getLastD 0 := by
  rw [rowSat, rowDot_append_neg_one x row h, sub_eq_zero]

theorem sumNeg_ok : ∀ (as : Row) (ovs : List (Option Rat)), (∀ o ∈ ovs, o ≠ none) →
    sumNeg as ovs = .ok (- rowDot as (tot ovs)) := by
  intro as
  induction as with
  | nil => intro ovs _; simp [sumNeg, tot]; rfl
  | cons a as ih =>
    intro ovs h
    match ovs with
    | [] => simp [sumNeg, tot]; rfl
    | none :: _ => exact absurd rfl (h none (by simp))
    | some v :: os =>
      have := ih os (fun o ho => h o (by simp [ho]))
      simp only [sumNeg, this, tot, List.map_cons, Option.getD_some, rowDot_cons]
      simp only [bind, Except.bind, pure, Except.pure]
      congr 1
      simp; ring

theorem rowDot_set : ∀ (row : Row) (y : List Rat) (c : Nat) (a : Rat), c < y.length →
    rowDot row (y.set c a) = rowDot row y + row.getD c 0 * (a - y.getD c 0) := by
  intro row
  induction row with
  | nil => intro y c a _; simp
  | cons r rs ih =>
    intro y c a h
    match y, c with
    | b :: bs, 0 => simp; ring
    | b :: bs, c+1 => simp [ih bs c a (by simpa using h)]; ring

theorem tot_set (vals : List (Option Rat)) (c : Nat) (a : Rat) :
    tot (vals.set c (some a)) = (tot vals).set c a := by
  simp [tot, List.map_set]

theorem firstNonzero_eq : ∀ (c : Nat) (p : Row), ZeroBefore c p → p.getD c 0 ≠ 0 → firstNonzero p = c := by
  intro c
  induction c with
  | zero =>
    intro p _ hne
    cases p with
    | nil => simp at hne
    | cons a as => simp at hne; simp [firstNonzero, hne]
  | succ c ih =>
    intro p hz hne
    cases p with
    | nil => simp at hne
    | cons a as =>
      obtain ⟨ha, hz'⟩ := hz.tail
      simp at hne
      simp [firstNonzero, ha, ih as hz' hne]

theorem nullRow_iff (r : Row) : nullRow r = true ↔ ∀ a ∈ r, a = 0 := by
  simp [nullRow]

theorem not_nullRow_of_ne {p : Row} {c : Nat} (h : p.getD c 0 ≠ 0) : nullRow p = false := by
  by_contra hn
  simp only [Bool.not_eq_false] at hn
  rw [nullRow_iff] at hn
  apply h
  rw [List.getD_eq_getElem?_getD]
  cases hg : p[c]? with
  | none => simp
  | some a => simp; exact hn a (List.mem_of_getElem? hg)

theorem rowDot_all_zero : ∀ (row : Row) (y : List Rat), (∀ a ∈ row, a = 0) → rowDot row y = 0 := by
  intro row
  induction row with
  | nil => intro y _; simp
  | cons a as ih =>
    intro y h
    cases y with
    | nil => simp
    | cons b bs => simp [h a (by simp), ih bs (fun a' ha' => h a' (by simp [ha']))]

theorem solvable_iff (s : Mat) : solvable s = true ↔
    ∀ row ∈ s, (row.dropLast.all (· == 0) && (row.getLastD 0 != 0)) = false := by
  simp only [solvable, Bool.not_eq_true', List.any_eq_false, Bool.not_eq_true]

theorem solvable_cons {p : Row} {rest : Mat} (h : solvable (p :: rest) = true) : solvable rest = true :=
  (solvable_iff rest).mpr fun row hrow => (solvable_iff _).mp h row (List.mem_cons_of_mem _ hrow)

theorem getD_dropLast (l : Row) (i : Nat) (h : i < l.dropLast.length) : l.dropLast.getD i 0 = l.getD i 0 := by
  rw [getD_eq_getElem _ _ h, getD_eq_getElem _ _ (by simp at h; omega), List.getElem_dropLast]

/-- a row with only zero coefficients in a solvable system is a null row -/
theorem null_of_coeffs_zero {r : Row} (hne : r ≠ []) (hcoef : ∀ a ∈ r.dropLast, a = 0)
    (hs : (r.dropLast.all (· == 0) && (r.getLastD 0 != 0)) = false) : ∀ a ∈ r, a = 0 := by
  have hlast := (by simpa using hs : (∀ x ∈ r.dropLast, x = 0) → (r.getLast?).getD 0 = 0) hcoef
  intro a ha
  rw [← List.dropLast_append_getLast hne] at ha
  rcases List.mem_append.mp ha with h | h
  · exact hcoef a h
  · rw [List.getLast?_eq_some_getLast hne] at hlast
    simpa [List.mem_singleton.mp h] using hlast

theorem tail_null {n : Nat} {rows : Mat} (hz : ∀ r ∈ rows, r.length = n + 1 ∧ ZeroBefore n r)
    (hs : solvable rows = true) : ∀ r ∈ rows, nullRow r = true := fun r hr => by
  obtain ⟨hl, hzr⟩ := hz r hr
  refine (nullRow_iff r).mpr (null_of_coeffs_zero (by rintro rfl; simp at hl) (fun a ha => ?_)
    ((solvable_iff rows).mp hs r hr))
  obtain ⟨i, hi, rfl⟩ := List.mem_iff_getElem.mp ha
  rw [← getD_eq_getElem _ 0 hi, getD_dropLast r i hi]
  exact hzr i (by simpa [hl] using hi)

theorem pass3_null : ∀ (rows : List Row) (vals0 : List (Option Rat)),
    (∀ r ∈ rows, nullRow r = true) → pass3 rows vals0 = .ok vals0 := by
  intro rows
  induction rows with
  | nil => intro vals0 _; rfl
  | cons r rs ih =>
    intro vals0 h
    simp only [pass3, ih vals0 (fun r' hr' => h r' (by simp [hr'])), h r (by simp)]
    rfl

theorem pivotCols_null (rows : List Row) (h : ∀ r ∈ rows, nullRow r = true) : pivotCols rows = [] := by
  simp only [pivotCols, nonNullRows, List.map_eq_nil_iff, List.filter_eq_nil_iff]
  intro r hr; simp [h r hr]

theorem pivotCols_cons {c : Nat} {p : Row} (rest : Mat) (hzb : ZeroBefore c p) (hne : p.getD c 0 ≠ 0) :
    pivotCols (p :: rest) = c :: pivotCols rest := by
  simp [pivotCols, nonNullRows, not_nullRow_of_ne hne, firstNonzero_eq c p hzb hne]

theorem pivotCols_sorted {n : Nat} : ∀ {j : Nat} {s : Mat}, Ech n j s → solvable s = true →
    (pivotCols s).Pairwise (· < ·) ∧ ∀ i ∈ pivotCols s, j ≤ i ∧ i < n := by
  intro j s h
  induction h with
  | tail j rows hjn hz => intro hs; simp [pivotCols_null rows (tail_null hz hs)]
  | cons j c p rest hjc hcn hl hzb hne _ ih =>
    intro hs
    obtain ⟨hpw, hge⟩ := ih (solvable_cons hs)
    rw [pivotCols_cons rest hzb hne]
    refine ⟨List.pairwise_cons.mpr ⟨fun i hi => (hge i hi).1, hpw⟩, fun i hi => ?_⟩
    rcases List.mem_cons.mp hi with rfl | hi
    · exact ⟨hjc, hcn⟩
    · have := hge i hi; exact ⟨by omega, this.2⟩

theorem pivotCols_ge {n j : Nat} {s : Mat} (h : Ech n j s) (hs : solvable s = true) :
    ∀ i ∈ pivotCols s, j ≤ i ∧ i < n := (pivotCols_sorted h hs).2

theorem pivotCols_nodup {n j : Nat} {s : Mat} (h : Ech n j s) (hs : solvable s = true) :
    (pivotCols s).Nodup := (pivotCols_sorted h hs).1.imp ne_of_lt

theorem getD_set_ne {α} (l : List α) (c i : Nat) (a d : α) (h : c ≠ i) : (l.set c a).getD i d = l.getD i d := by
  rw [List.getD_eq_getElem?_getD, List.getD_eq_getElem?_getD, List.getElem?_set_ne h]

theorem getD_set_eq {α} (l : List α) (c : Nat) (a d : α) (h : c < l.length) : (l.set c a).getD c d = a := by
  rw [List.getD_eq_getElem?_getD, List.getElem?_set_self h]; rfl

theorem getD_tot (vals : List (Option Rat)) (i : Nat) : (tot vals).getD i 0 = (vals.getD i none).getD 0 := by
  simp only [tot, List.getD_eq_getElem?_getD, List.getElem?_map]
  cases vals[i]? <;> simp

theorem dropLast_drop (l : Row) (k : Nat) : (l.drop k).dropLast = l.dropLast.drop k := by
  rw [List.dropLast_eq_take, List.dropLast_eq_take, List.drop_take, List.length_drop]
  congr 1; omega

theorem pivot_row_sat_iff {n c : Nat} {p : Row} {y : List Rat} (hl : p.length = n + 1) (hy : y.length = n)
    (hcn : c < n) (hzb : ZeroBefore c p) (hne : p.getD c 0 ≠ 0) :
    rowSat p y ↔ y.getD c 0 = (- rowDot ((p.drop (c+1)).dropLast) (y.drop (c+1)) + p.getLastD 0) / p.getD c 0 := by
  have hc : c < p.dropLast.length := by simp [hl]; omega
  have hq : ZeroBefore c p.dropLast := fun i hi => by rw [getD_dropLast p i (by omega)]; exact hzb i hi
  -- the coefficients before `c` vanish, so the row's product with `y` is its entry at `c` and the part after `c`
  have hsplit : rowDot p.dropLast y = p.getD c 0 * y.getD c 0 + rowDot ((p.drop (c+1)).dropLast) (y.drop (c+1)) := by
    rw [rowDot_zeroBefore c _ y hq, List.drop_eq_getElem_cons hc, List.drop_eq_getElem_cons (by omega : c < y.length),
      rowDot_cons, dropLast_drop, ← getD_eq_getElem _ 0, ← getD_eq_getElem _ 0, getD_dropLast p c hc]
  rw [rowSat_iff (by omega), hsplit, eq_div_iff hne]
  constructor <;> intro h <;> linarith

theorem pass3_spec (n : Nat) : ∀ {j : Nat} {s : Mat}, Ech n j s → solvable s = true →
    ∀ vals0 : List (Option Rat), vals0.length = n →
    (∀ i, j ≤ i → i < n → i ∉ pivotCols s → vals0.getD i none ≠ none) →
    ∃ vals, pass3 s vals0 = .ok vals ∧ vals.length = n ∧
      (∀ i, i ∉ pivotCols s → vals.getD i none = vals0.getD i none) ∧
      (∀ i, j ≤ i → i < n → vals.getD i none ≠ none) ∧ Sat s (tot vals) := by
  intro j s h
  induction h with
  | tail j rows hjn hz =>
    intro hs vals0 hlen hfree
    have hnull := tail_null hz hs
    refine ⟨vals0, pass3_null rows vals0 hnull, hlen, fun _ _ => rfl, ?_, ?_⟩
    · intro i hji hin; exact hfree i hji hin (by simp [pivotCols_null rows hnull])
    · intro row hrow; exact rowDot_all_zero row _ ((nullRow_iff row).mp (hnull row hrow))
  | cons j c p rest hjc hcn hl hzb hne hrest ih =>
    intro hs vals0 hlen hfree
    have hsr := solvable_cons hs
    have hpc := pivotCols_cons rest hzb hne
    have hge := pivotCols_ge hrest hsr
    obtain ⟨vals', hp3, hlen', hunch, hsome, hsat⟩ := ih hsr vals0 hlen (by
      intro i hci hin hnot
      exact hfree i (by omega) hin (by rw [hpc]; simp; exact ⟨by omega, hnot⟩))
    have hallsome : ∀ o ∈ vals'.drop (c+1), o ≠ none := by
      intro o ho
      obtain ⟨i, hi, rfl⟩ := List.mem_iff_getElem.mp ho
      simp only [List.length_drop] at hi
      rw [List.getElem_drop, ← getD_eq_getElem _ none (by omega)]
      exact hsome (c + 1 + i) (by omega) (by omega)
    have hsum := sumNeg_ok ((p.drop (c+1)).dropLast) (vals'.drop (c+1)) hallsome
    set val := (- rowDot ((p.drop (c+1)).dropLast) (tot (vals'.drop (c+1))) + p.getLastD 0) / p.getD c 0 with hval
    refine ⟨vals'.set c (some val), ?_, by simp [hlen'], ?_, ?_, ?_⟩
    · simp only [pass3, hp3, not_nullRow_of_ne hne, firstNonzero_eq c p hzb hne, hsum, bind, Except.bind, pure,
        Except.pure, Bool.false_eq_true, if_false, hval]
    · intro i hi
      rw [hpc] at hi
      simp only [List.mem_cons, not_or] at hi
      rw [getD_set_ne _ _ _ _ _ (Ne.symm hi.1)]
      exact hunch i hi.2
    · intro i hji hin
      by_cases hic : i = c
      · subst hic; rw [getD_set_eq _ _ _ _ (by omega)]; simp
      · rw [getD_set_ne _ _ _ _ _ (Ne.symm hic)]
        by_cases hgt : c < i
        · exact hsome i (by omega) hin
        · have hnotpiv : i ∉ pivotCols rest := fun hm => by have := (hge i hm).1; omega
          rw [hunch i hnotpiv]
          exact hfree i hji hin (by rw [hpc]; simp; exact ⟨hic, hnotpiv⟩)
    · intro row hrow
      rw [tot_set]
      rcases List.mem_cons.mp hrow with rfl | hrow
      · have hdrop : tot (vals'.drop (c+1)) = (tot vals').drop (c+1) := by simp [tot, List.map_drop]
        have hc : c < (tot vals').length := by simp [tot, hlen', hcn]
        rw [pivot_row_sat_iff hl (by simp [tot, hlen']) hcn hzb hne, getD_set_eq _ _ _ _ hc,
          List.drop_set_of_lt (by omega), hval, hdrop]
      · have hz0 : row.getD c 0 = 0 := (hrest.rows row hrow).2 c (by omega)
        rw [rowSat, ← List.set_append_left _ _ (by simp [tot, hlen', hcn]), rowDot_set _ _ _ _ (by simp [tot, hlen']; omega),
          hz0, zero_mul, add_zero]
        exact hsat row hrow
#print axioms pass3_spec

/-! ### pass 1 and pass 2 -/

theorem firstNonzero_append (l l' : Row) (h : ∃ a ∈ l, a ≠ 0) : firstNonzero (l ++ l') = firstNonzero l := by
  induction l with
  | nil => simp at h
  | cons a as ih =>
    by_cases ha : a = 0
    · simp [firstNonzero, ha, ih (by simpa [ha] using h)]
    · simp [firstNonzero, ha]

theorem mem_pivotCols_of_mem {s : Mat} {r : Row} (hr : r ∈ s) (hnn : nullRow r = false) :
    firstNonzero r ∈ pivotCols s := by
  simp only [pivotCols, nonNullRows, List.mem_map, List.mem_filter]
  exact ⟨r, ⟨hr, by simp [hnn]⟩, rfl⟩

theorem pass1_spec (s : Mat) : ∀ (rows : List Row) (vals : List (Option Rat)),
    (∀ r ∈ rows, r ∈ s) →
    (pass1 rows vals).length = vals.length ∧
    ∀ i, i ∉ pivotCols s → (pass1 rows vals).getD i none = vals.getD i none := by
  intro rows
  induction rows with
  | nil => intro vals _; simp [pass1]
  | cons r rs ih =>
    intro vals hsub
    have hrs : ∀ r' ∈ rs, r' ∈ s := fun r' h => hsub r' (by simp [h])
    simp only [pass1, List.foldl_cons]
    split
    · rename_i h1
      have := ih (vals.set (firstNonzero r.dropLast) (some (r.getLastD 0 / r.getD (firstNonzero r.dropLast) 0))) hrs
      simp only [pass1] at this
      refine ⟨by rw [this.1]; simp, fun i hi => ?_⟩
      rw [this.2 i hi]
      obtain ⟨a, ha⟩ := List.exists_mem_of_length_pos (by omega : 0 < (r.dropLast.filter (· != 0)).length)
      rw [List.mem_filter] at ha
      have hex : ∃ a ∈ r.dropLast, a ≠ 0 := ⟨a, ha.1, by simpa using ha.2⟩
      have hne : r ≠ [] := by rintro rfl; simp at ha
      have hnn : nullRow r = false := by
        by_contra hn
        simp only [Bool.not_eq_false, nullRow_iff] at hn
        exact hex.choose_spec.2 (hn _ (List.dropLast_subset r hex.choose_spec.1))
      have hpiv : firstNonzero r.dropLast ∈ pivotCols s := by
        rw [← firstNonzero_append _ [r.getLast hne] hex, List.dropLast_append_getLast]
        exact mem_pivotCols_of_mem (hsub r (by simp)) hnn
      exact getD_set_ne _ _ _ _ _ (fun h => hi (h ▸ hpiv))
    · simpa [pass1] using ih vals hrs

/-- non-pivot columns below `i`, ascending -/
def freeCols (piv : List Nat) : Nat → List Nat
  | 0 => []
  | i+1 => if i ∈ piv then freeCols piv i else freeCols piv i ++ [i]

theorem freeCols_eq_filter (piv : List Nat) (m : Nat) :
    freeCols piv m = (List.range m).filter (fun k => decide (k ∉ piv)) := by
  induction m with
  | zero => rfl
  | succ m ih => by_cases h : m ∈ piv <;> simp [freeCols, List.range_succ, List.filter_append, ih, h]

theorem mem_freeCols {piv : List Nat} {m k : Nat} : k ∈ freeCols piv m ↔ k < m ∧ k ∉ piv := by
  simp [freeCols_eq_filter]

theorem freeCols_length (m : Nat) (piv : List Nat) (hnd : piv.Nodup) (hlt : ∀ k ∈ piv, k < m) :
    (freeCols piv m).length + piv.length = m := by
  have hperm : ((List.range m).filter (fun k => decide (k ∈ piv))).Perm piv :=
    (List.perm_ext_iff_of_nodup (List.nodup_range.filter _) hnd).mpr fun k => by
      simpa using hlt k
  have := List.length_eq_length_filter_add (l := List.range m) (fun k => decide (k ∈ piv))
  rw [List.length_range, hperm.length_eq] at this
  rw [freeCols_eq_filter]
  simp only [decide_not]
  omega

theorem pass2_length (piv : List Nat) (i : Nat) (v : List Rat) (vals : List (Option Rat)) :
    (pass2 piv i v vals).length = vals.length := by
  fun_induction pass2 piv i v vals <;> simp_all

theorem pass2_readback (piv : List Nat) : ∀ (i : Nat) (v : List Rat) (vals : List (Option Rat)),
    i ≤ vals.length → (∀ k, k < i → k ∉ piv → vals.getD k none = none) →
    v.length = (freeCols piv i).length →
    (∀ k, i ≤ k ∨ k ∈ piv → (pass2 piv i v vals).getD k none = vals.getD k none) ∧
    ∀ t, t < (freeCols piv i).length →
      (pass2 piv i v vals).getD ((freeCols piv i).getD t 0) none = some (v.getD t 0) := by
  intro i
  induction i with
  | zero => intro v vals _ _ _; simp [pass2, freeCols]
  | succ i ih =>
    intro v vals hil hunset hv
    unfold pass2
    rw [freeCols] at hv ⊢
    by_cases hip : i ∈ piv
    · rw [if_pos hip] at hv ⊢
      split
      · rename_i hemp
        have : (freeCols piv i).length = 0 := by rw [← hv]; simpa using hemp
        exact ⟨fun _ _ => rfl, fun t ht => by omega⟩
      · rw [if_neg (fun h => h.2 hip)]
        obtain ⟨h2, h3⟩ := ih v vals (by omega) (fun k hk => hunset k (by omega)) hv
        exact ⟨fun k hk => h2 k (hk.imp_left (by omega)), h3⟩
    · rw [if_neg hip] at hv ⊢
      have hvl : v.length = (freeCols piv i).length + 1 := by simpa using hv
      have hvne : v ≠ [] := by rintro rfl; simp at hvl
      rw [if_neg (by simpa using hvne), if_pos ⟨hunset i (by omega) hip, hip⟩]
      obtain ⟨h2, h3⟩ := ih v.dropLast (vals.set i (some (v.getLastD 0))) (by simp; omega)
        (fun k hk hkp => by rw [getD_set_ne _ _ _ _ _ (by omega : i ≠ k)]; exact hunset k (by omega) hkp)
        (by simp; omega)
      refine ⟨fun k hk => ?_, fun t ht => ?_⟩
      · rw [h2 k (hk.imp_left (by omega)), getD_set_ne]
        rintro rfl; rcases hk with hk | hk
        · omega
        · exact hip hk
      · rw [List.length_append, List.length_singleton] at ht
        by_cases htl : t < (freeCols piv i).length
        · have : (freeCols piv i ++ [i]).getD t 0 = (freeCols piv i).getD t 0 := by
            simp [List.getD_eq_getElem?_getD, List.getElem?_append_left htl]
          rw [this, h3 t htl, getD_eq_getElem _ _ (by simp; omega), getD_eq_getElem _ _ (by omega),
            List.getElem_dropLast]
        · have hteq : t = (freeCols piv i).length := by omega
          have : (freeCols piv i ++ [i]).getD t 0 = i := by simp [hteq]
          rw [this, h2 i (Or.inl (le_refl _)), getD_set_eq _ _ _ _ (by omega), List.getLastD_eq_getLast?,
            List.getLast?_eq_getElem?, hvl, hteq, List.getD_eq_getElem?_getD]
          simp
#print axioms pass2_readback

/-! ### Assembly -/

theorem pivotCols_length (s : Mat) : (pivotCols s).length = (nonNullRows s).length := by
  simp [pivotCols]

theorem varargs_eq_freeCols {n : Nat} {s : Mat} (hech : Ech n 0 s) (hs : solvable s = true) :
    varargs n s = (freeCols (pivotCols s) n).length := by
  have := freeCols_length n (pivotCols s) (pivotCols_nodup hech hs) (fun k hk => (pivotCols_ge hech hs k hk).2)
  rw [varargs, ← pivotCols_length]
  omega

theorem call_spec (n : Nat) {s : Mat} (hech : Ech n 0 s) (hs : solvable s = true) (v : List Rat)
    (hv : v.length = varargs n s) :
    ∃ vals, call n s v = .ok vals ∧ vals.length = n ∧ (∀ i, i < n → vals.getD i none ≠ none) ∧
      Sat s (tot vals) ∧
      ∀ t, t < v.length → vals.getD ((freeCols (pivotCols s) n).getD t 0) none = some (v.getD t 0) := by
  have hvf := hv.trans (varargs_eq_freeCols hech hs)
  obtain ⟨h1len, h1free⟩ := pass1_spec s s (List.replicate n none) (fun r hr => hr)
  rw [List.length_replicate] at h1len
  obtain ⟨-, h2read⟩ := pass2_readback (pivotCols s) n v _ h1len.ge
    (fun k hk hkp => by rw [h1free k hkp]; simp [List.getD_eq_getElem?_getD, hk]) hvf
  -- a free column is some `freeCols[t]`
  have hfree : ∀ i, i < n → i ∉ pivotCols s → ∃ t, t < v.length ∧ (freeCols (pivotCols s) n).getD t 0 = i := by
    intro i hin hnp
    obtain ⟨t, ht, hti⟩ := List.mem_iff_getElem.mp (mem_freeCols.mpr ⟨hin, hnp⟩)
    exact ⟨t, hvf ▸ ht, by rw [getD_eq_getElem _ _ ht, hti]⟩
  obtain ⟨vals, hp3, hlen, hunch, hsome, hsat⟩ := pass3_spec n hech hs _ ((pass2_length ..).trans h1len)
    (fun i _ hin hnp => by obtain ⟨t, ht, rfl⟩ := hfree i hin hnp; rw [h2read t (hvf ▸ ht)]; simp)
  refine ⟨vals, ?_, hlen, fun i hi => hsome i (by omega) hi, hsat, fun t ht => ?_⟩
  · simp only [call, hs, hv, Bool.not_true, Bool.false_eq_true, if_false, ne_eq, not_true_eq_false]
    exact hp3
  · have htf : t < (freeCols (pivotCols s) n).length := hvf ▸ ht
    have hmem := List.getElem_mem htf
    rw [← getD_eq_getElem _ 0 htf] at hmem
    rw [hunch _ (mem_freeCols.mp hmem).2, h2read t htf]

/-- C16(iii): with the expected number of free values, the call succeeds, every unknown gets a number,
    and the tuple satisfies every equation of the ORIGINAL system. -/
theorem call_satisfies (n : Nat) (m : Mat) (hu : Uniform (n+1) m) (hne : m ≠ [])
    (hs : solvable (solve m) = true) (v : List Rat) (hv : v.length = varargs n (solve m)) :
    ∃ vals, call n (solve m) v = .ok vals ∧ vals.length = n ∧
      (∀ i, i < n → vals.getD i none ≠ none) ∧ Sat m (tot vals) := by
  obtain ⟨vals, hc, hlen, hsome, hsat, -⟩ := call_spec n (gauss_echelon n m hu hne) hs v hv
  exact ⟨vals, hc, hlen, hsome, (solve_sat hu hne _).mp hsat⟩

/-- the form in which the geometric callers use a successful call -/
theorem call_values (n : Nat) (m : Mat) (hu : Uniform (n+1) m) (hne : m ≠ [])
    (hs : solvable (solve m) = true) (v : List Rat) (hv : v.length = varargs n (solve m)) :
    ∃ x : List Rat, x.length = n ∧ call n (solve m) v = .ok (x.map some) ∧ Sat m x ∧
      ∀ t, t < v.length → x.getD ((freeCols (pivotCols (solve m)) n).getD t 0) 0 = v.getD t 0 := by
  obtain ⟨vals, hc, hlen, hsome, hsat, hrb⟩ := call_spec n (gauss_echelon n m hu hne) hs v hv
  have hmap : (tot vals).map some = vals := by
    refine List.ext_getElem (by simp [tot]) fun i h1 h2 => ?_
    have := hsome i (hlen ▸ h2)
    rw [getD_eq_getElem _ _ h2] at this
    obtain ⟨a, ha⟩ := Option.ne_none_iff_exists'.mp this
    simp [tot, ha]
  exact ⟨tot vals, by simp [tot, hlen], hmap.symm ▸ hc, (solve_sat hu hne _).mp hsat,
    fun t ht => by rw [getD_tot, solve, hrb t ht]; rfl⟩

/-- C16(iv): truthiness of the solution object is exactly consistency of the system -/
theorem solvable_iff_consistent (n : Nat) (m : Mat) (hu : Uniform (n+1) m) (hne : m ≠ []) :
    solvable (solve m) = true ↔ ∃ x : List Rat, x.length = n ∧ Sat m x := by
  constructor
  · intro hs
    obtain ⟨vals, _, hlen, _, hsat⟩ := call_satisfies n m hu hne hs (List.replicate (varargs n (solve m)) 0) (by simp)
    exact ⟨tot vals, by simp [tot, hlen], hsat⟩
  · rintro ⟨x, hx, hsat⟩
    refine (solvable_iff _).mpr fun row hrow => ?_
    -- a row `0 … 0 | c` satisfied by `x` has `c = 0`
    have h0 := (rowSat_iff (by rw [((gauss_echelon n m hu hne).rows row hrow).1, hx])).mp
      ((solve_sat hu hne x).mpr hsat row hrow)
    by_contra hc
    simp only [Bool.not_eq_false, Bool.and_eq_true, bne_iff_ne, ne_eq] at hc
    rw [rowDot_all_zero _ _ (by simpa using hc.1)] at h0
    exact hc.2 h0.symm

#print axioms call_satisfies
#print axioms solvable_iff_consistent

/-! ### The free values parametrise the solution set bijectively -/

/-- two solutions of an echelon system that agree on the non-pivot variables are equal -/
theorem ech_unique (n : Nat) : ∀ {j : Nat} {s : Mat}, Ech n j s → solvable s = true →
    ∀ y z : List Rat, y.length = n → z.length = n → Sat s y → Sat s z →
    (∀ i, j ≤ i → i < n → i ∉ pivotCols s → y.getD i 0 = z.getD i 0) →
    ∀ i, j ≤ i → i < n → y.getD i 0 = z.getD i 0 := by
  intro j s h
  induction h with
  | tail j rows hjn hz =>
    intro hs y z _ _ _ _ hfree i hji hin
    exact hfree i hji hin (by simp [pivotCols_null rows (tail_null hz hs)])
  | cons j c p rest hjc hcn hl hzb hne hrest ih =>
    intro hs y z hy hz' hsy hsz hfree
    have hsr := solvable_cons hs
    have hpc := pivotCols_cons rest hzb hne
    have hge := pivotCols_ge hrest hsr
    have hrec := ih hsr y z hy hz' (fun r hr => hsy r (List.mem_cons_of_mem _ hr))
      (fun r hr => hsz r (List.mem_cons_of_mem _ hr))
      (fun i hci hin hnot => hfree i (by omega) hin (by rw [hpc]; simp; exact ⟨by omega, hnot⟩))
    -- the pivot row gives variable c in terms of the later ones, on which the two tuples agree
    have hdrop : y.drop (c+1) = z.drop (c+1) := List.ext_getElem (by simp [hy, hz']) fun i h1 h2 => by
      rw [List.length_drop] at h1 h2
      have := hrec (c + 1 + i) (by omega) (by omega)
      rwa [getD_eq_getElem _ _ (by omega), getD_eq_getElem _ _ (by omega), ← List.getElem_drop,
        ← List.getElem_drop] at this
    have hceq : y.getD c 0 = z.getD c 0 := by
      rw [(pivot_row_sat_iff hl hy hcn hzb hne).mp (hsy p (by simp)), hdrop,
        ← (pivot_row_sat_iff hl hz' hcn hzb hne).mp (hsz p (by simp))]
    intro i hji hin
    by_cases hic : i = c
    · rw [hic]; exact hceq
    · by_cases hgt : c < i
      · exact hrec i (by omega) hin
      · have hnotpiv : i ∉ pivotCols rest := fun hm => by have := (hge i hm).1; omega
        exact hfree i hji hin (by rw [hpc]; simp; exact ⟨hic, hnotpiv⟩)
#print axioms ech_unique

/-- C16(v): the supplied values are read back at the free (non-pivot) unknowns, in order -/
theorem call_readback (n : Nat) (m : Mat) (hu : Uniform (n+1) m) (hne : m ≠ [])
    (hs : solvable (solve m) = true) (v : List Rat) (hv : v.length = varargs n (solve m))
    (vals : List (Option Rat)) (hcall : call n (solve m) v = .ok vals) :
    ∀ t, t < v.length →
      (vals.getD ((freeCols (pivotCols (solve m)) n).getD t 0) none) = some (v.getD t 0) := by
  obtain ⟨vals', hc, -, -, -, hrb⟩ := call_spec n (gauss_echelon n m hu hne) hs v hv
  cases hcall.symm.trans hc
  exact hrb

/-- C16(vi): every solution of the original system is produced by the call, from its own values at
    the free unknowns -/
theorem call_surjective (n : Nat) (m : Mat) (hu : Uniform (n+1) m) (hne : m ≠ [])
    (x : List Rat) (hx : x.length = n) (hsat : Sat m x) :
    ∃ v vals, v.length = varargs n (solve m) ∧ call n (solve m) v = .ok vals ∧ tot vals = x := by
  have hs : solvable (solve m) = true := (solvable_iff_consistent n m hu hne).mpr ⟨x, hx, hsat⟩
  have hech : Ech n 0 (solve m) := gauss_echelon n m hu hne
  let fc := freeCols (pivotCols (solve m)) n
  have hv : (fc.map (fun k => x.getD k 0)).length = varargs n (solve m) := by
    simp [fc, varargs_eq_freeCols hech hs]
  obtain ⟨vals, hcall, hlen, hsome, hsatv, hrb⟩ := call_spec n hech hs _ hv
  refine ⟨_, vals, hv, hcall, ?_⟩
  have huniq := ech_unique n hech hs (tot vals) x (by simp [tot, hlen]) hx hsatv ((solve_sat hu hne x).mpr hsat)
    (by
      intro i _ hin hnp
      obtain ⟨t, ht, hti⟩ := List.mem_iff_getElem.mp (mem_freeCols.mpr ⟨hin, hnp⟩)
      have := hrb t (by simpa using ht)
      rw [getD_eq_getElem _ _ ht, hti] at this
      rw [getD_tot, this, getD_eq_getElem _ _ (by simpa using ht)]
      simp [fc, hti])
  apply List.ext_getElem
  · simp [tot, hlen, hx]
  · intro i h1 h2
    have := huniq i (Nat.zero_le _) (by simpa [tot, hlen] using h1)
    rwa [getD_eq_getElem _ _ h1, getD_eq_getElem _ _ h2] at this
#print axioms call_readback
#print axioms call_surjective
end G3D.Solver2
