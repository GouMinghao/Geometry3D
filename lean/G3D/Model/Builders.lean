import G3D.Model.Angle
import G3D.Model.Body
/-! C14, shape builders: `get_circle_point_list`, `Circle`, `Parallelogram` (polygon.py) and
    `Parallelepiped`, `Sphere`, `Cylinder`, `Cone` (polyhedron.py).

    * combinatorial skeletons: the face lists exactly as the Python assembles them, over symbolic vertex ids;
    * the orientation repair of `ConvexPolyhedron.__init__` (`-convex_polygon` for faces seen from inside) as a
      per-face flip mask;
    * the choice of `base_vector` in `get_circle_point_list` with the threshold `cos²(SMALL_ANGLE)` abstracted;
    * exact vertex coordinates of Parallelogram / Parallelepiped.

    (Mathlib-free.) -/
namespace G3D
namespace Builders
open V3

/-! ### generic cycles, counting, closedness -/

/-- consecutive pairs of a path -/
def consecG {α : Type} : List α → List (α × α)
  | a :: b :: l => (a, b) :: consecG (b :: l)
  | _ => []

/-- directed edges of a vertex cycle: (p0,p1),…,(p_{k-1},p0)   (`ConvexPolygon.segments()`) -/
def cyc {α : Type} : List α → List (α × α)
  | [] => []
  | p :: ps => consecG (p :: ps ++ [p])

/-- the vertex cycle of `-polygon`: `ConvexPolygon(points, reverse=True)` re-sorts the same points about the negated
    normal starting from `points[0]`, i.e. keeps the head and reverses the rest -/
def flipCycle {α : Type} : List α → List α
  | [] => []
  | a :: t => a :: t.reverse

/-- apply the orientation repair: face `i` is replaced by `-face` iff `mask[i]` -/
def applyFlips {α : Type} (mask : List Bool) (fs : List (List α)) : List (List α) :=
  List.zipWith (fun b f => if b then flipCycle f else f) mask fs

abbrev Face := List Nat

/-- duplicate-free copy keeping first occurrences (a Python `set` built by successive `add`) -/
def dedup {α : Type} [DecidableEq α] : List α → List α
  | [] => []
  | a :: l => a :: (dedup l).filter (fun b => decide (b ≠ a))

def dirEdges (fs : List Face) : List (Nat × Nat) := fs.flatMap cyc

/-- an undirected edge: the ordered pair (`Segment.__eq__` / `__hash__` ignore the direction) -/
def normEdge (e : Nat × Nat) : Nat × Nat := if e.1 ≤ e.2 then e else (e.2, e.1)

/-- `len(point_set)` -/
def vertexCount (fs : List Face) : Nat := (dedup fs.flatten).length
/-- `len(segment_set)` (undirected, deduplicated) -/
def edgeCount (fs : List Face) : Nat := (dedup ((dirEdges fs).map normEdge)).length
/-- `len(convex_polygons)` -/
def faceCount (fs : List Face) : Nat := fs.length

/-- `_euler_check` : V − E + F = 2 -/
def Euler (fs : List Face) : Prop := vertexCount fs + faceCount fs = edgeCount fs + 2

/-- every face has at least three vertices, pairwise different -/
def Simple (fs : List Face) : Prop := ∀ f ∈ fs, 3 ≤ f.length ∧ f.Nodup

/-- closed surface, unoriented: every undirected edge lies on exactly two faces -/
def ClosedUndir (fs : List Face) : Prop :=
  ∀ e ∈ (dirEdges fs).map normEdge, ((dirEdges fs).map normEdge).count e = 2

/-- closed surface, oriented: every directed edge occurs exactly once and its reverse exactly once -/
def ClosedDir (fs : List Face) : Prop :=
  ∀ e ∈ dirEdges fs, (dirEdges fs).count e = 1 ∧ (dirEdges fs).count (e.2, e.1) = 1

instance (fs : List Face) : Decidable (Euler fs) := by unfold Euler; infer_instance
instance (fs : List Face) : Decidable (Simple fs) := by unfold Simple; infer_instance
instance (fs : List Face) : Decidable (ClosedUndir fs) := by unfold ClosedUndir; infer_instance
instance (fs : List Face) : Decidable (ClosedDir fs) := by unfold ClosedDir; infer_instance

/-! ### kernel-friendly checkers (bit sets in one `Nat`, accumulators forced by a match)
    `G3D/Proofs/Builders.lean` proves them sound for the specifications above. -/

/-- evaluate `x` before continuing (the kernel reduces the match only after `x` is a literal) -/
def force {β : Type} (x : Nat) (f : Nat → β) : β :=
  match x with
  | 0 => f 0
  | a + 1 => f (a + 1)

def setBit (s k : Nat) : Nat := s ||| (1 <<< k)

/-- all ids below `m` -/
def boundedB (m : Nat) (fs : List Face) : Bool := fs.all (fun f => f.all (fun v => Nat.blt v m))

def allDistinctGo : List Nat → Nat → Bool
  | [], _ => true
  | k :: ks, s => match Nat.testBit s k with
    | true => false
    | false => force (setBit s k) (fun s' => allDistinctGo ks s')

def simpleFastB (fs : List Face) : Bool :=
  fs.all (fun f => Nat.ble 3 f.length && allDistinctGo f 0)

/-- number of different keys -/
def distinctGo : List Nat → Nat → Nat → Nat
  | [], _, c => c
  | k :: ks, s, c => match Nat.testBit s k with
    | true => distinctGo ks s c
    | false => force (setBit s k) (fun s' => distinctGo ks s' (c + 1))

def dirKey (m : Nat) (e : Nat × Nat) : Nat := e.1 * m + e.2
def edgeKey (m : Nat) (e : Nat × Nat) : Nat := if e.1 ≤ e.2 then e.1 * m + e.2 else e.2 * m + e.1

def vertexCountFast (fs : List Face) : Nat := distinctGo fs.flatten 0 0
def edgeCountFast (m : Nat) (fs : List Face) : Nat := distinctGo ((dirEdges fs).map (edgeKey m)) 0 0

/-- `s1` = keys seen at least once, `s2` = keys seen at least twice; a third occurrence fails -/
def twiceGo : List Nat → Nat → Nat → Bool
  | [], s1, s2 => Nat.beq s1 s2
  | k :: ks, s1, s2 => match Nat.testBit s2 k with
    | true => false
    | false => match Nat.testBit s1 k with
      | true => force (setBit s2 k) (fun s2' => twiceGo ks s1 s2')
      | false => force (setBit s1 k) (fun s1' => twiceGo ks s1' s2)

def closedUndirFastB (m : Nat) (fs : List Face) : Bool := twiceGo ((dirEdges fs).map (edgeKey m)) 0 0

/-- insert all keys; `0` on a duplicate, else bit set + 1 -/
def insAllGo : List Nat → Nat → Nat
  | [], s => s + 1
  | k :: ks, s => match Nat.testBit s k with
    | true => 0
    | false => force (setBit s k) (fun s' => insAllGo ks s')

def allInGo (s : Nat) : List Nat → Bool
  | [] => true
  | k :: ks => match Nat.testBit s k with
    | true => allInGo s ks
    | false => false

def closedDirFastB (m : Nat) (fs : List Face) : Bool :=
  match insAllGo ((dirEdges fs).map (dirKey m)) 0 with
  | 0 => false
  | s + 1 => allInGo s ((dirEdges fs).map (fun e => dirKey m (e.2, e.1)))

/-! ### Circle: one n-gon on the ids 0..n-1 -/
def circleFaces (n : Nat) : List Face := [List.range n]

/-! ### Cylinder: `cpg_list = [top_circle, bottom_circle] + [(t_s, t_e, b_e, b_s) for s]`
    ids: top ring `i`, bottom ring `n + i` -/
def cylinderFaces (n : Nat) : List Face :=
  [List.range n, (List.range n).map (n + ·)] ++
  (List.range n).map (fun i => [i, (i + 1) % n, n + (i + 1) % n, n + i])

/-- seen from outside: the top circle is counter-clockwise about the height vector, the bottom circle and all the
    side quadrilaterals (top_s → top_e → bottom_e) are clockwise, hence flipped -/
def cylinderFlips (n : Nat) : List Bool := [false, true] ++ List.replicate n true
def cylinderOriented (n : Nat) : List Face := applyFlips (cylinderFlips n) (cylinderFaces n)

/-! ### Cone: `cpg_list = [circle] + [(top_point, c_s, c_e) for s]`; ids: circle `i`, apex `n` -/
def coneFaces (n : Nat) : List Face :=
  List.range n :: (List.range n).map (fun i => [n, i, (i + 1) % n])
def coneFlips (n : Nat) : List Bool := true :: List.replicate n false
def coneOriented (n : Nat) : List Face := applyFlips (coneFlips n) (coneFaces n)

/-! ### Sphere (n1 points per ring, quarter meridian divided into n2; the code needs n2 ≥ 2 because of `tc[0]`)
    rings: `mc` = ring 0, `tc[j]` = ring 1+j, `bc[j]` = ring n2+j  (j = 0..n2-2): 2·n2 − 1 rings;
    id of (ring k, index i) = k·n1 + i ; top pole = (2·n2−1)·n1, bottom pole = (2·n2−1)·n1 + 1 -/
def sMc (_n1 i : Nat) : Nat := i
def sTc (n1 j i : Nat) : Nat := (1 + j) * n1 + i
def sBc (n1 n2 j i : Nat) : Nat := (n2 + j) * n1 + i
def sTop (n1 n2 : Nat) : Nat := (2 * n2 - 1) * n1
def sBot (n1 n2 : Nat) : Nat := (2 * n2 - 1) * n1 + 1

def sphereFaces (n1 n2 : Nat) : List Face :=
  (List.range n1).flatMap (fun i =>
    let s := i
    let e := (i + 1) % n1
    [[sMc n1 s, sMc n1 e, sTc n1 0 e, sTc n1 0 s], [sMc n1 s, sMc n1 e, sBc n1 n2 0 e, sBc n1 n2 0 s]] ++
    (List.range' 1 (n2 - 2)).flatMap (fun j =>
      [[sTc n1 (j - 1) s, sTc n1 (j - 1) e, sTc n1 j e, sTc n1 j s],
       [sBc n1 n2 (j - 1) s, sBc n1 n2 (j - 1) e, sBc n1 n2 j e, sBc n1 n2 j s]]) ++
    [[sTop n1 n2, sTc n1 (n2 - 2) e, sTc n1 (n2 - 2) s], [sBot n1 n2, sBc n1 n2 (n2 - 2) e, sBc n1 n2 (n2 - 2) s]])

/-- upper bands are counter-clockwise seen from outside, lower bands clockwise; the top cap (pole, e, s) is clockwise,
    the bottom cap counter-clockwise -/
def sphereFlips (n1 n2 : Nat) : List Bool :=
  (List.range n1).flatMap (fun _ =>
    [false, true] ++ (List.range' 1 (n2 - 2)).flatMap (fun _ => [false, true]) ++ [true, false])
def sphereOriented (n1 n2 : Nat) : List Face := applyFlips (sphereFlips n1 n2) (sphereFaces n1 n2)

/-! ### Parallelepiped: id `a + 2b + 4c` is the vertex `p + a·v1 + b·v2 + c·v3`.
    `Parallelogram(q, a, b)` passes `(q, q+a, q+b, q+a+b)` to the ConvexPolygon constructor whose angular sort about
    the normal `a × b` returns the cycle `q, q+a, q+a+b, q+b`. -/
def parallelepipedFaces : List Face :=
  [[0, 1, 3, 2],   -- Parallelogram(p, v1, v2)
   [0, 2, 6, 4],   -- Parallelogram(p, v2, v3)
   [0, 1, 5, 4],   -- Parallelogram(p, v1, v3)
   [7, 6, 4, 5],   -- Parallelogram(p_diag, -v1, -v2)
   [7, 5, 1, 3],   -- Parallelogram(p_diag, -v2, -v3)
   [7, 6, 2, 3]]   -- Parallelogram(p_diag, -v1, -v3)
/-- the faces flipped by the constructor when det(v1,v2,v3) > 0 (the complement when det < 0) -/
def parallelepipedFlips : List Bool := [true, true, false, false, false, true]
def parallelepipedOriented : List Face := applyFlips parallelepipedFlips parallelepipedFaces
/-- the mask when det(v1,v2,v3) < 0 -/
def parallelepipedFlipsNeg : List Bool := parallelepipedFlips.map not
def parallelepipedOrientedNeg : List Face := applyFlips parallelepipedFlipsNeg parallelepipedFaces

/-! ### table checks (one Boolean per resolution; the kernel evaluates `parallelepipedCheck`, the round shapes are proved
    for every resolution in `G3D/Proofs/Builders.lean` and `BuildersSphereGeneral.lean`) -/
def circleCheck (n : Nat) : Bool :=
  let fs := circleFaces n
  Nat.beq (vertexCountFast fs) n && Nat.beq (edgeCountFast n fs) n && Nat.beq (faceCount fs) 1 &&
  boundedB n fs && simpleFastB fs

/-- counts, Euler, simplicity, closedness (as coded: unoriented; after the flips: oriented) with id bound `m` -/
def solidCheck (m v e f : Nat) (fs oriented : List Face) : Bool :=
  Nat.beq (vertexCountFast fs) v && Nat.beq (edgeCountFast m fs) e && Nat.beq (faceCount fs) f &&
  Nat.beq (v + f) (e + 2) && boundedB m fs && boundedB m oriented && simpleFastB fs &&
  closedUndirFastB m fs && closedDirFastB m oriented

def cylinderCheck (n : Nat) : Bool :=
  solidCheck (2 * n) (2 * n) (3 * n) (n + 2) (cylinderFaces n) (cylinderOriented n)

def coneCheck (n : Nat) : Bool :=
  solidCheck (n + 1) (n + 1) (2 * n) (n + 1) (coneFaces n) (coneOriented n)

def sphereCheck (n1 n2 : Nat) : Bool :=
  solidCheck (n1 * (2 * n2 - 1) + 2) (n1 * (2 * n2 - 1) + 2) (n1 * (4 * n2 - 1)) (2 * n1 * n2)
    (sphereFaces n1 n2) (sphereOriented n1 n2)

def parallelepipedCheck : Bool :=
  solidCheck 8 8 12 6 parallelepipedFaces parallelepipedOriented

/-! ### `get_circle_point_list`: choice of the base vector -/
def ex : V3 := ⟨1, 0, 0⟩
def ey : V3 := ⟨0, 1, 0⟩
def ez : V3 := ⟨0, 0, 1⟩

/-- `angle < SMALL_ANGLE or angle > π − SMALL_ANGLE` ⇔ `cos² angle > cos² SMALL_ANGLE =: c` -/
def nearAxis (c : Rat) (n e : V3) : Bool := decide (c < cosSqVec n e)

/-- `base_vector`: x unless the normal is within SMALL_ANGLE of ±x, then y; `none` = the `raise ValueError("Bug detected")` -/
def baseVector (c : Rat) (n : V3) : Option V3 :=
  if nearAxis c n ex then (if nearAxis c n ey then none else some ey) else some ex

/-- the unnormalised frame: `v1 ∥ n × b`, `v2 ∥ n × v1` -/
def frameW1 (n b : V3) : V3 := cross n b
def frameW2 (n b : V3) : V3 := cross n (cross n b)

/-! ### exact coordinates -/
/-- the ConvexPolygon cycle of `Parallelogram(p, a, b)` -/
def parallelogramPts (p a b : V3) : List V3 := [p, add p a, add (add p a) b, add p b]

/-- the ConvexPolygon record of `Parallelogram(p, a, b)` (proved to be the constructor's result: `parallelogram_mk`) -/
def parallelogramPolygon (p a b : V3) : Polygon :=
  ⟨parallelogramPts p a b, ⟨p, cross a b⟩, meanV (parallelogramPts p a b)⟩

def det3 (a b c : V3) : Rat := dot a (cross b c)

/-- vertex `i` (bits a,b,c) of the parallelepiped -/
def ppVertex (p v1 v2 v3 : V3) (i : Nat) : V3 :=
  add (add (add p (if i % 2 = 1 then v1 else zero)) (if (i / 2) % 2 = 1 then v2 else zero))
    (if (i / 4) % 2 = 1 then v3 else zero)

/-- the point `p + a·v1 + b·v2 + c·v3` of the solid (vertices: a, b, c ∈ {0, 1}) -/
def ppPoint (p v1 v2 v3 : V3) (a b c : Rat) : V3 := add (add (add p (smul a v1)) (smul b v2)) (smul c v3)

/-- the six faces as (plane normal, cycle), as the six `Parallelogram` calls produce them -/
def ppFacesCoded (p v1 v2 v3 : V3) : List (V3 × List V3) :=
  let d := add (add (add p v1) v2) v3
  [(cross v1 v2, parallelogramPts p v1 v2),
   (cross v2 v3, parallelogramPts p v2 v3),
   (cross v1 v3, parallelogramPts p v1 v3),
   (cross (neg v1) (neg v2), parallelogramPts d (neg v1) (neg v2)),
   (cross (neg v2) (neg v3), parallelogramPts d (neg v2) (neg v3)),
   (cross (neg v1) (neg v3), parallelogramPts d (neg v1) (neg v3))]

/-- the six faces as ConvexPolygon records -/
def ppPolygons (p v1 v2 v3 : V3) : List Polygon :=
  let d := add (add (add p v1) v2) v3
  [parallelogramPolygon p v1 v2, parallelogramPolygon p v2 v3, parallelogramPolygon p v1 v3,
   parallelogramPolygon d (neg v1) (neg v2), parallelogramPolygon d (neg v2) (neg v3),
   parallelogramPolygon d (neg v1) (neg v3)]

/-- the orientation repair of `ConvexPolyhedron.__init__`: `if Vector(center, plane.p) * plane.n < 0: face = -face` -/
def orientOut (c : V3) (f : V3 × List V3) : V3 × List V3 :=
  if dot (sub (f.2.headD zero) c) f.1 < 0 then (neg f.1, flipCycle f.2) else f

/-- centre of the parallelepiped (mean of the eight vertices) -/
def ppCentre (p v1 v2 v3 : V3) : V3 := add p (smul (1/2) (add (add v1 v2) v3))

end Builders
end G3D
