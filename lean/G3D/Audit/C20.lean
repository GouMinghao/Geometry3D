import G3D.Props.C20
import G3D.Props.C20b
#print axioms G3D.Props.C20.owner_unaffected_by_step
#print axioms G3D.Props.C20.invariants_preserved
#print axioms G3D.Props.C20.owner_unaffected_by_history
#print axioms G3D.Props.C20.query_is_pure
#print axioms G3D.Props.C20.queries_are_pure
#print axioms G3D.Props.C20.query_sites_fresh
#print axioms G3D.Props.C20.owners_deep_copy
#print axioms G3D.Props.C20.ctor_helpers_known
#print axioms G3D.Props.C20.owning_constructors_copy_extracted
#print axioms G3D.Props.C20.line_plane_alias_extracted
#print axioms G3D.Props.C20.queries_store_nothing_extracted
