import G3D.Proofs.MethodsTieFlatMove
import G3D.Proofs.MethodsTiePolygonMove
import G3D.Proofs.MethodsTiePolyhedronMove
import G3D.Props.C07
#print axioms G3D.Props.C07.line_move
#print axioms G3D.Props.C07.plane_move
#print axioms G3D.Props.C07.segment_move
#print axioms G3D.Props.C07.halfline_move
#print axioms G3D.Props.C07.histories_flat
#print axioms G3D.Props.C07.polygon_move
#print axioms G3D.Props.C07.polygon_move_area
#print axioms G3D.Props.C07.polygon_histories
#print axioms G3D.Props.C07.polygon_returned_partial
#print axioms G3D.Props.C07.polyhedron_returned_eq_receiver_partial
#print axioms G3D.Props.C07.pinned_segment_move_was_wrong
#print axioms G3D.Props.C07.polygon_returned_eq_receiver
#print axioms G3D.Props.C07.polyhedron_move
#print axioms G3D.Props.C07.polyhedron_move_succeeds
#print axioms G3D.Props.C07.polyhedron_move_keeps_exactness
#print axioms G3D.Props.C07.polyhedron_move_always_succeeds
#print axioms G3D.Tie.m_Line_move_raw
#print axioms G3D.Tie.m_Plane_move_raw
#print axioms G3D.Tie.m_Segment_move_raw
#print axioms G3D.Tie.m_HalfLine_move_raw
#print axioms G3D.Tie.m_Line_move_eq
#print axioms G3D.Tie.m_Plane_move_eq
#print axioms G3D.Tie.m_Segment_move_eq
#print axioms G3D.Tie.m_HalfLine_move_eq
#print axioms G3D.Tie.m_ConvexPolygon_move_eq
#print axioms G3D.Tie.m_ConvexPolyhedron_move_eq
