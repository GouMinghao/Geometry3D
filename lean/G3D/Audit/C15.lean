import G3D.Proofs.MethodsTieFlatCtor
import G3D.Proofs.MethodsTiePolygonCtor
import G3D.Proofs.MethodsTiePolyhedronCtor
import G3D.Props.C15
import G3D.Props.C15ang
import G3D.Props.C15dist
import G3D.Props.C15i
import G3D.Props.C15mv
import G3D.Props.C15vol
#print axioms G3D.Props.C15.line_ok
#print axioms G3D.Props.C15.line_rejects
#print axioms G3D.Props.C15.segment_ok
#print axioms G3D.Props.C15.segment_rejects
#print axioms G3D.Props.C15.halfline_ok
#print axioms G3D.Props.C15.halfline_rejects
#print axioms G3D.Props.C15.plane_ok
#print axioms G3D.Props.C15.plane_rejects
#print axioms G3D.Props.C15.plane_rejects_collinear
#print axioms G3D.Props.C15.polygon_ok
#print axioms G3D.Props.C15.polygon_rejects_short
#print axioms G3D.Props.C15.polygon_rejects_few_distinct
#print axioms G3D.Props.C15.polyhedron_ok
#print axioms G3D.Props.C15.intersection_rejects_foreign
#print axioms G3D.Props.C15.distance_rejects_undocumented
#print axioms G3D.Props.C15.angle_parallel_orthogonal_reject_undocumented
#print axioms G3D.Props.C15.volume_dispatch
#print axioms G3D.Props.C15.move_nonvector_raises
#print axioms G3D.Tie.new_Line_pp
#print axioms G3D.Tie.new_Line_pv
#print axioms G3D.Tie.new_Line_vv
#print axioms G3D.Tie.new_Segment_pp
#print axioms G3D.Tie.new_Segment_pv
#print axioms G3D.Tie.new_HalfLine_pp
#print axioms G3D.Tie.new_HalfLine_pv
#print axioms G3D.Tie.new_ConvexPolygon_eq
#print axioms G3D.Tie.new_Pyramid_eq
#print axioms G3D.Tie.new_ConvexPolyhedron_eq
