import G3D.Props.C13
#print axioms G3D.Props.C13.dot_cross_symmetry
#print axioms G3D.Props.C13.membership_equivariant
#print axioms G3D.Props.C13.wf_preserved
#print axioms G3D.Props.C13.transformation_bijective
#print axioms G3D.Props.C13.intersection_equivariant_flat
#print axioms G3D.Props.C13.angle_parallel_orthogonal_invariant
#print axioms G3D.Props.C13.equality_invariant
#print axioms G3D.Props.C13.membership_test_invariant
#print axioms G3D.Props.C13.distance_scales
#print axioms G3D.Props.C13.length_scales
#print axioms G3D.Props.C13.polygon_symmetry
#print axioms G3D.Props.C13.polyhedron_symmetry
#print axioms G3D.Props.C13.closed_surface_volume_scales
#print axioms G3D.Props.C13.intersection_equivariant_flat_polygon
#print axioms G3D.Props.C13.intersection_equivariant_admissible
#print axioms G3D.Props.C13.polygon_constructor_commutes
#print axioms G3D.Props.C13.polygon_constructor_commutes_queries
#print axioms G3D.Props.C13.polyhedron_constructor_commutes
#print axioms G3D.Props.C13.body_symmetry_valid
#print axioms G3D.Props.C13.flat_constructors_commute
