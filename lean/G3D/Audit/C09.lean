import G3D.Proofs.AngleKey
import G3D.Proofs.MethodsTieFlatCtor
import G3D.Proofs.MethodsTiePolygonCenter
import G3D.Proofs.MethodsTiePolygonCtor
import G3D.Proofs.MethodsTiePolygonSegments
import G3D.Proofs.MethodsTiePolyhedronCtor
import G3D.Proofs.MethodsTiePolyhedronHelpers
import G3D.Props.C09
#print axioms G3D.Props.C09.polygon_construction
#print axioms G3D.Props.C09.polygon_construction_translation
#print axioms G3D.Props.C09.polyhedron_construction
#print axioms G3D.Props.C09.polyhedron_centre_inside
#print axioms G3D.Props.C09.polygon_valid_of_convex_position
#print axioms G3D.Props.C09.polygon_construction_succeeds
#print axioms G3D.Props.C09.neg_polygon
#print axioms G3D.Props.C09.neg_neg_polygon
#print axioms G3D.Props.C09.judge_decides_valid
#print axioms G3D.Props.C09.polyhedron_orientation_independent
#print axioms G3D.Props.C09.polyhedron_queries_independent
#print axioms G3D.Props.C09.polyhedron_face_order_independent
#print axioms G3D.Props.C09.polyhedron_constructor_accepts
#print axioms G3D.AngleKey.key_lt_iff
#print axioms G3D.AngleKey.key_eq_iff
#print axioms G3D.AngleKey.key_lt_iff_model
#print axioms G3D.AngleKey.Polygon.mk?_pts_sorted_dict
#print axioms G3D.Tie.new_Line_pp
#print axioms G3D.Tie.new_Line_pv
#print axioms G3D.Tie.new_Line_vv
#print axioms G3D.Tie.m_Plane__init_pn_eq
#print axioms G3D.Tie.m_Plane___neg___raw
#print axioms G3D.Tie.new_Segment_pp
#print axioms G3D.Tie.new_Segment_pv
#print axioms G3D.Tie.new_HalfLine_pp
#print axioms G3D.Tie.new_HalfLine_pv
#print axioms G3D.Tie.m_Plane___neg___eq
#print axioms G3D.Tie.m_ConvexPolygon__get_center_point_eq
#print axioms G3D.Tie.m_ConvexPolygon__check_and_sort_points_eq
#print axioms G3D.Tie.new_ConvexPolygon_eq
#print axioms G3D.Tie.m_ConvexPolygon_segments_eq
#print axioms G3D.Tie.m_ConvexPolygon___neg___eq
#print axioms G3D.Tie.m_ConvexPolygon_segments_eq'
#print axioms G3D.Tie.m_ConvexPolygon__get_center_point_eq'
#print axioms G3D.Tie.new_Pyramid_eq
#print axioms G3D.Tie.m_ConvexPolyhedron__get_center_point_eq
#print axioms G3D.Tie.m_ConvexPolyhedron__check_normal_eq
#print axioms G3D.Tie.m_ConvexPolyhedron__euler_check_eq
#print axioms G3D.Tie.new_ConvexPolyhedron_eq
#print axioms G3D.Tie.m_ConvexPolyhedron__get_center_point_eq'
#print axioms G3D.Tie.m_ConvexPolyhedron__check_normal_eq'
#print axioms G3D.Tie.m_ConvexPolyhedron__euler_check_eq'
