import G3D.Proofs.BuildersArea
import G3D.Proofs.BuildersReal
import G3D.Proofs.BuildersSphere
import G3D.Proofs.BuildersSphereArea
import G3D.Proofs.BuildersSphereConvex
import G3D.Proofs.BuildersTie
import G3D.Props.C14
#print axioms G3D.Props.C14.circle_counts
#print axioms G3D.Props.C14.circle_counts_table
#print axioms G3D.Props.C14.cylinder_counts
#print axioms G3D.Props.C14.cone_counts
#print axioms G3D.Props.C14.sphere_counts
#print axioms G3D.Props.C14.parallelepiped_counts
#print axioms G3D.Props.C14.frame_always_defined
#print axioms G3D.Props.C14.frame_is_orthogonal
#print axioms G3D.Props.C14.not_near_both_axes
#print axioms G3D.Props.C14.parallelogram_area
#print axioms G3D.Props.C14.parallelepiped_volume_is_det
#print axioms G3D.BuildersReal.circle_points
#print axioms G3D.BuildersReal.circle_chord
#print axioms G3D.BuildersReal.circle_polygon_convex
#print axioms G3D.BuildersReal.circle_area
#print axioms G3D.BuildersReal.cylinder_points
#print axioms G3D.BuildersReal.cone_slant
#print axioms G3D.BuildersReal.sphere_vertex
#print axioms G3D.BuildersReal.sphere_pole
#print axioms G3D.BuildersReal.latAngle_step
#print axioms G3D.BuildersReal.cylinder_volume_closed_form
#print axioms G3D.BuildersReal.cone_volume_closed_form
#print axioms G3D.BuildersReal.frame_real
#print axioms G3D.Props.C14.threshold_in_range
#print axioms G3D.BuildersReal.BA.cylinder_area_closed_form
#print axioms G3D.BuildersReal.BA.cone_area_closed_form
#print axioms G3D.BuildersReal.BA.cylinder_area_coded
#print axioms G3D.BuildersReal.BA.ring_faceArea
#print axioms G3D.BuildersReal.BA.chord_len
#print axioms G3D.BuildersReal.BA.sphere_placed
#print axioms G3D.BuildersReal.BA.sphere_volume_closed_form
#print axioms G3D.BuildersReal.BA.lat_sum_closed
#print axioms G3D.BuildersReal.BA.sphere_convex_closed_form
#print axioms G3D.BuildersReal.BA.sphere_upper_inner_strict
#print axioms G3D.BuildersReal.BA.sphere_area_closed_form
#print axioms G3D.Props.C14.sphere_counts_general
#print axioms G3D.BuildersTie.gcpl_tie
#print axioms G3D.BuildersTie.gcpl_bug_dead
#print axioms G3D.BuildersTie.nearAxis_iff_cosSq
#print axioms G3D.BuildersTie.gcpl_small
#print axioms G3D.BuildersTie.circle_tie
#print axioms G3D.BuildersTie.cylinder_tie
#print axioms G3D.BuildersTie.cone_tie
#print axioms G3D.BuildersTie.sphere_tie
#print axioms G3D.BuildersTie.parallelogram_tie
#print axioms G3D.BuildersTie.parallelepiped_faces
#print axioms G3D.BuildersTie.sphere_volume_extracted
#print axioms G3D.BuildersTie.cylinder_volume_extracted
#print axioms G3D.BuildersTie.cone_volume_extracted
