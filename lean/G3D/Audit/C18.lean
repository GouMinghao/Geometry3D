import G3D.Props.C18
#print axioms G3D.Props.C18.add_formula
#print axioms G3D.Props.C18.sub_formula
#print axioms G3D.Props.C18.smul_formula
#print axioms G3D.Props.C18.neg_formula
#print axioms G3D.Props.C18.dot_formula
#print axioms G3D.Props.C18.cross_formula
#print axioms G3D.Props.C18.from_points_formula
#print axioms G3D.Props.C18.constructors_keep_components
#print axioms G3D.Props.C18.point_move_formula
#print axioms G3D.Props.C18.named_vectors
#print axioms G3D.Props.C18.triple_zero
#print axioms G3D.Props.C18.cross_anticommutes
#print axioms G3D.Props.C18.lagrange_identity
#print axioms G3D.Props.C18.promotion_order
