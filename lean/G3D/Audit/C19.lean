import G3D.Proofs.KTieKformsCtor
import G3D.Proofs.KTieKhashHalfLine
import G3D.Proofs.KTieKhashLine
import G3D.Proofs.KTieKhashPlane
import G3D.Proofs.KTieKhashPoint
import G3D.Proofs.KTieKhashPolygon
import G3D.Proofs.KTieKhashPolyhedron
import G3D.Proofs.KTieKhashSegment
import G3D.Proofs.KTieKmember
import G3D.Proofs.KTieKmemberCtor
import G3D.Proofs.KTieKmemberrCtor
import G3D.Proofs.KTieKvecPar
import G3D.Proofs.TolGeoInter
import G3D.Proofs.TolGeoLine
import G3D.Proofs.TolGeoPlane
import G3D.Proofs.TolGeoPolygon
import G3D.Proofs.TolGeoSeg
import G3D.Proofs.TolGeoTie
import G3D.Props.C19
#print axioms G3D.Props.C19.config_invariant
#print axioms G3D.Props.C19.defaults
#print axioms G3D.Props.C19.power_of_ten
#print axioms G3D.Props.C19.restore_previous
#print axioms G3D.Props.C19.coordinate_tolerance
#print axioms G3D.Props.C19.all_sites_live
#print axioms G3D.Props.C19.sites_cover_modules
#print axioms G3D.Props.C19.no_literal_tolerances
#print axioms G3D.Props.C19.setters_write_both
#print axioms G3D.Props.C19.restore_previous_exact
#print axioms G3D.Props.C19.sig_determined_by_eps
#print axioms G3D.Props.C19.rounding_stable
#print axioms G3D.Props.C19.defaults_extracted
#print axioms G3D.TolGeo.vecEq_of_close
#print axioms G3D.TolGeo.not_vecEq_of_far
#print axioms G3D.TolGeo.Line.eqT_of_close
#print axioms G3D.TolGeo.Line.containsT_of_close
#print axioms G3D.TolGeo.Line.not_eqT_of_orth_shift
#print axioms G3D.TolGeo.Line.contains_gap
#print axioms G3D.TolGeo.Plane.eqT_of_close
#print axioms G3D.TolGeo.Plane.containsT_of_close
#print axioms G3D.TolGeo.Plane.not_eqT_of_normal_shift
#print axioms G3D.TolGeo.Segment.eqT_of_close
#print axioms G3D.TolGeo.Segment.not_eqT_of_far
#print axioms G3D.TolGeo.Segment.containsT_of_close
#print axioms G3D.TolGeo.HalfLine.eqT_of_close
#print axioms G3D.TolGeo.HalfLine.containsT_of_close
#print axioms G3D.TolGeo.HalfLine.containsHL_of_close
#print axioms G3D.TolGeo.interLineLine_coincident
#print axioms G3D.TolGeo.interPlanePlane_coincident
#print axioms G3D.TolGeo.interSegSeg_coincident
#print axioms G3D.TolGeo.interHlHl_coincident
#print axioms G3D.TolGeo.parallelT_tie
#print axioms G3D.TolGeo.vecEq_tie
#print axioms G3D.TolGeo.Line.containsT_tie
#print axioms G3D.TolGeo.Line.eqT_tie
#print axioms G3D.TolGeo.Plane.containsT_tie
#print axioms G3D.TolGeo.Plane.eqT_tie
#print axioms G3D.TolGeo.Segment.containsT_tie
#print axioms G3D.TolGeo.HalfLine.containsT_tie
#print axioms G3D.TolGeo.shapes_real
#print axioms G3D.TolGeo.other_paths
#print axioms G3D.TolGeo.Polygon.containsT_of_close
#print axioms G3D.TolGeo.Polygon.not_containsT_of_close
#print axioms G3D.KTie.Kmember.planeContains_path
#print axioms G3D.KTie.Kvec.parallel_shape_main
#print axioms G3D.KTie.Kvec.parallelShortcuts_paths
#print axioms G3D.KTie.Kmember.halfLineCtor_path
#print axioms G3D.KTie.Kmember.segCtor_path
#print axioms G3D.KTie.Kforms.lineCtor_path
#print axioms G3D.KTie.Kforms.lineCtorReject_path
#print axioms G3D.Props.C19.config_functions_as_modelled
#print axioms G3D.KTie.Khash.hash_Point_eq_of_round_eq
#print axioms G3D.KTie.Khash.hash_Vector_eq_of_round_eq
#print axioms G3D.KTie.Khash.hash_Plane_paths
#print axioms G3D.KTie.Khash.hash_Plane_tol
#print axioms G3D.KTie.Khash.hash_Line_paths
#print axioms G3D.KTie.Khash.hash_Line_tol
#print axioms G3D.KTie.Khash.hash_Point_roundings
#print axioms G3D.KTie.Khash.hash_Vector_roundings
#print axioms G3D.KTie.Khash.hash_Plane_roundings
#print axioms G3D.KTie.Khash.hash_Line_roundings
#print axioms G3D.KTie.Khash.hash_ConvexPolygon3_roundings
#print axioms G3D.KTie.Khash.hash_ConvexPolygon4_roundings
#print axioms G3D.KTie.Khash.hash_ConvexPolyhedron_tetra_roundings
#print axioms G3D.KTie.Khash.hash_ConvexPolyhedron_pyramid_roundings
#print axioms G3D.KTie.Khash.hash_Segment_roundings
#print axioms G3D.KTie.Khash.hash_HalfLine_roundings
#print axioms G3D.KTie.Khash.hashWithNormal_ConvexPolygon3_roundings
