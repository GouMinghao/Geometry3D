import G3D.Props.C12
#print axioms G3D.Props.C12.assoc_flat
#print axioms G3D.Props.C12.self_flat
#print axioms G3D.Props.C12.subset_flat
#print axioms G3D.Props.C12.result_in_both_flat
#print axioms G3D.Props.C12.result_in_both_flat_polygon
#print axioms G3D.Props.C12.none_absorbs
#print axioms G3D.Props.C12.assoc_flat_inter
#print axioms G3D.Props.C12.chain_flat_flat_polygon
#print axioms G3D.Props.C12.result_vertices_in_both
#print axioms G3D.Props.C12.result_subset_both
#print axioms G3D.Props.C12.inter_exact_admissible
#print axioms G3D.Props.C12.assoc_all
#print axioms G3D.Props.C12.self_all
#print axioms G3D.Props.C12.subset_all
#print axioms G3D.Props.C12.result_is_intersection
#print axioms G3D.Props.C12.result_is_intersection_polyhedra
#print axioms G3D.Props.C12.assoc_all_types_of_euler
#print axioms G3D.Props.C12.self_all_types_of_euler
#print axioms G3D.Props.C12.subset_all_types_of_euler
#print axioms G3D.Props.C12.assoc_all_types
#print axioms G3D.Props.C12.self_all_types
#print axioms G3D.Props.C12.subset_all_types
