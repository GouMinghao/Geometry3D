import G3D.Proofs.KTieKhashCtor
import G3D.Proofs.KTieKhashHalfLine
import G3D.Proofs.KTieKhashLine
import G3D.Proofs.KTieKhashPlane
import G3D.Proofs.KTieKhashPoint
import G3D.Proofs.KTieKhashPolygon
import G3D.Proofs.KTieKhashPolygonEq
import G3D.Proofs.KTieKhashPolyhedron
import G3D.Proofs.KTieKhashPolyhedronEq
import G3D.Proofs.KTieKhashSegment
import G3D.Proofs.KTieKvecEq
import G3D.Proofs.KhashLemmas
import G3D.Proofs.MethodsTieFlatEq
import G3D.Proofs.MethodsTiePolygonEq
import G3D.Proofs.MethodsTiePolyhedronEq
import G3D.Props.C08
import G3D.Props.C08b
#print axioms G3D.Props.C08.line_eq_iff_same_set
#print axioms G3D.Props.C08.plane_eq_iff_same_set
#print axioms G3D.Props.C08.segment_eq_iff_same_set
#print axioms G3D.Props.C08.halfline_eq_iff_same_set
#print axioms G3D.Props.C08.point_eq_iff_key
#print axioms G3D.Props.C08.line_eq_iff_key
#print axioms G3D.Props.C08.plane_eq_iff_key
#print axioms G3D.Props.C08.segment_eq_iff_key
#print axioms G3D.Props.C08.halfline_eq_iff_key
#print axioms G3D.Props.C08.eq_refl_symm_line
#print axioms G3D.Props.C08.eq_refl_symm_plane
#print axioms G3D.Props.C08.eq_refl_symm_segment
#print axioms G3D.Props.C08.eq_refl_symm_halfline
#print axioms G3D.Props.C08.eq_foreign_false
#print axioms G3D.Props.C08.polygon_eq_iff_same_set
#print axioms G3D.Props.C08.polygon_eq_refl_symm_trans
#print axioms G3D.Props.C08.polyhedron_eq_iff_same_set
#print axioms G3D.Props.C08.polyhedron_eq_of_reordered
#print axioms G3D.KTie.Kvec.vectorEq_iff
#print axioms G3D.KTie.Kvec.pointEq_iff
#print axioms G3D.KTie.Kvec.vectorEq_path
#print axioms G3D.KTie.Kvec.pointEq_path
#print axioms G3D.Props.C08.polygon_same_set_same_hash
#print axioms G3D.Props.C08.polyhedron_equal_same_hash
#print axioms G3D.Tie.m_Line___eq___eq
#print axioms G3D.Tie.m_Line___eq___other
#print axioms G3D.Tie.m_Plane___eq___eq
#print axioms G3D.Tie.m_Plane___eq___other
#print axioms G3D.Tie.m_Segment___eq___eq
#print axioms G3D.Tie.m_HalfLine___eq___raw
#print axioms G3D.Tie.m_HalfLine___eq___eq
#print axioms G3D.Tie.m_ConvexPolygon___eq___eq
#print axioms G3D.Tie.m_ConvexPolygon___eq___other
#print axioms G3D.Tie.m_ConvexPolyhedron___eq___eq
#print axioms G3D.Tie.m_ConvexPolyhedron___eq___other
#print axioms G3D.KTie.Khash.hash_Point_tie
#print axioms G3D.KTie.Khash.hash_Point_tuple
#print axioms G3D.KTie.Khash.hash_Point_eq_of_key
#print axioms G3D.KTie.Khash.hash_Point_paths
#print axioms G3D.KTie.Khash.hash_Vector_tie
#print axioms G3D.KTie.Khash.hash_Vector_tuple
#print axioms G3D.KTie.Khash.hash_Vector_paths
#print axioms G3D.KTie.Khash.hash_Plane_tie
#print axioms G3D.KTie.Khash.hash_Plane_key
#print axioms G3D.KTie.Khash.hash_Plane_eq_of_eqv
#print axioms G3D.KTie.Khash.hash_Plane_neg
#print axioms G3D.KTie.Khash.hash_Plane_example
#print axioms G3D.KTie.Khash.hash_Line_tie
#print axioms G3D.KTie.Khash.hash_Line_key
#print axioms G3D.KTie.Khash.hash_Line_eq_of_eqv
#print axioms G3D.KTie.Khash.hash_Line_example
#print axioms G3D.KTie.Khash.hash_Segment_shape
#print axioms G3D.KTie.Khash.hash_Segment_comm
#print axioms G3D.KTie.Khash.hash_Segment_key
#print axioms G3D.KTie.Khash.hash_Segment_eq_of_same
#print axioms G3D.KTie.Khash.hash_HalfLine_shape
#print axioms G3D.KTie.Khash.hash_HalfLine_key
#print axioms G3D.KTie.Khash.hash_HalfLine_eq_of_eqv
#print axioms G3D.KTie.Khash.pointHashSum_ConvexPolygon3_tie
#print axioms G3D.KTie.Khash.hash_ConvexPolygon3_shape
#print axioms G3D.KTie.Khash.hash_ConvexPolygon3_tuple_partial
#print axioms G3D.KTie.Khash.hash_ConvexPolygon3_eq_of_same_partial
#print axioms G3D.KTie.Khash.pointHashSum_ConvexPolygon4_tie
#print axioms G3D.KTie.Khash.hash_ConvexPolygon4_shape
#print axioms G3D.KTie.Khash.hash_ConvexPolygon4_tuple_partial
#print axioms G3D.KTie.Khash.hash_ConvexPolygon4_eq_of_same_partial
#print axioms G3D.KTie.Khash.hashWithNormal_ConvexPolygon3_shape
#print axioms G3D.KTie.Khash.hash_ConvexPolygon3_example
#print axioms G3D.KTie.Khash.polygonHashSum_tetra_tie
#print axioms G3D.KTie.Khash.pointHashSum_tetra_tie
#print axioms G3D.KTie.Khash.hash_ConvexPolyhedron_tetra_shape
#print axioms G3D.KTie.Khash.hash_ConvexPolyhedron_tetra_tuple_partial
#print axioms G3D.KTie.Khash.hash_ConvexPolyhedron_tetra_eq_of_sameB_partial
#print axioms G3D.KTie.Khash.hash_ConvexPolyhedron_pyramid_shape
#print axioms G3D.KTie.Khash.hash_ConvexPolyhedron_pyramid_tuple_partial
#print axioms G3D.KTie.Khash.hash_ConvexPolyhedron_pyramid_eq_of_sameB_partial
#print axioms G3D.KTie.Khash.hash_ConvexPolyhedron_tetra_example
#print axioms G3D.KTie.Khash.planeCtor_n_unitR
#print axioms G3D.KTie.Khash.hash_Plane_ctor_key
#print axioms G3D.KTie.Khash.hash_HalfLine_normalized
#print axioms G3D.KTie.Khash.planeHashRef_key
#print axioms G3D.KTie.Khash.lineHashRef_key
#print axioms G3D.KTie.Khash.polygonHashRef_eq_of_same
#print axioms G3D.KTie.Khash.polyhedronHashRef_eq_of_sameB
#print axioms G3D.Props.C08.polygon_eq_method_iff_same_set
#print axioms G3D.Props.C08.polygon_eq_method_total
#print axioms G3D.Props.C08.polyhedron_eq_method_iff_same_set
#print axioms G3D.Props.C08.polyhedron_eq_method_total
